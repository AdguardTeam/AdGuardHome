/-
Byte-string helpers shared by the models.  A Go `string`/`[]byte` is a
`List Nat` (each element a byte value; theorems quantify over all `Nat`
lists, a superset).  Core Lean only.
-/
namespace AGH

abbrev Bytes := List Nat

namespace Bytes

def ofString (s : String) : Bytes := s.toUTF8.toList.map (·.toNat)

def slash : Nat := 47
def dot : Nat := 46
def dash : Nat := 45
def nl : Nat := 10

def isLowerB (b : Nat) : Bool := decide (97 ≤ b) && decide (b ≤ 122)
def isUpperB (b : Nat) : Bool := decide (65 ≤ b) && decide (b ≤ 90)
def isDigitB (b : Nat) : Bool := decide (48 ≤ b) && decide (b ≤ 57)
def isAlnumB (b : Nat) : Bool := isLowerB b || isUpperB b || isDigitB b

/-- ASCII lower-casing of one byte (`strings.ToLower` on ASCII input). -/
def lowerB (b : Nat) : Nat := if isUpperB b then b + 32 else b
def lower (s : Bytes) : Bytes := s.map lowerB

/-- `strings.Split(s, sep)` for a one-byte separator: always non-empty. -/
def splitOn (sep : Nat) : Bytes → List Bytes
  | [] => [[]]
  | b :: rest =>
    if b = sep then [] :: splitOn sep rest
    else match splitOn sep rest with
      | [] => [[b]]            -- unreachable, splitOn is never empty
      | p :: ps => (b :: p) :: ps

/-- `strings.Join(parts, sep)` for a one-byte separator. -/
def joinWith (sep : Nat) : List Bytes → Bytes
  | [] => []
  | [p] => p
  | p :: ps => p ++ sep :: joinWith sep ps

def hasSuffix (s suf : Bytes) : Bool := suf.isSuffixOf s
def hasPrefix (s pre : Bytes) : Bool := pre.isPrefixOf s

theorem splitOn_ne_nil (sep : Nat) (s : Bytes) : splitOn sep s ≠ [] := by
  induction s with
  | nil => simp [splitOn]
  | cons b rest ih =>
    unfold splitOn
    split
    · simp
    · split <;> simp

theorem joinWith_splitOn (sep : Nat) (s : Bytes) : joinWith sep (splitOn sep s) = s := by
  induction s with
  | nil => simp [splitOn, joinWith]
  | cons b rest ih =>
    unfold splitOn
    split
    · next h =>
      subst h
      have := splitOn_ne_nil b rest
      cases hs : splitOn b rest with
      | nil => exact absurd hs this
      | cons p ps =>
        rw [hs] at ih
        simp [joinWith, ih]
    · cases hs : splitOn sep rest with
      | nil => exact absurd hs (splitOn_ne_nil sep rest)
      | cons p ps =>
        rw [hs] at ih
        cases ps with
        | nil => simp [joinWith] at ih ⊢; exact ih
        | cons q qs => simp [joinWith] at ih ⊢; exact ih

theorem splitOn_no_sep (sep : Nat) (s : Bytes) : ∀ p ∈ splitOn sep s, sep ∉ p := by
  induction s with
  | nil => simp [splitOn]
  | cons b rest ih =>
    unfold splitOn
    split
    · intro p hp
      simp at hp
      rcases hp with rfl | hp
      · simp
      · exact ih p hp
    · next hne =>
      cases hs : splitOn sep rest with
      | nil => exact absurd hs (splitOn_ne_nil sep rest)
      | cons q qs =>
        rw [hs] at ih
        intro p hp
        simp at hp
        rcases hp with rfl | hp
        · have := ih q (by simp)
          simp; exact ⟨fun h => hne h.symm, this⟩
        · exact ih p (by simp [hp])

end Bytes
end AGH
