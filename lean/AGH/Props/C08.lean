/-
C08 — ignored names/clients and un-anonymised addresses never reach the query
log or the statistics.  Property theorems only; helper lemmas live in
AGH/Lemmas/Record*.lean and AGH/Lemmas/Ignore.lean.

All statements are about the executable model of AGH/Model/Record.lean (tied
to the Go code by the correspondence check) and quantify over every state,
configuration, client table, ignore list, query and operation history.
-/
import AGH.Lemmas.RecordStep
import AGH.Lemmas.Ignore
import AGH.Spec.RecordFacts
namespace AGH.C08
open AGH AGH.Bytes

/-- From any configuration the storage accepts, on the tree with the repair
(`fixZone`, see `C08_log_and_stats_same_owner`), along any history of valid
operations (queries, flushes, live changes of both ignore lists, of the
anonymisation switch and of the clients' flags, removals, log searches,
statistics reads), every observable result passes the spec monitor. -/
theorem C08_model_meets_spec (a : ResetArgs) (s0 : State) (h0 : reset a = some s0)
    (hfix : a.fixZone = true)
    (ops : List Op) (hv : ∀ op ∈ ops, op.valid = true) : monitoredRun s0 ops = true := by
  exact monitoredRun_of (reset_inv h0) ((reset_fixZone h0).trans hfix) ops hv

/-- Every reachable state stores only valid canonical addresses (used by the
reporting theorems). -/
theorem C08_reachable_inv (a : ResetArgs) (s0 : State) (h0 : reset a = some s0)
    (ops : List Op) (hv : ∀ op ∈ ops, op.valid = true) : Inv (run s0 ops) :=
  run_inv (reset_inv h0) ops hv

/-- `AnonymizeIP` zeroes the last 16 bits of an IPv4 (also IPv4-mapped) address
and the last 80 bits of an IPv6 address, keeps the length, and is idempotent. -/
theorem C08_anon_mask (a : Bytes) :
    (a.length = 4 ∨ a.length = 16 → masked (canon (anonymize a)) = true) ∧
    (anonymize a).length = a.length ∧
    anonymize (anonymize a) = anonymize a :=
  ⟨masked_canon_anonymize a, anonymize_length a, anonymize_idem a⟩

/-- Bit-exact form: `AnonymizeIP` keeps the first 16 bits of an IPv4 address
(bytes 0-1; for the IPv4-mapped 16-byte form the 12-byte prefix and the same
two bytes) resp. the first 48 bits of an IPv6 address, and every later byte is
zero — for all addresses and all byte positions. -/
theorem C08_anon_exact_bits (a : Bytes) (h : a.length = 4 ∨ a.length = 16) (i : Nat) :
    (a.length = 4 → keepBytes a = 2) ∧
    (is4in6 a = true → keepBytes a = 14) ∧
    (a.length = 16 → is4in6 a = false → keepBytes a = 6) ∧
    (i < keepBytes a → (anonymize a)[i]? = a[i]?) ∧
    (keepBytes a ≤ i → i < a.length → (anonymize a)[i]? = some 0) :=
  ⟨keepBytes_v4, keepBytes_4in6, keepBytes_v6, anonymize_bytes a h i⟩

/-- With anonymisation on, whatever a query adds to the memory buffer or to the
statistics carries a masked address (a statistics key is either the ClientID
or the masked address). -/
theorem C08_anon_recorded_masked (s : State) (q : Query) (hq : q.addr.length = 4 ∨ q.addr.length = 16)
    (ha : s.conf.anon = true) :
    (∀ e ∈ (processQuery s q).mem, e ∈ s.mem ∨ masked e.ip = true) ∧
    (∀ x ∈ grown (processQuery s q).sClients s.sClients, keyMasked x = true) := by
  constructor
  · intro e he
    rcases mem_processQuery.mp he with he | ⟨_, rfl⟩
    · exact Or.inl he
    · exact Or.inr (logEntry_masked ha hq)
  · intro x hx
    rw [grown_processQuery hx]
    exact statKey_masked ha hq

/-- With anonymisation on, every address the log API reports is masked — also
for records that were stored while it was off. -/
theorem C08_anon_reported_masked (a : ResetArgs) (s0 : State) (h0 : reset a = some s0)
    (ops : List Op) (hv : ∀ op ∈ ops, op.valid = true)
    (ha : (run s0 ops).conf.anon = true) :
    ∀ r ∈ searchFull (run s0 ops),
      masked r.entry.ip = true ∧ infoUnmasked r.info = false ∧ r.leak = false := by
  intro r hr
  have hi := C08_reachable_inv a s0 h0 ops hv
  obtain ⟨e, he, _, rfl⟩ := mem_map_kept hr
  exact ⟨report_masked ha (hi e he), reportFull_info_masked hi he ha, rfl⟩

/-- `client_info` is part of a reported record only when anonymising changes
nothing about the stored address (`entIP.Equal(entry.IP)`), and an
address-valued field in it is the text of the stored address itself. -/
theorem C08_client_info_only_for_unchanged_address (s : State) (e : Entry) :
    ((reportFull s e).info.isSome = true → canon (ipMut s.conf.anon e.ip) = e.ip) ∧
    (∀ i a, (reportFull s e).info = some i → i.rule = .ip a → a = e.ip) := by
  refine ⟨fun h => ?_, fun i a => reportFull_info_rule⟩
  obtain ⟨i, hi⟩ := Option.isSome_iff_exists.mp h
  exact (reportFull_info_some hi).1

/-- Runtime client records (rDNS, WHOIS, …) and the access settings never change
an ignore decision: the flag the full client finder — `clientOrArtificial` with
its runtime and artificial branches — hands to `ShouldLog` and to the search is
the one of the persistent-client search alone, for every runtime index and every
access list; and no query or stored record depends on the runtime index. -/
theorem C08_runtime_records_irrelevant (c : Conf) (rt : List RT) (cid a : Bytes) (s : State) (q : Query) :
    ((findFull c rt (idsOf cid a)).map (·.2) == some true) =
      (findMultiple c.clients c.leases (idsOf cid a) == some true) ∧
    (processQuery { s with runtime := rt } q).mem = (processQuery s q).mem ∧
    (processQuery { s with runtime := rt } q).sClients = (processQuery s q).sClients ∧
    (processQuery { s with runtime := rt } q).sDomains = (processQuery s q).sDomains ∧
    search { s with runtime := rt } = search s := by
  refine ⟨findFull_flag c rt cid a, ?_, ?_, ?_, rfl⟩ <;> (rw [processQuery_eq, processQuery_eq]; rfl)

/-- A query for a name on the query-log ignore list leaves the memory buffer
and the file untouched; a query for a name on the statistics ignore list
leaves the statistics untouched. -/
theorem C08_ignored_name_never_recorded (s : State) (q : Query) :
    (Ignore.has s.conf.ignQ (Ignore.normalize q.name) = true →
      (processQuery s q).mem = s.mem ∧ (processQuery s q).file = s.file) ∧
    (Ignore.has s.conf.ignS (Ignore.normalize q.name) = true →
      (processQuery s q).sClients = s.sClients ∧ (processQuery s q).sDomains = s.sDomains) :=
  ⟨fun h => processQuery_not_logged (logCond_false_of_name h),
    fun h => processQuery_not_counted (countCond_false_of_name h)⟩

/-- … for every letter case of the name and with or without the trailing dot:
the decision depends only on the lower-cased name without one final dot. -/
theorem C08_name_normalization (n variant : Bytes) (hne : n ≠ []) (hnd : n.getLast? ≠ some dot)
    (hcase : lower variant = lower n) :
    Ignore.normalize variant = Ignore.normalize n ∧
    Ignore.normalize (variant ++ [dot]) = Ignore.normalize n := by
  refine ⟨Ignore.normalize_eq_of_lower_eq hcase, ?_⟩
  have h1 : lower (variant ++ [dot]) = lower (n ++ [dot]) := by
    simp only [lower, List.map_append] at hcase ⊢
    rw [hcase]
  rw [Ignore.normalize_eq_of_lower_eq h1]
  exact Ignore.normalize_append_dot hne hnd

/-- What "on the ignore list" means for the commonest rule, declaratively: the
list `["||d^"]` (the rule in any letter case) ignores a name of host-name
characters iff the name is `d` or ends in `.d` with something in front — letter
case aside.  (The modelled engine is the one the correspondence check ties to
urlfilter.) -/
theorem C08_domain_rule_ignores_subdomains (d host : Bytes) (hne : d ≠ [])
    (hd : d.all Ignore.isHostCharB = true) (hh : host.all Ignore.isHostCharB = true) :
    Ignore.has [Ignore.domainRule d] host = true ↔
      host ≠ [] ∧ (lower host = lower d ∨
        ∃ p t, host = p ++ dot :: t ∧ p ≠ [] ∧ lower t = lower d) :=
  Ignore.has_domainRule d host hne hd hh

/-- A query from a client marked `ignore_querylog` — the persistent client
identified, for the REAL peer address of the query (zone included), by
ClientID, exact address, narrowest subnet, DHCP MAC, or as the only holder of
that zoned address — is not recorded in the query log, whether anonymisation is
on or off; likewise `ignore_statistics` (the tree as it is: `shouldCountClient`
searches like the query log's finder, `fixZone`). -/
theorem C08_ignored_client_never_recorded (s : State) (q : Query) :
    (fromIgnoredLog s.conf q.cid (canon q.addr) q.zone = true →
      (processQuery s q).mem = s.mem ∧ (processQuery s q).file = s.file) ∧
    (s.conf.fixZone = true → fromIgnoredStat s.conf q.cid (canon q.addr) q.zone = true →
      (processQuery s q).sClients = s.sClients ∧ (processQuery s q).sDomains = s.sDomains) :=
  ⟨fun h => processQuery_not_logged (logCond_false_of_client h),
    fun hz h => processQuery_not_counted (countCond_false_of_client hz h)⟩

/-- With the repair (`shouldCountClient` searches like the query log's finder)
both stores attribute every request to the same client, so their client
decisions can differ only by the two flags of that one client. -/
theorem C08_log_and_stats_same_owner (cs : List PClient) (ls : Leases) (cid a : Bytes) :
    findMultiple cs ls (idsOf cid a) = (modelOwnerL cs ls cid a).map (·.ignLog) ∧
    shouldCountClient true cs ls (idsOf cid a) =
      (match modelOwnerL cs ls cid a with | some c => !c.ignStat | none => true) :=
  ⟨findMultiple_eq cs ls cid a, shouldCountClient_eq true cs ls cid a⟩

/-- fe80::1 -/
def exLinkLocal : Bytes := [254, 128, 0, 0, 0, 0, 0, 0, 0, 0, 0, 0, 0, 0, 0, 1]
/-- a client configured as fe80::1%eth0 with both ignore flags -/
def exZoned : PClient :=
  { name := [122], ignLog := true, ignStat := true, ips := [],
    zips := [(exLinkLocal, [101, 116, 104, 48])], nets := [], macs := [], cids := [] }

/-- Before the repair (c47dc1e) they did not: that code counted the requests of a client
configured as fe80::1%eth0 with both flags set, while the query log ignores
them (witness on the model, reproduced on the real code by
fixes/c08/zoned_client_stats_test.go). -/
theorem C08_counterexample_zoned_client_counted_before_fix :
    findMultiple [exZoned] [] (idsOf [] exLinkLocal) = some true ∧
    shouldCountClient false [exZoned] [] (idsOf [] exLinkLocal) = true ∧
    shouldCountClient true [exZoned] [] (idsOf [] exLinkLocal) = false := by
  decide

/-- The same in plain terms for the commonest case (F4's shape): a query without
ClientID whose real address is an exact-address identifier of some persistent
client, all such clients being flagged, is not logged — for every state of the
anonymisation switch. -/
theorem C08_ignored_exact_ip_client (s : State) (q : Query) (hcid : q.cid = [])
    (hex : ∃ c ∈ s.conf.clients, canon q.addr ∈ c.ips)
    (hall : ∀ c ∈ s.conf.clients, canon q.addr ∈ c.ips → c.ignLog = true) :
    (processQuery s q).mem = s.mem := by
  apply ((C08_ignored_client_never_recorded s q).1 _).1
  rw [hcid]
  exact fromIgnoredLog_exact_ip q.zone hex hall

/-- The code's sequential client search over `[clientID, realIP]` with `Find`
(the statistics' `shouldCountClient` before the repair c47dc1e; the first steps
of `FindLoose`, which both searches use since) is sound and complete for the
declarative owner set: it finds a client iff one is identified, and the one it
finds is identified at the strongest level present.  Without zoned identifiers
`FindLoose` finds the same. -/
theorem C08_finder_agrees_with_precedence (cs : List PClient) (ls : Leases) (cid a : Bytes) :
    (∀ c, modelOwner cs ls cid a = some c → c ∈ ownersAt cs ls cid a) ∧
    (ownersAt cs ls cid a ≠ [] → ∃ c, modelOwner cs ls cid a = some c) ∧
    (∀ loose, shouldCountClient loose cs ls (idsOf cid a) =
      (match statOwner loose cs ls cid a with | some c => !c.ignStat | none => true)) ∧
    ((∀ p ∈ cs, p.zips = []) → ∀ loose, statOwner loose cs ls cid a = modelOwner cs ls cid a) :=
  ⟨fun _ h => modelOwner_mem h, modelOwner_isSome, fun l => shouldCountClient_eq l cs ls cid a,
    fun hz loose => statOwner_of_no_zips hz loose ls cid a⟩

/-- Nothing but a query adds a record: every other operation — flush, restart
(shutdown flush + start on the same directory), rotation, storing a statistics
unit in stats.db, configuration changes, reads — leaves the records held in
log file and memory buffer together, and the statistics tables held in
stats.db and the memory unit together, exactly as they were. -/
theorem C08_only_queries_record (s : State) (op : Op) (h : ∀ q, op ≠ .query q) :
    (step s op).1.file ++ (step s op).1.mem = s.file ++ s.mem ∧
    (step s op).1.dClients ++ (step s op).1.sClients = s.dClients ++ s.sClients ∧
    (step s op).1.dDomains ++ (step s op).1.sDomains = s.dDomains ++ s.sDomains :=
  step_stores s op h

/-- A query itself never writes to disk: the log file and stats.db change only
through flush / restart and through storing a unit, which (previous theorem)
only move what memory already holds. -/
theorem C08_query_never_writes_disk (s : State) (q : Query) :
    (processQuery s q).file = s.file ∧ (processQuery s q).dClients = s.dClients ∧
    (processQuery s q).dDomains = s.dDomains := by
  rw [processQuery_eq]
  exact ⟨rfl, rfl, rfl⟩

/-- History form of "never recorded, neither in memory nor on disk": after any
history, every record held in the file or in the memory buffer either was
there at the start or is the record of a query of the history which, in the
configuration in force when it was processed, was neither for an ignored name
nor from an ignored client. -/
theorem C08_every_stored_record_justified (ops : List Op) (s : State) :
    ∀ e ∈ (run s ops).file ++ (run s ops).mem,
      e ∈ s.file ++ s.mem ∨
      ∃ pre q post, ops = pre ++ Op.query q :: post ∧ RecordedBy (run s pre) q e := by
  fun_induction run s ops with
  | case1 s => intro e he; exact Or.inl he
  | case2 s op rest ih =>
    intro e he
    rcases ih e he with h | ⟨pre, q, post, hops, hrec⟩
    · rcases mem_step (List.mem_append.mpr (List.mem_append.mp h).symm) with h | ⟨q, rfl, hc, rfl⟩
      · exact Or.inl (List.mem_append.mpr (List.mem_append.mp h).symm)
      · -- the record of `q` itself: logged, hence neither name nor client ignored
        refine Or.inr ⟨[], q, rest, rfl, rfl, ?_, ?_⟩
        · cases hn : nameIgnoredLog s.conf q.name
          · exact hn
          · rw [logCond_false_of_name hn] at hc; cases hc
        · cases hn : fromIgnoredLog s.conf q.cid (canon q.addr) q.zone
          · exact hn
          · rw [logCond_false_of_client hn] at hc; cases hc
    · exact Or.inr ⟨op :: pre, q, post, by rw [hops]; rfl, hrec⟩

/-- Every record the log API returns — from the memory buffer or from the file —
is the report of a stored record whose name is not on the CURRENT ignore list
and whose client (by the stored ClientID and address) is not CURRENTLY marked
`ignore_querylog`. -/
theorem C08_search_refilters (s : State) :
    ∀ r ∈ search s, ∃ e ∈ s.mem ++ s.file, r = report s.conf e ∧
      Ignore.has s.conf.ignQ e.name = false ∧ fromIgnoredLog s.conf e.cid e.ip = false := by
  intro r hr
  obtain ⟨e, he, hk, rfl⟩ := mem_map_kept hr
  obtain ⟨hn, hc⟩ := keeps_sound hk
  exact ⟨e, he, rfl, hn, hc⟩

/-- Over the call-site tables regenerated from internal/dnsforward on every run:
every `QueryLog.Add` / `stats.Update` is reached only through `logQuery` /
`updateStats`, these only under `if s.shouldLog(…, ids)` / `if
s.shouldCountStat(…, ids)` in `processQueryLogsAndStats`; the single anonymizer
call on `ip` comes after `realIPStr` is taken and before `ipStr`, both
decisions and both records; `ids` is made of `realIPStr` and `dctx.clientID`
only. -/
theorem C08_record_calls_dominated :
    Facts.ok Gen.C08.calls Gen.C08.idsOperands Gen.C08.idsAssignments Gen.C08.realIPStrPos
      Gen.C08.ipStrPos = true := by
  decide +kernel

/-- Over the facts regenerated from internal/home on every run: the anonymizer is
constructed once and that one instance reaches both the query log (whose
config handlers switch it at run time) and the DNS server (which applies it
before anything is recorded). -/
theorem C08_gen_single_anonymizer :
    Facts.singleAnonymizer Gen.C08.anonymizerCalls Gen.C08.anonymizerToQueryLog
      Gen.C08.anonymizerToServer = true := by
  decide +kernel

/-- Over the facts regenerated from internal/home on every run: the three client
callbacks (`findMultiple`, `clientOrArtificial`, `shouldCountClient`) exist and
none of them merely TRIES a lock — under contention they wait and then look the
client up, they never guess. -/
theorem C08_gen_finders_always_look_up :
    (Gen.C08.finderFuncs == 3 && Gen.C08.finderTryLocks == 0) = true := by
  decide +kernel

section Examples

def exClient : PClient :=
  { name := [99], ignLog := true, ignStat := true, ips := [[192, 168, 1, 5]], nets := [], macs := [], cids := [] }

/-- "||tracker.io^" -/
def exRule : Bytes := [124, 124, 116, 114, 97, 99, 107, 101, 114, 46, 105, 111, 94]
/-- "ADS.Tracker.IO." -/
def exName : Bytes := [65, 68, 83, 46, 84, 114, 97, 99, 107, 101, 114, 46, 73, 79, 46]

def exConf : Conf :=
  { anon := true, refuseAny := false, qlogOn := true, statsOn := true,
    ignQ := [exRule], ignS := [], clients := [exClient], leases := [] }

def exState : State := { conf := exConf, mem := [], file := [], sClients := [], sDomains := [] }

/-- F4's witness: with anonymisation on, client 192.168.1.5 is still found ignored. -/
example : fromIgnoredLog exConf [] (canon [192, 168, 1, 5]) = true := by decide +kernel
/-- … also when the query arrives from the IPv4-mapped form of the address. -/
example : fromIgnoredLog exConf [] (canon [0, 0, 0, 0, 0, 0, 0, 0, 0, 0, 255, 255, 192, 168, 1, 5]) = true := by decide +kernel
/-- A neighbour in the same /16 is not ignored, is recorded, and is recorded masked. -/
example : (processQuery exState { name := [97, 46], qtype := 1, addr := [192, 168, 1, 6], cid := [] }).mem =
    [{ name := [97], ip := [192, 168, 0, 0], cid := [] }] := by decide +kernel
/-- The ignore list matches a subdomain in any letter case with the trailing dot. -/
example : Ignore.has exConf.ignQ (Ignore.normalize exName) = true := by decide +kernel
/-- … and does not match a name that merely ends in the same letters. -/
example : Ignore.has exConf.ignQ (Ignore.normalize [120, 116, 114, 97, 99, 107, 101, 114, 46, 105, 111]) = false := by decide +kernel
/-- A plain name on the list is exact: "example.org" ignores example.org, not www.example.org. -/
example : Ignore.has [[101, 120, 97, 109, 112, 108, 101, 46, 111, 114, 103]]
      [101, 120, 97, 109, 112, 108, 101, 46, 111, 114, 103] = true ∧
    Ignore.has [[101, 120, 97, 109, 112, 108, 101, 46, 111, 114, 103]]
      [119, 119, 119, 46, 101, 120, 97, 109, 112, 108, 101, 46, 111, 114, 103] = false := by decide +kernel
/-- The root rule `|.^` matches the root name only. -/
example : Ignore.has [[124, 46, 94]] (Ignore.normalize [46]) = true ∧
    Ignore.has [[124, 46, 94]] (Ignore.normalize [97, 46]) = false := by decide +kernel

def exObj : ClientObj := { name := [99], ignLog := true, ignStat := true, ids := [CID.ip [192, 168, 1, 5]] }

def exArgs : ResetArgs :=
  { anon := true, refuseAny := false, qlogOn := true, statsOn := true,
    ignQ := [exRule], ignS := [], clients := [exObj], leases := [] }

/-- The hypotheses of `C08_model_meets_spec` are satisfiable by a non-trivial table. -/
example : reset exArgs = some exState := rfl

end Examples

end AGH.C08
