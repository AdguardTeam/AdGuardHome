/-
C13 — config upgrade: never panics, an error leaves the file alone, a produced
document is stamped with the requested version, a current file is left alone,
the result does not depend on partial runs, settings a step does not concern
are preserved at every depth.

The lemmas are in AGH/Lemmas/Migrate*.lean, except `allRes_modelObs` and
`splitRun_of_reread`, which rest on the theorems before them.  All statements
quantify over every document, every oracle (library result), every
current and target version.  `DocLike` is the type guarantee of
`yaml.Unmarshal(body, &yobj{})`: no document (parse error), a nil map (null
document) or a map.

Independence from partial runs (`C13_path_independent`) is proved for every
document that is `ReencodeStable` — a decidable predicate over the shipped
round-trip oracle that excludes exactly what the known finding is made of (a
scalar whose re-encoding changes its type, e.g. an integral float; see
`C13_counterexample_path_float`).  The Go-typed values that steps 12, 20, 28, 29
leave in the map are handled in the proof (`inv`, `step_alike`), not
assumed away.  Preservation (`C13_frame_step`, `C13_frame`, `C13_frame_paths`)
is unconditional and reaches every depth the steps touch, elements of
sequences included.  `C13_model_meets_spec` states that the model satisfies the
whole monitor `specWhy` on `ReencodeStable` cases.  The loader-acceptance clause
is in `Props/C13Loader.lean`.  The block before the examples holds the obligations over the
facts regenerated from the Go source on every run.
-/
import AGH.Lemmas.MigratePath
import AGH.Model.MigrateSig
import AGH.Gen.C13Facts
namespace AGH.C13
open AGH

/-- `Migrate` before the encoding does not panic. -/
theorem C13_total_mem (o : Oracles) (es : List (Key × YVal)) (target : Nat) (p : PanicK) (s : Nat) :
    migrateMem o (some (.obj es)) target ≠ .panic p s :=
  migrateMem_cases (Q := (· ≠ .panic p s)) o es target (fun _ => nofun) (fun _ _ => nofun)
    (fun _ _ _ _ _ _ => nofun) nofun fun _ _ _ _ _ _ _ _ _ => nofun

/-- **No panic.**  For every document `yaml.Unmarshal` can produce, every target
and every library result, `Migrate` does not panic. -/
theorem C13_total (o : Oracles) (parsed : Option YVal) (target : Nat) (h : DocLike parsed) :
    ∀ p s, migrate o parsed target ≠ .panic p s :=
  fun p s => migrate_docLike_cases (Q := (· ≠ .panic p s)) o target h (fun h => nomatch h)
    fun es hp => C13_total_mem o es target p s (migrate_eq_panic.mp hp)

/-- **Stamped.**  A document `Migrate` produces carries the requested version. -/
theorem C13_stamped (o : Oracles) (parsed : Option YVal) (target : Nat) (d : YVal) (hd : DocLike parsed)
    (h : migrate o parsed target = .up d) : getK d kSchemaVersion = some (.int target) := by
  obtain ⟨es, rfl, hs⟩ := migrate_up_obj o parsed target d hd h
  exact hs

/-- **Settings a step does not concern are preserved** (top level): every
top-level key outside the keys named by the steps that ran has, in the produced
document, the value it had (as YAML writes it back). -/
theorem C13_frame_top (o : Oracles) (es : List (Key × YVal)) (target cur : Nat) (d : YVal)
    (hv : versionOf (.obj es) = some cur) (h : migrate o (some (.obj es)) target = .up d) :
    ∀ k, k ∉ topKeys (touchedRange (target - cur) cur) → getK d k = (lookup k es).bind (reparse o) := by
  intro k hk
  obtain ⟨d0, hm, hr⟩ := migrate_eq_up.mp h
  obtain ⟨cur', hv', hlt, h29, _, ho, _, hf⟩ := migrateMem_up o es target d0 hm
  obtain rfl : cur' = cur := Option.some.inj (hv'.symm.trans hv)
  rw [(reparse_getK ho hr).2, hf.top (touchedRange_keyed _ _ (by omega)) hk]
  rfl

/-- **Upgrading an already current file changes nothing.** -/
theorem C13_current_noop (o : Oracles) (es : List (Key × YVal)) (target : Nat)
    (hv : versionOf (.obj es) = some target) (h29 : target ≤ 29) :
    migrate o (some (.obj es)) target = .same := by
  rw [migrate_eq_same, migrateMem_of_version o target hv, if_neg (Nat.lt_irrefl _), if_neg (by omega), if_pos rfl]

/-- **It either fails with an error or produces a document**: a real upgrade
(`cur < target ≤ 29`) never reports "nothing to do". -/
theorem C13_error_or_upgraded (o : Oracles) (es : List (Key × YVal)) (target cur : Nat)
    (hv : versionOf (.obj es) = some cur) (hlt : cur < target) :
    migrate o (some (.obj es)) target ≠ .same := by
  intro h
  have hv' := migrate_same_version o es target h
  rw [hv] at hv'
  cases hv'
  omega

/-- **An error leaves the file content unchanged** (and `upgraded = false` means
the returned body is the input), for any YAML codec. -/
theorem C13_wrapper {β : Type} (o : Oracles) (decode : β → Option YVal) (encode : YVal → β)
    (body : β) (target : Nat) (r : Ret β) (h : migrateBody o decode encode body target = some r) :
    (r.err.isSome → r.body = body ∧ r.upgraded = false) ∧ (r.upgraded = false → r.body = body) := by
  unfold migrateBody at h
  cases hm : migrateMem o (decode body) target <;> rw [hm] at h <;> simp at h <;> subst h <;> simp

/-- The step an error is attributed to is one of the steps that were to run. -/
theorem C13_error_step (o : Oracles) (es : List (Key × YVal)) (target : Nat) (k : ErrK) (s : Nat)
    (h : migrate o (some (.obj es)) target = .err k s) :
    s = 0 ∨ ∃ cur, versionOf (.obj es) = some cur ∧ cur < s ∧ s ≤ target := by
  rw [migrate_eq_err] at h
  revert h
  refine migrateMem_cases (Q := fun r => r = .err k s → _) o es target (fun _ h => ?_) (fun _ _ => nofun)
    (fun cur _ _ hv hlo hhi h => ?_) nofun fun _ _ _ _ _ _ _ _ _ => nofun
  · cases h
    exact .inl rfl
  · cases h
    exact .inr ⟨cur, hv, hlo, hhi⟩

/-- **No panic in partial runs either**: upgrading to `k` and then, from the
re-read file, to `target` does not panic at any stage. -/
theorem C13_total_split (o : Oracles) (parsed : Option YVal) (target k : Nat) (h : DocLike parsed) :
    ∀ p s, (splitRun o parsed target k).2 ≠ .panic p s :=
  fun p s => splitRun_cases (Q := (· ≠ .panic p s)) o target k h (fun p' h' => C13_total o p' target h' p s)
    (fun _ _ => nofun) fun _ _ hr => hr ▸ C13_total o parsed k h p s

theorem allRes_modelObs (o : Oracles) (c : Case) (hd : DocLike c.parsed) :
    ∀ x ∈ allRes (modelObs o c), ∃ r : Outcome, x = r.toRes ∧ ∀ p s, r ≠ .panic p s := by
  intro x hx
  simp only [allRes, modelObs, modelOutcomes, List.mem_cons, List.mem_append, List.mem_map] at hx
  rcases hx with rfl | hx | ⟨a, ⟨b, ⟨k, _, rfl⟩, rfl⟩, rfl⟩
  · exact ⟨_, rfl, C13_total o c.parsed c.target hd⟩
  · cases hst : c.stepTarget with
    | none => simp [hst] at hx
    | some t =>
      simp [hst] at hx
      exact ⟨_, hx, C13_total o c.parsed t hd⟩
  · exact ⟨_, rfl, C13_total_split o c.parsed c.target k hd⟩

/-- **The model satisfies the spec's core clauses on every case**: in the model's
own observation of one run, the single-step run and every partial-run pair, nothing
panics, errors leave the file unchanged, every produced document carries the
requested stamp, a current file is left alone and a real upgrade fails or produces
a document.  (The partial-run and the nested preservation clauses of `specWhy` are
`C13_model_meets_spec_path` and `C13_model_meets_spec_frame`.) -/
theorem C13_model_meets_spec_core (o : Oracles) (c : Case) (hd : DocLike c.parsed) :
    coreWhy c (modelObs o c) = none := by
  have hpan : firstSome Res.panicWhy (allRes (modelObs o c)) = none :=
    firstSome_none _ _ fun x hx => by
      obtain ⟨r, rfl, hr⟩ := allRes_modelObs o c hd x hx
      exact toRes_panicWhy r hr
  have hwrap : (allRes (modelObs o c)).all Res.wrapperOK = true :=
    List.all_eq_true.mpr fun x hx => by
      obtain ⟨r, rfl, _⟩ := allRes_modelObs o c hd x hx
      exact toRes_wrapperOK r
  have hstamp2 : (modelObs o c).splits.all (fun s => s.2.stampOK c.target) = true := by
    rw [List.all_eq_true]
    intro x hx
    simp only [modelObs, modelOutcomes, List.mem_map] at hx
    obtain ⟨b, ⟨k, _, rfl⟩, rfl⟩ := hx
    exact splitRun_stampOK o c.parsed c.target k hd
  have hstamp : stampsOK c (modelObs o c) = true := by
    unfold stampsOK
    rw [hstamp2, show (modelObs o c).one.stampOK c.target = true from migrate_stampOK o c.parsed c.target hd]
    cases hst : c.stepTarget with
    | none => simp
    | some t => simp [modelObs, modelOutcomes, hst]; exact migrate_stampOK o c.parsed t hd
  unfold coreWhy
  simp only [hpan, hwrap, hstamp, Bool.not_true, Bool.false_eq_true, if_false]
  cases hcv : caseVersion c with
  | none => rfl
  | some dc =>
    obtain ⟨din0, cur⟩ := dc
    obtain ⟨_, _, h29, es, hves, _, hmig, _⟩ := caseVersion_some hd hcv
    have hone : (modelObs o c).one = (migrate o (some (.obj es)) c.target).toRes := by
      simp only [modelObs, modelOutcomes, hmig]
    dsimp only
    rw [hone]
    by_cases heq : cur = c.target
    · rw [C13_current_noop o es c.target (heq ▸ hves) h29]
      simp [heq, Outcome.toRes]
    · have hne := C13_error_or_upgraded o es c.target cur hves (by omega)
      rw [if_neg (by simpa using heq)]
      cases hm : migrate o (some (.obj es)) c.target <;> simp [Outcome.toRes]
      exact hne hm

/-- A run in two parts, split where the single run succeeds as far as `k`, gives the single run's
answer as soon as reading back what the first part wrote (`d1` for `dk`) makes no difference to the rest. -/
theorem splitRun_of_reread (o : Oracles) {es : List (Key × YVal)} {cur k target : Nat} {dk d1 : YVal}
    (hv : versionOf (.obj es) = some cur) (hck : cur < k) (hkt : k < target) (h29 : target ≤ 29)
    (hk : upgrade o (k - cur) cur (.obj es) = .ok dk) (hr : reparse o dk = some d1)
    (hB : migrate o (some d1) target = migrate o (some dk) target) :
    splitRun o (some (.obj es)) target k = (2, migrate o (some (.obj es)) target) := by
  obtain ⟨esk, rfl, hsk⟩ := upgrade_stamped o hck (by omega) hk
  have hvk := versionOf_of_stamp hsk
  have h1 : migrate o (some (.obj es)) k = .up d1 :=
    migrate_eq_up.mpr ⟨_, by rw [migrateMem_run o hv hck (by omega), hk]; rfl, hr⟩
  -- the single run goes on from `esk`
  have hA : migrate o (some (.obj es)) target = migrate o (some (.obj esk)) target := by
    unfold migrate
    rw [migrateMem_split o hv hck hkt h29, hk, migrateMem_run o hvk hkt h29]
  rw [splitRun_of_up h1 (hB ▸ C13_error_or_upgraded o esk target k hvk hkt), hB, hA]

/-- **Independence from partial runs, under an explicit hypothesis.**  If the
document in memory after the steps up to `k` is read back unchanged after being
written (`reparse o dk = some dk`: no step so far left a Go-typed value in the
map and no scalar changes its type when re-encoded), then upgrading to `k`,
re-reading the file and upgrading to `target` gives exactly the result of the
single run — same document, same error, same failing step.  So the result can
depend on partial runs only through a value that re-encoding changes; the
unconditional statement is false (`C13_counterexample_path_float`), and
`C13_path_independent` does without the hypothesis for every `ReencodeStable`
document, the Go-typed values of steps 12, 20, 28 and 29 included. -/
theorem C13_path_independent_partial (o : Oracles) (es : List (Key × YVal)) (cur k target : Nat) (dk : YVal)
    (hv : versionOf (.obj es) = some cur) (hck : cur < k) (hkt : k < target) (h29 : target ≤ 29)
    (hk : upgrade o (k - cur) cur (.obj es) = .ok dk) (hgen : reparse o dk = some dk) :
    splitRun o (some (.obj es)) target k = (2, migrate o (some (.obj es)) target) :=
  splitRun_of_reread o hv hck hkt h29 hk hgen rfl

/-- **Independence from partial runs.**  For every document that holds no scalar whose
re-encoding changes its type (`ReencodeStable`, decidable over the shipped round-trip
oracle: it excludes exactly what the known finding is made of, e.g. an integral
float) and every split point `cur ≤ k ≤ target ≤ 29`: upgrading to `k`, writing the
file, reading it back and upgrading to `target` gives exactly the result of the single
run — the same document, or the same error at the same step.  The Go-typed values that
steps 12, 20, 28 and 29 leave in the map (`timeutil.Duration`, `UpstreamMode`,
`[]string`) are part of the proof: `inv` states where they may sit, and every step keeps
it and asks for no string or sequence there (`step_alike`). -/
theorem C13_path_independent (o : Oracles) (es : List (Key × YVal)) (cur k target : Nat)
    (hv : versionOf (.obj es) = some cur) (hck : cur ≤ k) (hkt : k ≤ target) (h29 : target ≤ 29)
    (hst : ReencodeStable o (.obj es) = true) (hf : FmtTotal o) :
    (splitRun o (some (.obj es)) target k).2 = migrate o (some (.obj es)) target := by
  by_cases hk0 : cur = k
  · -- nothing to do in the first run
    subst hk0
    simp [splitRun, C13_current_noop o es cur hv (Nat.le_trans hkt h29)]
  have hck' : cur < k := Nat.lt_of_le_of_ne hck hk0
  have hk29 : k ≤ 29 := Nat.le_trans hkt h29
  have hm1 := migrateMem_run o hv hck' hk29
  by_cases hkt0 : k = target
  · -- nothing to do in the second run
    subst hkt0
    unfold splitRun
    cases h1 : migrate o (some (.obj es)) k with
    | up d1 =>
      obtain ⟨es1, rfl, hs1⟩ := migrate_up_obj o (some (.obj es)) k d1 trivial h1
      dsimp only
      rw [C13_current_noop o es1 k (versionOf_of_stamp hs1) h29]
    | _ => rfl
  have hkt' : k < target := Nat.lt_of_le_of_ne hkt hkt0
  have hsplit := migrateMem_split o hv hck' hkt' h29
  cases hup : upgrade o (k - cur) cur (.obj es) with
  | error fs =>
    -- the first run fails: so does the single run, at the same step
    rw [hup] at hm1 hsplit
    have e1 := migrate_of_error hm1
    rw [migrate_of_error hsplit]
    unfold splitRun
    rw [e1]
    obtain ⟨f, s⟩ := fs
    cases f <;> rfl
  | ok dk =>
    obtain ⟨esk, rfl, hsk⟩ := upgrade_stamped o hck' hk29 hup
    have hik : inv o (.obj esk) = true :=
      upgrade_inv o ((Nat.add_sub_cancel' hck).symm ▸ hk29) (inv_of_clean o es hst) hup
    -- the second partial run starts from what is read back of `esk`
    exact congrArg Prod.snd (splitRun_of_reread o hv hck' hkt' h29 hup (reparse_inv o hf _ hik)
      (migrate_reread o hf hik hsk hkt' h29))

/-- **The model never raises the monitor's `path-dependent` alarm** outside the known class:
on every case whose document is `ReencodeStable`, the partial-run clause of the spec holds
of the model's own observation, for every list of split points. -/
theorem C13_model_meets_spec_path (o : Oracles) (c : Case) (hd : DocLike c.parsed) (hf : FmtTotal o)
    (hst : ∀ d, c.parsed = some d → ReencodeStable o d = true) :
    pathWhy o c (modelObs o c) = none := by
  generalize hobs : modelObs o c = obs
  fun_cases pathWhy o c obs with
  | case1 | case2 | case4 => rfl
  | case3 din0 cur hcv heq hbad =>
    -- the only alarm: some split point in range disagrees with the single run
    obtain ⟨hp, hle, h29, es, hves, hre, hmig, hsplit⟩ := caseVersion_some hd hcv
    have hstes := (hre o (hst _ hp)).1
    subst hobs
    rw [Bool.not_eq_true', ← Bool.not_eq_true] at hbad
    refine absurd ?_ hbad
    simp only [modelObs, modelOutcomes, List.map_map]
    rw [zip_map_all, List.all_eq_true]
    intro k _
    by_cases h1 : k < cur
    · simp [h1]
    · by_cases h2 : k > c.target
      · simp [h2]
      · have hpi := C13_path_independent o es cur k c.target hves (by omega) (by omega) h29 hstes hf
        simp only [Function.comp, hsplit, hpi, hmig, h1, h2, decide_false, Bool.false_or]
        cases hm : migrate o (some (.obj es)) c.target with
        | up d => simp [Outcome.toRes, splitOK, YVal.beq_iff]
        | panic p s => exact absurd hm (C13_total o (some (.obj es)) c.target trivial p s)
        | _ => simp [Outcome.toRes, splitOK]

/-- **Frame of one step**, unconditionally (every document, every oracle): what is read back of
the result of `migrateTo<n>` differs from what is read back of its input only on the paths
`touched n` — below the top level too (fields of `dns`, `dhcp`, `querylog`, …, of every element
of `clients` / `clients.persistent`), and no key appears that the step does not concern. -/
theorem C13_frame_step (o : Oracles) (n : Nat) (h1 : 1 ≤ n) (h29 : n ≤ 29) (es : List (Key × YVal)) (d : YVal)
    (h : step o n (.obj es) = .ok d) :
    frameOK (touched n) (er o (.obj es)) (some (er o d)) = true :=
  frameV_er o ((step_ok o n h1 h29 (isObj_obj es)).elim h).2.2

/-- **Frame of `upgradeConfigSchema`**: the steps `cur+1 … cur+cnt` together change only what
one of them concerns. -/
theorem C13_frame (o : Oracles) (cnt cur : Nat) (h29 : cur + cnt ≤ 29) (es : List (Key × YVal)) (d : YVal)
    (h : upgrade o cnt cur (.obj es) = .ok d) :
    frameOK (touchedRange cnt cur) (er o (.obj es)) (some (er o d)) = true :=
  frameV_er o ((upgrade_ok o cnt cur h29 (isObj_obj es)).elim h).2.2

/-- **`path ∉ touched ⇒ get path (step d) = get path d`**: every path of keys that is not on a
branch with a path the step concerns reads the same before and after the step. -/
theorem C13_frame_paths (o : Oracles) (n : Nat) (h1 : 1 ≤ n) (h29 : n ≤ 29) (es : List (Key × YVal)) (d : YVal)
    (h : step o n (.obj es) = .ok d) (ks : List Key)
    (hd : ∀ q ∈ touched n, onBranch q (ks.map pk) = false) :
    getKeys (er o d) ks = getKeys (er o (.obj es)) ks :=
  frameV_getKeys (touched n) _ _ (C13_frame_step o n h1 h29 es d h) ks hd

/-- **Frame as the monitor sees it**: for a `ReencodeStable` file, the document `Migrate`
produces differs from the decoded input only on the paths the executed steps concern. -/
theorem C13_frame_observed (o : Oracles) (es : List (Key × YVal)) (target : Nat) (d : YVal)
    (hst : ReencodeStable o (.obj es) = true) (hf : FmtTotal o) (h : migrate o (some (.obj es)) target = .up d) :
    ∃ cur, versionOf (.obj es) = some cur ∧
      frameOK (touchedRange (target - cur) cur) (.obj es) (some d) = true := by
  obtain ⟨dm, hm, hr⟩ := migrate_eq_up.mp h
  obtain ⟨cur, hv, hlt, h29, hu, _, _, hfr⟩ := migrateMem_up o es target dm hm
  have hi := upgrade_inv o (by omega) (inv_of_clean o es hst) hu
  rw [reparse_inv o hf _ hi] at hr
  cases hr
  replace hfr := frameV_er o hfr
  rw [er_of_clean o _ hst] at hfr
  exact ⟨cur, hv, hfr⟩

/-- **The model never raises the monitor's `setting-lost` alarms** outside the known class. -/
theorem C13_model_meets_spec_frame (o : Oracles) (c : Case) (hd : DocLike c.parsed) (hf : FmtTotal o)
    (hst : ∀ d, c.parsed = some d → ReencodeStable o d = true) :
    frameWhy o c (modelObs o c) = none := by
  unfold frameWhy
  cases hcv : caseVersion c with
  | none => rfl
  | some dc =>
    obtain ⟨din0, cur⟩ := dc
    obtain ⟨hp, _, _, es, hves, hre, hmig, _⟩ := caseVersion_some hd hcv
    have hstes := hre o (hst _ hp)
    have hfr : ∀ t d, migrate o (some (.obj es)) t = .up d →
        frameV (touchedRange (t - cur) cur) [] (.obj es) (some d) = true := by
      intro t d hm
      obtain ⟨cur', hv2, hfr⟩ := C13_frame_observed o es t d hstes.1 hf hm
      obtain rfl : cur' = cur := Option.some.inj (hv2.symm.trans hves)
      exact hfr
    dsimp only
    by_cases heq : (cur == c.target) = true
    · simp [heq]
    · simp only [heq, Bool.false_eq_true, if_false, hstes.2]
      have hstep : stepFrameBad c (modelObs o c) cur (.obj es) = false := by
        unfold stepFrameBad
        cases hst' : c.stepTarget with
        | none => rfl
        | some t =>
          simp only [modelObs, modelOutcomes, hst', hmig, Option.map]
          cases hm : migrate o (some (.obj es)) t with
          | up d =>
            simp only [Outcome.toRes]
            by_cases ht : t = cur + 1
            · have := hfr t d hm
              subst ht
              rw [Nat.add_sub_cancel_left] at this
              simp only [touchedRange, List.append_nil] at this
              simp [frameOK, this]
            · simp [ht]
          | _ => simp [Outcome.toRes]
      have hone : oneFrameBad c (modelObs o c) cur (.obj es) = false := by
        unfold oneFrameBad
        simp only [modelObs, modelOutcomes, hmig]
        cases hm : migrate o (some (.obj es)) c.target with
        | up d => simp [Outcome.toRes, frameOK, hfr _ d hm]
        | _ => simp [Outcome.toRes]
      simp [hstep, hone]

/-- **The model satisfies the whole spec**: on every case whose document `yaml.Unmarshal` can
produce and that is `ReencodeStable` (the known finding excluded), every clause of the monitor
`specWhy` — no panic, error leaves the file, stamp, no-op, error-or-document, one run or
partial runs, settings preserved at every depth — holds of the model's own observation.  So an
alarm of the monitor on behaviour that agrees with the model is impossible outside that class. -/
theorem C13_model_meets_spec (o : Oracles) (c : Case) (hd : DocLike c.parsed) (hf : FmtTotal o)
    (hst : ∀ d, c.parsed = some d → ReencodeStable o d = true) :
    specOK o c (modelObs o c) = true := by
  simp [specOK, specWhy, C13_model_meets_spec_core o c hd, C13_model_meets_spec_path o c hd hf hst,
    C13_model_meets_spec_frame o c hd hf hst]

/-- Oracles of the witness: `86400.0` is written back as `86400`. -/
def floatOracles : Oracles :=
  { fmtDays := fun _ => some [], fmtHours := fun _ => some [], addrOK := fun _ => none,
    addrPort := fun _ _ => none, quic := fun _ => none, ufPattern := [],
    rt := fun _ _ => some (.int 86400) }

/-- `schema_version: 5`, `dhcp: {lease_duration: 86400.0}` -/
def floatDoc : YVal :=
  .obj [(kSchemaVersion, .int 5), (kDhcp, .obj [(kLeaseDuration, .opaque 1 [])])]

/-- **Counterexample to independence from partial runs** (model and code agree on
it): in one run the upgrade to 29 fails at step 7 ("unexpected type float64"),
after a partial run to 6 it succeeds. -/
theorem C13_counterexample_path_float :
    migrate floatOracles (some floatDoc) 29 = .err .type 7 ∧
    ∃ d, splitRun floatOracles (some floatDoc) 29 6 = (2, .up d) := by
  refine ⟨rfl, _, rfl⟩

/-! ### Obligations over the facts regenerated from the Go source (translator tie)

`AGH/Gen/C13Facts.lean` is rewritten from `internal/configmigrate` on every run;
the statements below are re-checked against what the code says now. -/

/-- The step table of `upgradeConfigSchema` is complete and in order:
`upgrades[i]` is `migrateTo<i+1>` for `i = 0 … LastSchemaVersion-1`, and
`LastSchemaVersion` is the model's. -/
theorem C13_gen_step_table :
    Gen.C13.lastSchemaVersion = lastSchemaVersion ∧
    Gen.C13.stepTable = (List.range Gen.C13.lastSchemaVersion).map (fun i => (i, i + 1)) := by
  decide +kernel

/-- Every `migrateTo<N>` writes the stamp exactly once, as its first statement,
with the value `N`; no other function assigns it; and no `moveVal`, `moveSameVal`
or `delete` names that key. -/
theorem C13_gen_stamps :
    Gen.C13.stamps = (List.range Gen.C13.lastSchemaVersion).map (fun i => (i + 1, 0, i + 1)) ∧
    (∀ a ∈ Gen.C13.accesses, a.2.1 ≠ 0 → a.2.2.2.1 ≠ kSchemaVersion ∧ a.2.2.2.2 ≠ kSchemaVersion) ∧
    (∀ d ∈ Gen.C13.deletes, d.2 ≠ kSchemaVersion) := by
  decide +kernel

/-- Every typed read uses a type a decoded YAML value can have (`int`, `string`,
`bool`, `yobj`, `yarr`, `any`, or the helper's own type parameter): no step
depends on a Go-typed value left in the map by an earlier step. -/
theorem C13_gen_reads_generic : ∀ a ∈ Gen.C13.accesses, a.2.2.1 ≤ 5 ∨ a.2.2.1 = 7 := by
  decide +kernel

/-- The reads, moves, deletes and key lists of the Go source are exactly the
ones the model was written against. -/
theorem C13_gen_accesses :
    Gen.C13.accesses = accessSig ∧ Gen.C13.deletes = deleteSig ∧ Gen.C13.strLists = strListSig := by
  decide +kernel

/-- The signature's `errors.Join(moveVal…)` rows are the move lists the model executes. -/
theorem C13_sig_moves :
    (accessSig.filter (fun a => a.1 == 7 && a.2.1 == 2)).map (fun a => (a.2.2.1, a.2.2.2.1)) =
      v7Moves.map (fun m => ((match m.1 with | .int => 0 | .str => 1 | .bool => 2 | .obj => 3 | .arr => 4 | .any => 5), m.2.1)) ∧
    (accessSig.filter (fun a => a.1 == 15 && a.2.1 == 1)).map (fun a => (a.2.2.1, a.2.2.2.1, a.2.2.2.2)) =
      v15Moves.map (fun m => ((match m.1 with | .int => 0 | .str => 1 | .bool => 2 | .obj => 3 | .arr => 4 | .any => 5), m.2.1, m.2.2)) ∧
    (accessSig.filter (fun a => a.1 == 24 && a.2.1 == 1)).map (fun a => (a.2.2.1, a.2.2.2.1, a.2.2.2.2)) =
      v24Moves.map (fun m => ((match m.1 with | .int => 0 | .str => 1 | .bool => 2 | .obj => 3 | .arr => 4 | .any => 5), m.2.1, m.2.2)) ∧
    (accessSig.filter (fun a => a.1 == 26 && a.2.1 == 2)).map (fun a => (a.2.2.1, a.2.2.2.1)) =
      v26Moves.map (fun m => ((match m.1 with | .int => 0 | .str => 1 | .bool => 2 | .obj => 3 | .arr => 4 | .any => 5), m.2.1)) := by
  decide +kernel

/-- Every syntactic panic site of the package (map write, index and slice
expression, unchecked type assertion, `panic` call, integer division) is under
a guard the extractor recognised. -/
theorem C13_gen_panic_sites_guarded : ∀ s ∈ Gen.C13.panicSites, s.2.2.1 ≠ 0 := by
  decide +kernel

/-- The two repairs the no-panic theorem rests on are present in the source:
`fieldVal` reports a null object as absent, `Migrate` replaces a nil document. -/
theorem C13_gen_repairs_present :
    Gen.C13.fieldValNullObjAbsent = true ∧ Gen.C13.migrateNilDocGuard = true := by
  decide

/-- A version-11 file with a null `dns` section (a nil map in Go, where a write panics): upgraded,
stamped 29. -/
example : ∃ d, migrate ⟨fun _ => some [], fun _ => some [], fun _ => none, fun _ _ => none, fun _ => none, [],
      fun _ _ => none⟩ (some (.obj [(kSchemaVersion, .int 11), (kDns, .null)])) 29 = .up d := by
  exact ⟨_, rfl⟩

/-- A type error in a later step: the upgrade fails at step 7 and says so. -/
example : migrate floatOracles (some (.obj [(kSchemaVersion, .int 6),
    (kDhcp, .obj [(kLeaseDuration, .str [120])])])) 29 = .err .type 7 := rfl

/-- `C13_frame_top` has content: a version-28 file keeps its `os` section through step 29,
which concerns only `schema_version` and `filtering`. -/
example : ∃ d, migrate floatOracles (some (.obj [(kSchemaVersion, .int 28), (kOs, .int 5),
      (kFilters, .arr []), (kFiltering, .obj [])])) 29 = .up d ∧ getK d kOs = some (.int 5) ∧
    kOs ∉ topKeys (touchedRange (29 - 28) 28) := by
  refine ⟨_, rfl, rfl, by decide⟩

/-- A current file: `C13_current_noop` applies. -/
example : migrate floatOracles (some (.obj [(kSchemaVersion, .int 29)])) 29 = .same := rfl

/-- Oracles under which every non-generic scalar is read back as itself. -/
def idOracles : Oracles :=
  { fmtDays := fun n => some [100, 48 + n.toNat % 10], fmtHours := fun _ => some [104], addrOK := fun _ => some true,
    addrPort := fun _ _ => some [49], quic := fun s => some s, ufPattern := [47, 42],
    rt := fun k p => some (.opaque k p) }

/-- A version-11 file with a float and a timestamp among its settings: it goes through the steps
that leave Go-typed values in the map (12, 20, 28, 29) and the one that moves one (15). -/
def doc11 : YVal :=
  .obj [(kSchemaVersion, .int 11),
    (kDns, .obj [(kQuerylogInterval, .int 7), (kAllServers, .bool true), (kUpstreamDns, .arr [.str [97]]),
      ([120], .opaque 1 [49, 46, 53])]),
    (kStatistics, .obj [(kInterval, .int 2)]),
    (kFilters, .arr [.obj [(kUrl, .str [47, 97])]]),
    (kFiltering, .obj []),
    ([121], .opaque 3 [50])]

/-- `ReencodeStable` holds of a concrete non-trivial document, `FmtTotal` of concrete oracles … -/
example : ReencodeStable idOracles doc11 = true ∧ FmtTotal idOracles ∧ versionOf doc11 = some 11 :=
  ⟨by decide, fun _ => rfl, by decide⟩

/-- … the upgrade of that document succeeds, with a Duration moved to `querylog.interval` and
written back as a string, … -/
example : (match migrate idOracles (some doc11) 29 with
    | .up d => getKeys d [kQuerylog, kInterval] == some (.str [100, 55]) &&
        getKeys d [kDns, kUpstreamMode] == some (.str sParallel)
    | _ => false) = true := by decide +kernel

/-- … and `C13_path_independent` applies to it at a split point after the first typed value is created. -/
example : (splitRun idOracles (some doc11) 29 13).2 = migrate idOracles (some doc11) 29 :=
  C13_path_independent idOracles _ 11 13 29 (by decide) (by decide) (by decide) (by decide) (by decide)
    (fun _ => rfl)

/-- `C13_frame_paths` has content: step 12 concerns `dns.querylog_interval`; the float next to it and
the timestamp at the top level read the same afterwards. -/
example : (match step idOracles 12 doc11 with
    | .ok d => getKeys (er idOracles d) [kDns, [120]] == some (.opaque 1 [49, 46, 53])
    | _ => false) = true ∧
    (∀ q ∈ touched 12, onBranch q ([kDns, [120]].map pk) = false) := ⟨by decide +kernel, by decide⟩

/-- The hypotheses of `C13_path_independent_partial` hold for a real run (version 1 to 3, then on to 5). -/
example : versionOf (.obj [(kSchemaVersion, .int 1), (kOs, .int 5)]) = some 1 ∧
    ∃ dk, upgrade floatOracles (3 - 1) 1 (.obj [(kSchemaVersion, .int 1), (kOs, .int 5)]) = .ok dk ∧
      reparse floatOracles dk = some dk :=
  ⟨by decide, _, rfl, rfl⟩

/-- `DocLike` and `versionOf` hypotheses are satisfiable together with a real upgrade. -/
example : DocLike (some (.obj [(kSchemaVersion, .int 28)])) ∧
    versionOf (.obj [(kSchemaVersion, .int 28)]) = some 28 := ⟨trivial, by decide⟩

end AGH.C13
