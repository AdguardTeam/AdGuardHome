/-
C04 — Requests map to one persistent client by fixed precedence; the registry
stays consistent.

Property theorems only; the lemmas are in AGH/Lemmas/Clients*.lean.  All
quantifiers are unbounded: every history of add / update / remove / DHCP-lease
operations of every length, over clients with any number of addresses (IPv4,
IPv6 with zones, IPv4-mapped), overlapping CIDRs of every length, MACs and
ClientIDs; every lookup input.

`Inv` is the consistency of the index (every entry points at a stored client
that lists the identifier, every identifier of every stored client is indexed
to it, UIDs unique, the sorted CIDR key list sorted / duplicate-free / equal to
the domain of its value map).  `Refines s w` says the storage `s` implements
the abstract registry `w` (a plain list of clients): `Inv`, the same clients up
to order, same DHCP table.  `track`/`run` execute a history from a state.
-/
import AGH.Lemmas.ClientsHistory
import AGH.Lemmas.ClientsSetIDs
import AGH.Lemmas.ClientsPersist
import AGH.Gen.C04Lookup
namespace AGH.C04
open AGH AGH.Bytes
open AGH.C03 (IP Prefix inCIDR)

/-- For every history and every set of probes, after every operation, the
executable spec (`specStep`: no sharing after an accepted operation, every
name / identifier / request resolves as the abstract registry says, the listing
is the registry) accepts what the model shows.  This is the predicate the
driver evaluates on the IMPLEMENTATION's observations. -/
theorem C04_model_meets_spec (probes : List Probe) (ops : List Op) :
    monitorRun probes Storage.empty World.empty ops = true :=
  monitorRun_of_refines probes Refines.empty ops

/-- Every operation keeps the index consistent. -/
theorem C04_inv_preserved (s : Storage) (h : Inv s.index) (op : Op) : Inv (step s op).1.index :=
  step_inv h op

/-- The index is consistent after every history. -/
theorem C04_inv_reachable (ops : List Op) : Inv (run Storage.empty ops).index :=
  run_inv Inv.empty ops

/-- After any history a ClientID, a MAC (of a possible length) or a name
resolves to a client exactly when that client is stored and currently lists it —
never to a removed client (no stale entries); a ClientID resolves to none
exactly when no stored client lists it, hence never to a UID without a client;
an address listed by a stored client resolves to that client. -/
theorem C04_lookup_current_owner (ops : List Op) :
    let s := run Storage.empty ops
    (∀ k c, s.index.findByClientID k = .found c ↔ (c ∈ s.index.clients ∧ k ∈ c.cids)) ∧
    (∀ k, s.index.findByClientID k = .none ↔ ∀ c ∈ s.index.clients, k ∉ c.cids) ∧
    (∀ a c, a ∈ c.ips → c ∈ s.index.clients → s.index.findByIP a = .found c) ∧
    (∀ m c, macOK m = true → (s.index.findByMAC m = some (.found c) ↔ (c ∈ s.index.clients ∧ m ∈ c.macs))) ∧
    (∀ n c, s.index.findByName n = .found c ↔ (c ∈ s.index.clients ∧ c.name = n)) := by
  intro s
  have h : Inv s.index := run_inv Inv.empty ops
  exact ⟨h.deref_found_iff h.cids, h.deref_none_iff h.cids, fun _ _ ha hc => h.findByIP_of_mem ha hc,
    fun _ c hok => h.findByMAC_found_iff hok c, h.findByName_found_iff⟩

/-- The storage implements the abstract registry along every history: the
registry being the list of clients changed only by the accepted operations.
In particular no two clients ever share a name or an identifier, and every
probe inside the property's domain shows exactly what the registry says. -/
theorem C04_refines_registry (ops : List Op) :
    let sw := track Storage.empty World.empty ops
    sw.1 = run Storage.empty ops ∧ Refines sw.1 sw.2 ∧ noSharing sw.2.reg = true ∧
    ∀ p, probeInScope sw.2 p = true → modelSeen sw.1 p = expected sw.2 p := by
  intro sw
  have hr : Refines sw.1 sw.2 := track_refines Refines.empty ops
  exact ⟨track_fst _ _ _, hr, hr.noSharing, fun p hp => modelSeen_expected hr p hp⟩

/-- An operation that is not accepted (any error, or a crash) leaves the whole
storage unchanged — index, client list and DHCP table. -/
theorem C04_reject_atomic (s : Storage) (op : Op) (h : (step s op).2 ≠ .ok) : (step s op).1 = s :=
  step_rejected s op h

/-- An `Add` that would make two clients share a name or an identifier is rejected. -/
theorem C04_clash_rejected_add (s : Storage) (h : Inv s.index) (c : Client)
    (hclash : ∃ d ∈ s.index.clients, d.uid ≠ c.uid ∧ ∃ k, k ∈ c.idents ∧ k ∈ d.idents) :
    (s.add c).2 ≠ .ok := by
  intro hok
  obtain ⟨d, hd, hne, k, hkc, hkd⟩ := hclash
  have ha := step_ok (op := .add c) hok
  generalize (step s (.add c)).1 = s' at ha
  cases ha with
  | add _ _ hcl => exact hne ((h.noClash hcl).uid_of_shared h hd hkc hkd)

/-- An `Update` that would make the updated client share its new name or a new
identifier with ANOTHER client is rejected — for clients with any number of
identifiers of every kind and whatever the position of the shared one among
them (`k ∈ c.idents` is plain list membership), also when identifiers the
client already owns come before it. -/
theorem C04_clash_rejected_update (s : Storage) (h : Inv s.index) (n : Bytes) (c stored : Client)
    (hst : s.index.findByName n = .found stored)
    (hclash : ∃ d ∈ s.index.clients, d.uid ≠ stored.uid ∧ ∃ k, k ∈ c.idents ∧ k ∈ d.idents) :
    (s.update n c).2 ≠ .ok := by
  intro hok
  obtain ⟨d, hd, hne, k, hkc, hkd⟩ := hclash
  have ha := step_ok (op := .update n c) hok
  generalize (step s (.update n c)).1 = s' at ha
  cases ha with
  | update _ hf hcl _ =>
    -- the client the update found is `stored`
    cases hf.symm.trans hst
    exact hne ((h.noClash hcl).uid_of_shared h hd hkc hkd)

/-- Conversely a well-formed `Add` that shares nothing is accepted: rejections
are not vacuous. -/
theorem C04_add_accepted (s : Storage) (h : Inv s.index) (c : Client) (hv : c.validate = none)
    (hfresh : ∀ d ∈ s.index.clients, d.uid ≠ c.uid) (hmac : ∀ m ∈ c.macs, macOK m = true)
    (hfree : ∀ d ∈ s.index.clients, ∀ k, k ∈ c.idents → k ∉ d.idents) :
    (s.add c).2 = .ok :=
  Storage.add_accepted s h c hv hfresh hmac hfree

/-- No operation crashes unless a client carries a hardware address of an
impossible length (not 6, 8 or 20 bytes — `net.ParseMAC` never produces one). -/
theorem C04_no_panic (s : Storage) (h : Inv s.index) (op : Op) (hp : (step s op).2 = .panic) :
    ∃ c, (op = .add c ∨ ∃ n, op = .update n c) ∧ ∃ m ∈ c.macs, macOK m = false :=
  step_panic h hp

/-- `ApplyClientFiltering` attributes a request to the owner of its ClientID,
else of its address, else of the most specific CIDR containing it, else of the
MAC the DHCP server leased the address to — evaluated on the abstract registry. -/
theorem C04_precedence {s : Storage} {w : World} (h : Refines s w) (cid : Bytes) (a : IP)
    (hlease : ∀ m, w.lease a = some m → validMAC m = true) :
    s.resolve cid a = gotOf (attributed w.reg (w.lease a) cid a) ∧
    attributed w.reg (w.lease a) cid a =
      ((((owner w.reg (.cid cid)).orElse fun _ => owner w.reg (.ip a)).orElse fun _ =>
        (mostSpecific w.reg a).map (·.2)).orElse fun _ => (w.lease a).bind fun m => owner w.reg (.mac m)) := by
  refine ⟨resolve_attributed h cid a hlease, ?_⟩
  unfold attributed byAddress
  cases owner w.reg (.cid cid) with
  | some c => rfl
  | none => rfl

/-- "Most specific": the chosen CIDR belongs to its owner and contains the
address, and no CIDR of any client containing the address is longer; among
equally long ones it has the smallest address. -/
theorem C04_most_specific {reg : Registry} {a : IP} {p : Prefix} {c : Client}
    (h : mostSpecific reg a = some (p, c)) :
    c ∈ reg ∧ p ∈ c.subnets ∧ inCIDR p a = true ∧
    ∀ d ∈ reg, ∀ q ∈ d.subnets, inCIDR q a = true →
      q.bits ≤ p.bits ∧ (q.bits = p.bits → p.addr ≤ q.addr) := by
  obtain ⟨hm, hbest⟩ := mostSpecific_some h
  obtain ⟨hc, hp, hin⟩ := mem_containing.mp hm
  refine ⟨hc, hp, hin, ?_⟩
  intro d hd q hq hqin
  have := hbest (q, d) (mem_containing.mpr ⟨hd, hq, hqin⟩)
  have hn := mt moreSpecific_iff.mpr (Bool.eq_false_iff.mp this)
  exact ⟨Nat.le_of_not_lt fun hlt => hn (Or.inl hlt),
    fun he => Nat.le_of_not_lt fun hlt => hn (Or.inr ⟨he, hlt⟩)⟩

/-- A request that matches nothing is attributed to nobody and its settings
stay the global ones. -/
theorem C04_unmatched_untouched {s : Storage} (cid : Bytes) (a : IP) (g : Settings)
    (h : s.resolve cid a = .none) : s.applyClientFiltering cid a g = some g := by
  unfold Storage.applyClientFiltering
  rw [h]

/-- The client's own filtering / safe-search (switch and engine) /
safe-browsing / parental settings are applied exactly when it uses its own
settings, its own blocked services exactly when it uses its own blocked
services; otherwise the global values stay.  Name and tags always identify the
client; nothing else is written. -/
theorem C04_settings_opt_out (c : Client) (g : Settings) :
    (c.apply g).filteringEnabled = (if c.useOwnSettings then c.filteringEnabled else g.filteringEnabled) ∧
    (c.apply g).safeSearchEnabled = (if c.useOwnSettings then c.safeSearchEnabled else g.safeSearchEnabled) ∧
    (c.apply g).clientSafeSearch = (if c.useOwnSettings then c.safeSearch else g.clientSafeSearch) ∧
    (c.apply g).safeBrowsingEnabled = (if c.useOwnSettings then c.safeBrowsingEnabled else g.safeBrowsingEnabled) ∧
    (c.apply g).parentalEnabled = (if c.useOwnSettings then c.parentalEnabled else g.parentalEnabled) ∧
    (c.apply g).svc = (if c.useOwnBlockedServices then c.svc else g.svc) ∧
    (c.apply g).clientName = c.name ∧ (c.apply g).clientTags = c.tags ∧
    (c.apply g).protectionEnabled = g.protectionEnabled ∧ (c.apply g).untouched = g.untouched := by
  rw [Client.apply_eq]
  exact ⟨rfl, rfl, rfl, rfl, rfl, rfl, rfl, rfl, rfl, rfl⟩

/-- A client that uses the global settings leaves every one of them alone, also
when it has an own safe-search engine or own values stored. -/
theorem C04_global_settings_kept (c : Client) (g : Settings) (h : c.useOwnSettings = false) :
    (c.apply g).filteringEnabled = g.filteringEnabled ∧ (c.apply g).safeSearchEnabled = g.safeSearchEnabled ∧
    (c.apply g).clientSafeSearch = g.clientSafeSearch ∧
    (c.apply g).safeBrowsingEnabled = g.safeBrowsingEnabled ∧ (c.apply g).parentalEnabled = g.parentalEnabled := by
  rw [Client.apply_eq]
  simp [effective, h]

/-- `subnetCompare` is a strict total order: longer prefixes first, then IPv4
before IPv6, then the smaller address; `0` exactly on equal prefixes. -/
theorem C04_subnetCompare_total_order (x y z : Prefix) :
    (subnetCompare x y = .eq ↔ x = y) ∧
    (subnetCompare x y = .lt → subnetCompare y z = .lt → subnetCompare x z = .lt) ∧
    (subnetCompare x y = .lt → subnetCompare y x ≠ .lt) ∧
    (x ≠ y → subnetCompare x y = .lt ∨ subnetCompare y x = .lt) := by
  refine ⟨subnetCompare_eq, ?_, ?_, ?_⟩
  · intro h1 h2
    exact subnetCompare_lt.mpr (plt_trans (subnetCompare_lt.mp h1) (subnetCompare_lt.mp h2))
  · intro h1 h2
    exact plt_asymm (subnetCompare_lt.mp h1) (subnetCompare_lt.mp h2)
  · intro hne
    rcases plt_trichotomy x y with h | h | h
    · exact absurd h hne
    · exact Or.inl (subnetCompare_lt.mpr h)
    · exact Or.inr (subnetCompare_lt.mpr h)

/-- Go's binary search over a sorted key list returns the number of keys
before the target, and reports "found" exactly when the target is a key. -/
theorem C04_bsearch_lower_bound (keys : List Prefix) (hs : Sorted keys) (t : Prefix) :
    (bsearch keys t).1 = (keys.takeWhile (fun k => subnetCompare k t == .lt)).length ∧
    ((bsearch keys t).2 = true ↔ t ∈ keys) := by
  rw [bsearch_eq hs]
  exact ⟨rfl, decide_eq_true_iff⟩

/-- After every history the key list of the CIDR map is sorted (hence
duplicate-free) and is exactly the set of CIDRs that have a value; `Del` never
hit `slices.Delete` out of range on the way (that would be `panic`, excluded by
`C04_no_panic`). -/
theorem C04_sortedmap_sound (ops : List Op) :
    let m := (run Storage.empty ops).index.subnetToUID
    Sorted m.keys ∧ m.keys.Nodup ∧ ∀ k, k ∈ m.keys ↔ (m.vals k).isSome = true := by
  intro m
  have h := (run_inv (s := Storage.empty) Inv.empty ops).sm
  exact ⟨h.sorted, h.sorted.nodup, h.dom⟩

/-- `SetIDs` accepts a list of strings exactly when every one of them is an
address, a CIDR, a MAC or a valid ClientID label, and then the client is known
by exactly the identifiers the strings stand for (tried in that order; the
ClientID lower-cased) in addition to those it had; name and UID are untouched. -/
theorem C04_setIDs_classifies (c : Client) (ids : List IDString) :
    ((∃ c', setIDs c ids = .ok c') ↔ ∀ id ∈ ids, id.ident.isSome = true) ∧
    ∀ c', setIDs c ids = .ok c' →
      c'.name = c.name ∧ c'.uid = c.uid ∧
      ∀ x, x ∈ c'.idents ↔ (x ∈ c.idents ∨ ∃ id ∈ ids, id.ident = some x) := by
  unfold setIDs
  rcases setIDsLoop_spec c ids with ⟨c1, h1, hn, hu, hall, hm⟩ | ⟨⟨e, h1⟩, id, hid, hn⟩ <;> rw [h1]
  · refine ⟨⟨fun _ => hall, fun _ => ⟨_, rfl⟩⟩, ?_⟩
    intro c' h
    cases h
    exact ⟨hn, hu, fun x => (idents_sorted c1 x).trans (hm x)⟩
  · refine ⟨⟨fun ⟨_, h⟩ => (nomatch h), fun hall => ?_⟩, fun _ h => (nomatch h)⟩
    have := hall id hid
    rw [hn] at this
    cases this

/-- Reading note: an 8-byte hardware address written with colons is an IPv6
address for `SetIDs` (the address parser is asked first); written with dashes
it is a MAC. -/
example :
    (IDString.ident ⟨[48], some (.v6 0x0011002200330044005500660077 []), none, some [0, 17, 34, 51, 68, 85, 102, 119]⟩)
      = some (.ip (.v6 0x0011002200330044005500660077 [])) ∧
    (IDString.ident ⟨[48], none, none, some [0, 17, 34, 51, 68, 85, 102, 119]⟩)
      = some (.mac [0, 17, 34, 51, 68, 85, 102, 119]) := by decide +kernel

/-! ### the configuration file and restart

FINDING (EUI-64).  The unconditional statement "`toPersistent (forConfig c) = c`
for every stored client" is FALSE for the code as it is: `Persistent.IDs` prints
a MAC with colons, an 8-byte MAC printed that way is also the text of an IPv6
address, and `SetIDs` asks the address parser first — so after a configuration
write and a restart the client is known by an IPv6 address instead of its MAC
(`C04_counterexample_restart_eui64_before_fix`; the witness on the real code is
corpus/C04/finding-eui64-restart.txt).  The prepared repair
(fixes/c04/eui64_ids.patch) prints such a MAC with hyphens; the model carries
both variants (`fix`), `Persistable false` excludes 8-byte MACs, `Persistable
true` does not. -/

/-- The configuration record that `forConfig` writes for a persistable client is
read back by `toPersistent` as that very client: every identifier of every
kind, both "use own" switches, all own settings, blocked services and schedule,
tags, upstreams and cache settings, safe-search config and engine, ignore
flags, name, UID. -/
theorem C04_persist_roundtrip (fix : Bool) (c : Client) (h : Persistable fix c) :
    (c.forConfig fix).toPersistent = some (.ok c) :=
  toPersistent_forConfig h

/-- With the repair the round trip needs no condition on the MACs at all: 6, 8
and 20-byte hardware addresses all come back as themselves. -/
theorem C04_persist_roundtrip_repaired (c : Client) (huid : c.uid ≠ 0)
    (h1 : sortBy ipLt c.ips = c.ips)
    (h2 : sortBy (fun x y => subnetCompare x y == .lt) c.subnets = c.subnets)
    (h3 : sortBy (fun x y => compare x y == .lt) c.macs = c.macs)
    (h4 : sortBy (fun x y => compare x y == .lt) c.cids = c.cids)
    (h5 : ∀ id ∈ c.cids, id ≠ [] ∧ C16.validLabel id = true ∧ Bytes.lower id = id)
    (h6 : c.safeSearch = if c.safeSearchEnabled then 1 else 0) :
    (c.forConfig true).toPersistent = some (.ok c) :=
  toPersistent_forConfig (fix := true)
    { uid := huid, ips := h1, subnets := h2, macs := h3, cids := h4
      noEUI64 := fun hf => Bool.noConfusion hf, labels := h5, engine := h6 }

/-- After any history, if every stored client is persistable, a restart brings
up a storage that implements the SAME registry: same clients, consistent index,
and every probe (lookups by name and identifier, `Find`, the per-request
filtering settings) shows exactly what it showed before the restart. -/
theorem C04_restart_same_registry {fix : Bool} (src : RuntimeSources) {s : Storage} {w : World} (hr : Refines s w)
    (hp : ∀ c ∈ s.index.clients, Persistable fix c ∧ c.validate = none ∧ ∀ m ∈ c.macs, macOK m = true) :
    ∃ s', s.restart fix src = (s', .ok) ∧ Refines s' w ∧
      ∀ p, probeInScope w p = true → modelSeen s' p = modelSeen s p := by
  obtain ⟨s', h1, hr'⟩ := restart_refines src hr hp
  refine ⟨s', h1, hr', ?_⟩
  intro p hsc
  rw [modelSeen_expected hr' p hsc, modelSeen_expected hr p hsc]

private def euiMAC : MAC := [0, 17, 34, 51, 68, 85, 102, 119]

private def euiClient : Client :=
  { uid := 1, name := [97], ips := [], subnets := [], macs := [euiMAC], cids := []
    invalidConf := false, useOwnSettings := false, filteringEnabled := false, safeSearchEnabled := false
    safeBrowsingEnabled := false, parentalEnabled := false, useOwnBlockedServices := false, svc := 1
    safeSearch := 0, tags := 0, ver := 1 }

/-- The finding on the model: a client known by the EUI-64 `00-11-22-33-44-55-66-77`
is found by it before the restart and by nobody after it, when it is known by
the IPv6 address `0:11:22:33:44:55:66:77`.  With the repair it keeps its MAC. -/
theorem C04_counterexample_restart_eui64_before_fix :
    let s := (Storage.empty.add euiClient).1
    (Storage.empty.add euiClient).2 = .ok ∧ s.findByMAC euiMAC = .client euiClient ∧
    (s.restart false ⟨false, false, false, false, false⟩).2 = .ok ∧ (s.restart false ⟨false, false, false, false, false⟩).1.findByMAC euiMAC = .none ∧
    ((s.restart false ⟨false, false, false, false, false⟩).1.index.findByIP (.v6 0x0011002200330044005500660077 [])).opt.map (·.uid) = some 1 ∧
    -- with the repair the client keeps its MAC
    (s.restart true ⟨false, false, false, false, false⟩).2 = .ok ∧ (s.restart true ⟨false, false, false, false, false⟩).1.findByMAC euiMAC = .client euiClient := by
  decide +kernel

/-- The `runtime_sources` switches (whois, arp, rdns, dhcp, hosts) never change
what a restart brings up, hence never the attribution of a request to a
persistent client — in particular the "MAC of the DHCP lease" step keeps
working with `runtime_sources.dhcp: false`. -/
theorem C04_runtime_sources_irrelevant (fix : Bool) (src src' : RuntimeSources) (s : Storage) (cid : Bytes) (a : IP) :
    s.restart fix src = s.restart fix src' ∧
    (s.restart fix src).1.resolve cid a = (s.restart fix src').1.resolve cid a ∧
    (s.restart fix src).1.dhcp = s.dhcp := by
  refine ⟨rfl, rfl, ?_⟩
  fun_cases Storage.restart fix src s
  · rfl
  · next h => exact addAll_dhcp (s := ⟨Index.empty, s.dhcp⟩) h
  · rfl

/-- After every history an identifier (of any kind) or a name belongs to at
most one stored client, so a request is attributed to at most one. -/
theorem C04_at_most_one_owner (ops : List Op) (a b : Client) (k : Ident)
    (ha : a ∈ (run Storage.empty ops).index.clients) (hb : b ∈ (run Storage.empty ops).index.clients)
    (hka : k ∈ a.idents) (hkb : k ∈ b.idents) : a = b :=
  owner_unique (run_inv (s := Storage.empty) Inv.empty ops).pairwise_disjoint ha hb hka hkb

section examples

private def mk (uid : Nat) (name : Bytes) (ips : List IP) (subs : List Prefix) (cids : List Bytes)
    (macs : List MAC) (own : Bool) : Client :=
  { uid := uid, name := name, ips := ips, subnets := subs, macs := macs, cids := cids,
    invalidConf := false, useOwnSettings := own, filteringEnabled := false, safeSearchEnabled := true,
    safeBrowsingEnabled := false, parentalEnabled := true, useOwnBlockedServices := own, svc := uid,
    safeSearch := uid, tags := 1, ver := uid }

/-- alice: 10.0.0.1 and 10.0.0.0/8; bob: 10.0.0.0/24 and ClientID "tv"; carol: a MAC. -/
private def alice := mk 1 [97] [.v4 0x0a000001] [⟨false, 0x0a000000, 8⟩] [] [] true
private def bob := mk 2 [98] [] [⟨false, 0x0a000000, 24⟩] [[116, 118]] [] false
private def carol := mk 3 [99] [] [] [] [[2, 0, 0, 0, 0, 1]] true
private def s3 := run Storage.empty [.add alice, .add bob, .add carol, .dhcpSet (.v4 0xc0a80101) [2, 0, 0, 0, 0, 1]]

/-- Precedence on a concrete registry: exact address beats CIDRs, the longer
CIDR beats the shorter, the ClientID beats the address, the DHCP lease's MAC
comes last; clashing operations are rejected with the registry unchanged; an
update that drops an identifier leaves no stale entry. -/
example :
    s3.resolve [] (.v4 0x0a000001) = .client alice ∧
    s3.resolve [] (.v4 0x0a000007) = .client bob ∧
    s3.resolve [] (.v4 0x0a010203) = .client alice ∧
    s3.resolve [116, 118] (.v4 0x0a000001) = .client bob ∧
    s3.resolve [] (.v4 0xc0a80101) = .client carol ∧
    s3.resolve [] (.v4 0x0b000001) = .none ∧
    (step s3 (.add (mk 4 [100] [] [⟨false, 0x0a000000, 24⟩] [] [] true))).2 = .err .subnetClash ∧
    (step s3 (.update [98] (mk 9 [97] [] [⟨false, 0x0a000000, 16⟩] [] [] true))).2 = .err .nameClash ∧
    (step s3 (.update [98] (mk 9 [98] [] [⟨false, 0x0a000000, 16⟩] [] [] true))).2 = .ok ∧
    (step s3 (.update [98] (mk 9 [98] [] [⟨false, 0x0a000000, 16⟩] [] [] true))).1.resolve [116, 118] (.v4 0x0b000001)
      = .none ∧
    (step s3 (.update [98] (mk 9 [98] [] [⟨false, 0x0a000000, 16⟩] [] [] true))).1.resolve [] (.v4 0x0a000007)
      = .client { mk 9 [98] [] [⟨false, 0x0a000000, 16⟩] [] [] true with uid := 2 } := by
  decide +kernel

/-- bob uses the global settings although he has an own safe-search engine and
own values stored: a request attributed to him keeps every global setting;
alice opts out and gets all of hers. -/
example :
    s3.applyClientFiltering [] (.v4 0x0a000007) globalSettings =
      some { globalSettings with clientName := [98], clientTags := 1 } ∧
    s3.applyClientFiltering [] (.v4 0x0a000001) globalSettings =
      some { clientName := [97], clientTags := 1, svc := 1, filteringEnabled := false, safeSearchEnabled := true,
             clientSafeSearch := 1, safeBrowsingEnabled := false, parentalEnabled := true,
             protectionEnabled := true, untouched := true } := by
  decide +kernel

end examples

/-! ## Translator tie: the precedence as the source states it (regenerated per run)

`extract/cmd/c04` rewrites `Gen/C04Lookup.lean` from the typed syntax of
`internal/client`: for every lookup function the lookup steps of its body in
source order.  `C04_find_first_match` says what the model's `Storage.find` is —
the FIRST identifier kind that yields a client, in the order ClientID, IP
address (exact, then narrowest subnet), MAC, DHCP lease of the address — and
`C04_T_lookup_order` says the current source walks the same steps in the same
order. -/

/-- The first result that is not "none" (a client or a crash ends the chain). -/
def firstGot : List Got → Got
  | [] => .none
  | .none :: rest => firstGot rest
  | g :: _ => g

theorem firstGot_single (g : Got) : firstGot [g] = g := by cases g <;> rfl

/-- `Storage.Find` is a first-match chain over the identifier kinds in the fixed
order ClientID → IP address → MAC → MAC leased to the address. -/
theorem C04_find_first_match (s : Storage) (id : IdStr) :
    s.find id = firstGot
      [ (s.index.findByClientID id.raw).got,
        (match id.asIP with | some ip => (s.index.findByIP ip).got | none => .none),
        (match id.asMAC with | some mac => s.findByMAC mac | none => .none),
        (match id.asIP with | some ip => s.findByLease ip | none => .none) ] := by
  unfold Storage.find
  cases s.index.findByClientID id.raw with
  | found c => rfl
  | dangling => rfl
  | none =>
    cases id.asIP with
    | none =>
      cases id.asMAC with
      | none => rfl
      | some mac =>
        dsimp only
        cases s.findByMAC mac <;> rfl
    | some ip =>
      dsimp only
      cases s.index.findByIP ip with
      | found c => rfl
      | dangling => rfl
      | none =>
        cases id.asMAC with
        | none => exact (firstGot_single _).symm
        | some mac =>
          dsimp only
          cases s.findByMAC mac with
          | none => exact (firstGot_single _).symm
          | client c => rfl
          | panic => rfl

/-- The current source performs the lookups in the order of the model:
`index.find` tries the ClientID map, then (if the string parses as an address)
the exact-address map followed by the subnet walk, then (if it parses as a
MAC) the MAC map; `Storage.Find` adds the DHCP fallback after it, under the
storage lock; `FindLoose` the zone-less comparison last. -/
theorem C04_T_lookup_order :
    Gen.C04.lookupSteps =
      [ ("index.find", ["findByClientID", "ParseAddr", "findByIP", "ParseMAC", "findByMAC"]),
        ("index.findByClientID", ["map:clientIDToUID", "map:uidToClient"]),
        ("index.findByIP", ["map:ipToUID", "map:uidToClient", "WithZone", "Range", "Contains", "map:uidToClient"]),
        ("index.findByMAC", ["macToKey", "map:macToUID", "map:uidToClient"]),
        ("Storage.Find", ["find", "ParseAddr", "MACByIP", "FindByMAC"]),
        ("Storage.FindLoose", ["find", "MACByIP", "FindByMAC", "findByIPWithoutZone"]),
        ("Storage.FindByMAC", ["findByMAC"]) ] ∧
      Gen.C04.findLocked = true ∧ Gen.C04.findLooseLocked = true ∧
      Gen.C04.findByMACLocksItself = false :=
  ⟨rfl, rfl, rfl, rfl⟩

/-- non-vacuity: a ClientID match wins over an address match for the same string -/
example (c : Client) : firstGot [.client c, .none] = .client c := rfl
example (c : Client) : firstGot [.none, .none, .panic, .client c] = .panic := rfl

end AGH.C04
