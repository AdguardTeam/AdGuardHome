/-
C12 — login throttling stops guessing; sessions are valid only until expiry
or logout, also across restarts.

All theorems are about the executable model `AGH.C12` (Model/Auth.lean) that
the correspondence check ties to internal/home on every run.  Histories are
arbitrary lists of operations (login requests from any TCP peer carrying any
proxy-header address, with a right or wrong password, at the login form or as
HTTP Basic credentials; request with any token, logout, restart) separated by
arbitrary clock advances.  `noWrap`: times stay below the uint32 horizon of
`uint32(now.Unix()) + sessionTTL` (year 2106); beyond it the stored expiry
wraps around, which is outside these theorems.
Simultaneous logins are serialised by controlLock
(`C12_logins_serialised_under_lock`), so these histories cover them.
-/
import AGH.Lemmas.AuthHorizon
import AGH.Lemmas.AuthConc
import AGH.Lemmas.AuthCodec
import AGH.Gen.C12Limiter
namespace AGH.C12

/-- **The model meets the spec**: for every configuration and every timed
history from a fresh start, after every operation the monitor `specOK`
accepts what the model did. -/
theorem C12_model_meets_spec (ma bm ttl now : Nat) (evs : List Ev)
    (hw : noWrapAll (Spec.init ma bm ttl) now evs) :
    allOK (St.init ma bm ttl) (Spec.init ma bm ttl) now evs :=
  (sim_run evs _ _ now (sim_init ma bm ttl now) hw).1

/-- The simulation relation between model state and monitor state holds in
every reachable state (of every history). -/
theorem C12_sim_reachable (ma bm ttl now : Nat) (evs : List Ev)
    (hw : noWrapAll (Spec.init ma bm ttl) now evs) :
    Sim (runLock (St.init ma bm ttl) (Spec.init ma bm ttl) now evs).1
      (runLock (St.init ma bm ttl) (Spec.init ma bm ttl) now evs).2.1
      (runLock (St.init ma bm ttl) (Spec.init ma bm ttl) now evs).2.2 :=
  (sim_run evs _ _ now (sim_init ma bm ttl now) hw).2

/-- **Blocked until** (one step, any state): a record with `num ≥ max` whose
`until` lies in the future rejects the attempt — right or wrong password —
with 429, evaluates nothing, leaves sessions and the record itself untouched
(the only change is the cleanup of expired records). -/
theorem C12_blocked_until (st : St) (l : Limiter) (r : Rec) (now : Nat) (req : Req) (good : Bool) (user : Nat)
    (hrl : st.rl = some l) (hrec : l.recs (attemptAddr req) = some r) (hnum : r.num ≥ l.max)
    (hnow : now < r.untl) :
    handleLogin st now req good user =
      (.tooMany ((r.untl - now) / nsPerSec), { st with rl := some { l with recs := cleanup now l.recs } }) ∧
    cleanup now l.recs (attemptAddr req) = some r := by
  have hc : cleanup now l.recs req.peer = some r := by
    rw [cleanup_eq]
    exact (congrArg (liveRec now) hrec).trans ((liveRec_some now r).trans (if_pos (Nat.le_of_lt hnow)))
  have hleft : timeLeft st req.peer now = r.untl - now := by
    rw [timeLeft_some hrl]
    simp only [Limiter.check, checkLocked, hc, if_neg (Nat.not_lt.mpr hnum)]
  refine ⟨?_, hc⟩
  rw [handleLogin_eq, hleft, if_pos (Nat.sub_pos_of_lt hnow), swept_some hrl]

/-- **Threshold**, in every reachable state of every history: when the failed
logins counted for an address (times kept by the declarative rules of the
spec: the minute is anchored at the first failure, a success or the end of
the minute / of the block period clears them) number at least `max` and the
block period after the last of them has not elapsed, a login attempt from
that address — correct password included — is answered 429, the password is
not evaluated (ghost counter unchanged) and no session is created; otherwise
the password IS evaluated and the answer is 200 for a right and 403 for a
wrong one. -/
theorem C12_threshold {st : St} {sp : Spec} {now : Nat} (h : Sim st sp now)
    (req : Req) (good : Bool) (user : Nat) :
    (mustReject sp (attemptAddr req) now = true →
      (∃ r, (handleLogin st now req good user).1 = .tooMany r) ∧
      (handleLogin st now req good user).2.evals = st.evals ∧
      (handleLogin st now req good user).2.mem = st.mem ∧ (handleLogin st now req good user).2.db = st.db) ∧
    (mustReject sp (attemptAddr req) now = false →
      (handleLogin st now req good user).2.evals = st.evals + 1 ∧
      (handleLogin st now req good user).1 = if good then .ok st.nextTok else .forbidden) := by
  refine ⟨blocked_of_mustReject h.1 req good user, fun hrej => ?_⟩
  rw [handleLogin_eq,
    if_neg fun hb => Bool.noConfusion (((timeLeft_pos h.1 req.peer).mp hb).symm.trans hrej)]
  cases good <;> exact ⟨rfl, rfl⟩

/-- **Threshold over histories, stated without the monitor** (the property's
first sentence).  Take ANY timed history `evs0` from a fresh start after which
nothing is counted for address `a` (scanning it, the last relevant event is a
restart or a successful login from `a`, or `a` never failed), followed by ANY
history `evs1` without a restart and without a successful login from `a`, in
which exactly `max` wrong passwords from `a` were evaluated (answered 403),
all within one minute of the first of them.  Then every login attempt from `a`
— right or wrong password, any proxy headers; for HTTP Basic credentials see
`C12_threshold_run_basic` — made after `evs1` and before
the block period since the last of those failures has elapsed is answered
429, the password is not evaluated, no session is created.  Other addresses,
requests, logouts and clock advances may be interleaved arbitrarily; no time
horizon is needed. -/
theorem C12_threshold_run (ma bm ttl t0 : Nat) (evs0 evs1 : List Ev) (a : Nat) (hen : ma > 0 ∧ bm > 0)
    (hclean : cleanAfter a true (traceM (St.init ma bm ttl) t0 evs0) = true)
    (hnc : noClear a (traceM (runM (St.init ma bm ttl) t0 evs0).1 (runM (St.init ma bm ttl) t0 evs0).2 evs1) = true)
    (fs : List Nat)
    (hfs : failTimes a (traceM (runM (St.init ma bm ttl) t0 evs0).1 (runM (St.init ma bm ttl) t0 evs0).2 evs1) = fs)
    (hlen : fs.length = ma) (hwin : ∀ t ∈ fs, t ≤ fs.headD 0 + failedAuthTTL)
    (d : Nat) (req : Req) (hreq : attemptAddr req = a) (good : Bool) (user : Nat) :
    let s0 := runM (St.init ma bm ttl) t0 evs0
    let s1 := runM s0.1 s0.2 evs1
    s1.2 + d < fs.getLastD 0 + bm * 60 * nsPerSec →
    (∃ r, (handleLogin s1.1 (s1.2 + d) req good user).1 = .tooMany r) ∧
    (handleLogin s1.1 (s1.2 + d) req good user).2.evals = s1.1.evals ∧
    (handleLogin s1.1 (s1.2 + d) req good user).2.mem = s1.1.mem ∧
    (handleLogin s1.1 (s1.2 + d) req good user).2.db = s1.1.db := by
  intro s0 s1 hblk
  obtain ⟨sp, hthr, hrej⟩ :=
    mustReject_from_init ma bm ttl t0 evs0 evs1 a hen hclean hnc fs hfs hlen hwin d hblk
  exact blocked_of_mustReject hthr req good user (hreq ▸ hrej)

/-- **Blocked means not evaluated — for BOTH forms of login** (POST
/control/login and HTTP Basic credentials on any request, the latter with
/verif/fixes/c12/basic_auth_throttle.patch), in every reachable state: while
the spec counts ≥ max failures of the address — failures of EITHER form, the
histories are mixed — and the block period has not elapsed, neither form gets
its password evaluated, neither authenticates, right password included. -/
theorem C12_blocked_not_evaluated {st : St} {sp : Spec} {now : Nat} (h : Sim st sp now) (req : Req)
    (good : Bool) (user : Nat) (hrej : mustReject sp (attemptAddr req) now = true) :
    ((∃ r, (handleLogin st now req good user).1 = .tooMany r) ∧
      (handleLogin st now req good user).2.evals = st.evals) ∧
    ((∃ r, (basicAuthX true st now req good).1 = .tooMany r) ∧
      (basicAuthX true st now req good).2.evals = st.evals) :=
  ⟨⟨(blocked_of_mustReject h.1 req good user hrej).1, (blocked_of_mustReject h.1 req good user hrej).2.1⟩,
   blocked_of_mustReject_basic h.1 req good hrej⟩

/-- the run theorem's conclusion for a Basic-auth attempt: after `max` evaluated
failures of either form within a minute (see `C12_threshold_run`; its history
may mix both forms, `failTimes`/`noClear`/`cleanAfter` count both) a request
with Basic credentials is refused unevaluated as well -/
theorem C12_threshold_run_basic (ma bm ttl t0 : Nat) (evs0 evs1 : List Ev) (a : Nat) (hen : ma > 0 ∧ bm > 0)
    (hclean : cleanAfter a true (traceM (St.init ma bm ttl) t0 evs0) = true)
    (hnc : noClear a (traceM (runM (St.init ma bm ttl) t0 evs0).1 (runM (St.init ma bm ttl) t0 evs0).2 evs1) = true)
    (fs : List Nat)
    (hfs : failTimes a (traceM (runM (St.init ma bm ttl) t0 evs0).1 (runM (St.init ma bm ttl) t0 evs0).2 evs1) = fs)
    (hlen : fs.length = ma) (hwin : ∀ t ∈ fs, t ≤ fs.headD 0 + failedAuthTTL)
    (d : Nat) (req : Req) (hreq : attemptAddr req = a) (good : Bool) :
    let s0 := runM (St.init ma bm ttl) t0 evs0
    let s1 := runM s0.1 s0.2 evs1
    s1.2 + d < fs.getLastD 0 + bm * 60 * nsPerSec →
    (∃ r, (basicAuthX true s1.1 (s1.2 + d) req good).1 = .tooMany r) ∧
    (basicAuthX true s1.1 (s1.2 + d) req good).2.evals = s1.1.evals := by
  intro s0 s1 hblk
  obtain ⟨sp, hthr, hrej⟩ :=
    mustReject_from_init ma bm ttl t0 evs0 evs1 a hen hclean hnc fs hfs hlen hwin d hblk
  exact blocked_of_mustReject_basic hthr req good (hreq ▸ hrej)

/-- **Without the Basic-auth repair** (the tree before
basic_auth_throttle.patch; `fixB = false`): limit 2, two wrong passwords at
the login form block the address — the right password gets 429 there — yet
Basic credentials are still evaluated, a wrong one is not counted and the right
one authenticates. -/
theorem C12_unpatched_basic_auth_unthrottled :
    let t := 946684800 * nsPerSec
    let r : Req := ⟨0, none, false⟩
    let st2 := (handleLogin (handleLogin (St.init 2 15 3600) t r false 0).2 t r false 0).2
    (handleLogin st2 t r true 0).1 = .tooMany 900 ∧
    (basicAuthX false st2 t r false).1 = .forbidden ∧
    (basicAuthX false st2 t r true).1 = .passed ∧
    (basicAuthX false st2 t r true).2.evals = st2.evals + 1 ∧
    -- with the repair: refused unevaluated
    (basicAuthX true st2 t r true).1 = .tooMany 900 ∧
    (basicAuthX true st2 t r true).2.evals = st2.evals := by
  decide +kernel

/-- **Every password evaluation is throttled.**  Whatever operation a request
amounts to (`authOp`: the first `agh_session` cookie if there is one —
`Authorization` is then ignored —, else parsable Basic credentials, else
nothing; or the login form): the evaluation counter moves only in a login-form
or Basic-credentials step, only by one, only when the limiter — if configured —
has just been asked about the request's address and did not block it, and the
same step counts the failure or clears the count for that address.  No path
of the model evaluates a password without check-before and inc/remove-after. -/
theorem C12_every_evaluation_is_throttled (st : St) (now : Nat) (o : Op) :
    (step st now o).2.evals = st.evals ∨
    ((step st now o).2.evals = st.evals + 1 ∧
     ∃ req, ((∃ g u, o = .login req g u) ∨ (∃ g, o = .basic req g)) ∧
       ∀ l, st.rl = some l → ¬ (l.check req.peer now).1 > 0 ∧
         ((step st now o).2.rl = some ((l.check req.peer now).2.inc req.peer now) ∨
          (step st now o).2.rl = some ((l.check req.peer now).2.remove req.peer))) := by
  rcases step_evals_rl st now o with ⟨h, _⟩ | ⟨req, ho, hb, h, hrl⟩
  · exact Or.inl h
  · refine Or.inr ⟨h, req, ho, fun l hl => ?_⟩
    rw [swept_some hl] at hrl
    exact ⟨timeLeft_some hl req.peer now ▸ hb, hrl⟩

/-- **Other addresses are irrelevant** (frame property of the limiter table, an
unbounded finite map): whatever one operation does — a login-form or Basic
attempt from ANOTHER address, right or wrong, a request, a logout, a flood of
failed logins from any number of fresh addresses — the record of address `a`
that survives the cleanup at `now`, hence the gate decision for `a` at `now`
or later, is unchanged.  Only a's own attempts and a restart touch it. -/
theorem C12_other_addresses_irrelevant (st : St) (now a : Nat) (l : Limiter) (hrl : st.rl = some l) :
    (∀ (o : Op), (∀ req g u, o = .login req g u → req.peer ≠ a) → (∀ req g, o = .basic req g → req.peer ≠ a) →
      o ≠ .restart →
      ∃ l', (step st now o).2.rl = some l' ∧ liveRec now (l'.recs a) = liveRec now (l.recs a) ∧
        l'.max = l.max ∧ l'.blockDur = l.blockDur) ∧
    (∀ base n, ¬ (base ≤ a ∧ a < base + n) →
      ∃ l', (flood st now base n).rl = some l' ∧ liveRec now (l'.recs a) = liveRec now (l.recs a) ∧
        l'.max = l.max ∧ l'.blockDur = l.blockDur) := by
  have hclean : liveRec now (cleanup now l.recs a) = liveRec now (l.recs a) := by
    rw [cleanup_eq]
    exact liveRec_idem now _
  have hsw := swept_some hrl now
  constructor
  · intro o hlogin hbasic hnr
    rcases step_evals_rl st now o with ⟨_, h | h | h⟩ | ⟨req, ho, _, _, h⟩
    · exact ⟨l, h.trans hrl, rfl, rfl, rfl⟩
    · exact ⟨_, h.trans hsw, hclean, rfl, rfl⟩
    · exact absurd h hnr
    · -- past the gate the limiter is the cleaned one with the record of another address changed
      have hne : a ≠ req.peer := by
        rcases ho with ⟨g, u, e⟩ | ⟨g, e⟩
        · exact fun e' => hlogin req g u e e'.symm
        · exact fun e' => hbasic req g e e'.symm
      rw [hsw] at h
      rcases h with h | h <;> exact ⟨_, h, (congrArg (liveRec now) (if_neg hne)).trans hclean, rfl, rfl⟩
  · intro base n hout
    by_cases hn : n = 0
    · exact ⟨l, by simp [flood, hrl, hn], rfl, rfl, rfl⟩
    · refine ⟨l.flood now base n, by simp [flood, hrl, hn], ?_, rfl, rfl⟩
      simp only [Limiter.flood, hout, if_false]
      exact hclean

/-- a request that carries an `agh_session` cookie never has a password
evaluated, whatever its `Authorization` header; one without cookie and without
parsable Basic credentials is refused without any effect -/
theorem C12_cookie_shadows_basic (t : Nat) (a : AuthForm) (req : Req) :
    authOp (.token t) a req = some (.request t) ∧
    authOp .absent .absent req = none ∧ authOp .absent .unparsed req = none :=
  ⟨rfl, rfl, rfl⟩

/-- **The minute is anchored, not sliding** (limit 3, block 1 min): wrong
passwords at 0 s, 50 s, 70 s and 100 s.  The count started at 0 s dies at
60 s, so the failure at 70 s starts a new one: the failures at 50 s, 70 s and
100 s are three within a minute, yet the attempt at 101 s is still evaluated
(403, not 429).  This is why `C12_threshold_run` asks that nothing be counted
for the address when the run of failures begins. -/
theorem C12_window_is_anchored :
    (traceM (St.init 3 1 3600) 0
      [.op (.login ⟨0, none, false⟩ false 0), .advance (50 * nsPerSec), .op (.login ⟨0, none, false⟩ false 0),
       .advance (20 * nsPerSec), .op (.login ⟨0, none, false⟩ false 0),
       .advance (30 * nsPerSec), .op (.login ⟨0, none, false⟩ false 0),
       .advance nsPerSec, .op (.login ⟨0, none, false⟩ false 0)]).map
      (fun e => (e.1 / nsPerSec, e.2.2)) =
    [(0, .login .forbidden), (50, .login .forbidden), (70, .login .forbidden), (100, .login .forbidden),
     (101, .login .forbidden)] := by
  decide +kernel

/-- **Success clears the count** (one step, any state): a login that is not
blocked and carries the right password succeeds and leaves no record for the
address, so the next failure starts a new count. -/
theorem C12_success_clears (st : St) (now : Nat) (req : Req) (user : Nat)
    (hnb : ∀ l, st.rl = some l → ¬ (l.check (attemptAddr req) now).1 > 0) :
    (handleLogin st now req true user).1 = .ok st.nextTok ∧
    ∀ l', (handleLogin st now req true user).2.rl = some l' → l'.recs (attemptAddr req) = none := by
  have hb : ¬ timeLeft st req.peer now > 0 := by
    cases hl : st.rl with
    | none => rw [timeLeft_none hl]; exact Nat.lt_irrefl 0
    | some l => rw [timeLeft_some hl]; exact hnb l hl
  rw [handleLogin_eq, if_neg hb, evalLogin_good]
  refine ⟨rfl, fun l' h => ?_⟩
  cases hs : swept st now with
  | none => rw [hs] at h; cases h
  | some l0 =>
    rw [hs] at h
    cases h
    exact FMap.erase_self _ _

/-- **Session window**, in every reachable state of every history: a request
with token `tok` is authenticated only if the token was created by a login,
has not been logged out, and less than `ttl` seconds have passed since its
creation or the last request it authenticated; and it IS authenticated while
less than `ttl` seconds have passed since its creation (no logout). -/
theorem C12_session_window {st : St} {sp : Spec} {now : Nat} (h : Sim st sp now)
    (hw : noWrap sp now = true) (tok : Nat) :
    ((checkSession st now tok).1 = .ok →
      ∃ i, sp.toks tok = some i ∧ i.loggedOut = false ∧ nowS now < i.lastOK + sp.ttl) ∧
    (∀ i, sp.toks tok = some i → i.loggedOut = false → nowS now < i.created + sp.ttl →
      (checkSession st now tok).1 = .ok) := by
  rw [checkSession_ok_iff, now32_eq hw]
  constructor
  · rintro ⟨s, hs, he⟩
    obtain ⟨i, hi, hlo, r⟩ := known_of_mem h.2 hs
    exact ⟨i, hi, hlo, Nat.lt_of_lt_of_le (Nat.not_le.mp he) (r.bounds s hs).2⟩
  · intro i hi hlo hlt
    have r := h.2.rel tok i hi
    cases hm : st.mem tok with
    | none => exact absurd (r.gone hm hlo) (Nat.not_le.mpr hlt)
    | some s => exact ⟨s, rfl, Nat.not_le.mpr (Nat.lt_of_lt_of_le hlt (r.bounds s hm).1)⟩

/-- **Logout is final**: once a token known to the spec (created by a login)
has been logged out, no request with it is authenticated in any later state
of any history — restarts included. -/
theorem C12_logout_final {st : St} {sp : Spec} {now : Nat} (h : Sim st sp now) (hw : noWrap sp now = true)
    (tok : Nat) (i : TokInfo) (hknown : sp.toks tok = some i) (evs : List Ev)
    (hws : noWrapAll sp now evs) :
    let r := runLock (step st now (.logout tok)).2 (specStep sp now (.logout tok) .done).2 now evs
    noWrap r.2.1 r.2.2 = true → (checkSession r.1 r.2.2 tok).1 ≠ .ok := by
  intro r _
  show (checkSession (runLock (logout st tok) (specStep sp now (.logout tok) .done).2 now evs).1 r.2.2 tok).1 ≠ .ok
  rw [(runLock_model evs (logout st tok) _ now).1]
  exact logout_final st now tok (known_lt h.2 hknown) evs _

/-- **Restart changes no verdict**: in a state where the memory map mirrors
the sessions file (true in every reachable state), a request is authenticated
after a restart exactly when it would have been without it. -/
theorem C12_restart_equiv (st : St) (now tok : Nat) (hmd : ∀ t, st.mem t = st.db t) :
    ((checkSession (restart st now) now tok).1 = .ok ↔ (checkSession st now tok).1 = .ok) := by
  rw [checkSession_ok_iff, checkSession_ok_iff, restart_mem (hmd tok)]
  constructor
  · rintro ⟨s, hs, he⟩
    exact ⟨s, (Option.filter_eq_some_iff.mp hs).1, he⟩
  · rintro ⟨s, hs, he⟩
    exact ⟨s, Option.filter_eq_some_iff.mpr ⟨hs, by simp [he]⟩, he⟩

/-! ### simultaneous logins: handlers run under controlLock -/

/-- **Logins are serialised by controlLock.**  N login requests in flight at one
instant, each in two steps (ask the limiter; evaluate the password and count /
clear), their handlers running under one lock taken before the first and
released after the second step (the fact `C12.loginlock` of the tie): for
EVERY schedule of steps — requests that find the lock taken simply wait —
whenever no handler is between its steps the state and every answer given so
far are exactly those of the sequential history of the same requests in the
order in which their handlers started.  Hence `C12_threshold_run` and the
other history theorems apply to concurrent bursts. -/
theorem C12_logins_serialised_under_lock (st : St) (now : Nat) (job : Nat → Job) (sched : List Nat) :
    let c := sched.foldl (stepT true now job) (Conc.init st)
    c.order.Nodup ∧ (∀ i, c.pc i = 0 ↔ i ∉ c.order) ∧
    (c.holder = none →
      c.st = (seqLogins now job st c.order).1 ∧
      ∀ i ∈ c.order, c.res i = (seqLogins now job st c.order).2 i) := by
  intro c
  have hinv : LockInv now job st c := lockInv_sched sched _ (lockInv_init now job st)
  exact ⟨hinv.nodup, hinv.started, fun hf => ⟨(hinv.free hf).2.1, (hinv.free hf).2.2⟩⟩

/-- **Without the lock the limit can be overrun** (limit 2, three wrong
passwords from one address at the same instant): if all three ask the limiter
before any failure is counted, all three passwords are evaluated (3 × 403),
whereas every sequential order evaluates two and rejects the third. -/
theorem C12_logins_unserialised_without_lock :
    let job : Nat → Job := fun _ => ⟨⟨0, none, false⟩, false, 0⟩
    let t := 946684800 * nsPerSec
    let c := [0, 1, 2, 0, 1, 2].foldl (stepT false t job) (Conc.init (St.init 2 15 3600))
    let s := seqLogins t job (St.init 2 15 3600) [0, 1, 2]
    (c.res 0, c.res 1, c.res 2) = (some .forbidden, some .forbidden, some .forbidden) ∧
    (s.2 0, s.2 1, s.2 2) = (some .forbidden, some .forbidden, some (.tooMany 900)) ∧
    -- the same schedule under the lock: the requests that find it taken wait
    ([0, 1, 2, 0, 1, 2].foldl (stepT true t job) (Conc.init (St.init 2 15 3600))).order = [0, 1] := by
  decide +kernel

/-! ### logout is two steps; other goroutines run in between -/

/-- **Logout is final under every interleaving** (the order of the source: map
entry first, file entry second).  Between the two steps of `removeSession`
ANY history of other goroutines' operations may run — requests with the same
or other cookies, logins, other logouts, clock advances; everything but a
process restart — and after the second step ANY history at all, restarts
included: no request with the logged-out token is authenticated, neither in
between nor afterwards.  No time horizon, no assumption on the state except
that the token had been issued. -/
theorem C12_logout_final_interleaved (st : St) (now tok : Nat) (hissued : tok < st.nextTok)
    (mid evs : List Ev) (hmid : noRestartEv mid = true) :
    let s1 := logoutStep1 .memFirst st tok
    let s2 := runM s1 now mid
    let s3 := logoutStep2 .memFirst s2.1 tok
    (∀ e ∈ traceM s1 now mid, e.2.1 = .request tok → e.2.2 = .auth false) ∧
    (∀ e ∈ traceM s3 s2.2 evs, e.2.1 = .request tok → e.2.2 = .auth false) := by
  intro s1 s2 s3
  have h1 : Stale false s1 tok 0 :=
    ⟨hissued, staleAt_erase_self _ _ _, (fun e => nomatch e)⟩
  obtain ⟨h2, hmidOK⟩ := stale_run tok 0 mid s1 now h1 (timesGE_zero mid now) (fun _ => hmid)
  have h3 : Stale true s3 tok 0 := ⟨h2.1, h2.2.1, fun _ => staleAt_erase_self _ _ _⟩
  exact ⟨hmidOK, (stale_run tok 0 evs s3 s2.2 h3 (timesGE_zero evs s2.2) (fun e => nomatch e)).2⟩

/-- **The other order is not final** (file entry first, map entry second): a
request with the same cookie that runs between the two steps on the first
authenticated request of a UTC day prolongs the session and writes it back to
the file the logout has just cleaned; after a restart the logged-out token
authenticates again.  (TTL 2 days; login; a day later logout races with one
request; restart; request.)  This is why the order of the two statements in
`removeSession` is a checked fact of the tie (`C12.logoutorder`). -/
theorem C12_file_first_logout_revives :
    let t := 946684800 * nsPerSec
    let st1 := (step (St.init 5 15 172800) t (.login ⟨0, none, false⟩ true 0)).2
    let t' := t + 86400 * nsPerSec
    (step (step (logoutRace .fileFirst st1 t' 0).2 t' .restart).2 t' (.request 0)).1 = .auth true ∧
    (step (step (logoutRace .memFirst st1 t' 0).2 t' .restart).2 t' (.request 0)).1 = .auth false := by
  decide +kernel

/-- with the order of the source a racing request changes nothing: the race
is the atomic logout, and the request is refused -/
theorem C12_logout_race_is_logout (st : St) (now tok : Nat) :
    logoutRace .memFirst st now tok = (false, logout st tok) := by
  simp [logoutRace, logoutStep1, logoutStep2, logoutMem, logoutFile, logout, checkSession, FMap.erase]

/-! ### the uint32 horizon (`expire` and the clock are `uint32` seconds) -/

/-- **A wrapped expiry fails closed.**  If at a successful login
`uint32(now) + ttl` overflows, the stored expiry is smaller than the clock, and
the new token is never authenticated — over any later history, restarts
included — as long as the uint32 clock does not read less than at the login
(i.e. until the clock itself wraps in 2106).  The user is logged in but the
cookie does not work: a loss of service, not of safety. -/
theorem C12_wrap_fails_closed (st : St) (now : Nat) (req : Req) (user tok : Nat) (httl : st.ttl < u32)
    (hok : (handleLogin st now req true user).1 = .ok tok) (hwrap : now32 now + st.ttl ≥ u32)
    (evs : List Ev) (ht : timesGE (now32 now) now evs) :
    ∀ e ∈ traceM (handleLogin st now req true user).2 now evs, e.2.1 = .request tok → e.2.2 = .auth false := by
  obtain ⟨rfl, h1, h2, h3⟩ := login_ok_tables hok
  have hB : (now32 now + st.ttl) % u32 ≤ now32 now := by
    rw [Nat.mod_eq_sub_mod hwrap]
    exact Nat.le_trans (Nat.mod_le _ _) (Nat.sub_le_of_le_add (Nat.add_le_add_left (Nat.le_of_lt httl) _))
  refine (stale_run (file := true) st.nextTok ((now32 now + st.ttl) % u32) evs _ now ?_
    (timesGE_mono hB evs now ht) (fun e => nomatch e)).2
  exact ⟨by rw [h1]; exact Nat.lt_succ_self _, h2 ▸ staleAt_set_self _ _ _, fun _ => h3 ▸ staleAt_set_self _ _ _⟩

/-- **FINDING — past the horizon an expired session is authenticated again**
(fails open).  TTL 1000 s; login 2000 s before the uint32 clock wraps
(2106-02-07T05:54:56Z) stores expiry 2^32 − 1000; a request 3000 s later, i.e.
2000 s AFTER the expiry, finds the clock at 1000 < expiry and is authenticated
— also after a restart in between.  Any session that expired before
2106-02-07T06:28:16Z without being swept (no request with it, no restart
since) comes back to life then.  The monitor rejects the observation. -/
theorem C12_counterexample_uint32_horizon :
    let t1 := (u32 - 2000) * nsPerSec
    let t2 := (u32 + 1000) * nsPerSec
    let st1 := (step (St.init 0 0 1000) t1 (.login ⟨0, none, false⟩ true 0)).2
    let sp1 := (specStep (Spec.init 0 0 1000) t1 (.login ⟨0, none, false⟩ true 0) (.login (.ok 0))).2
    (step (St.init 0 0 1000) t1 (.login ⟨0, none, false⟩ true 0)).1 = .login (.ok 0) ∧
    (step st1 t2 (.request 0)).1 = .auth true ∧
    (step (step st1 t2 .restart).2 t2 (.request 0)).1 = .auth true ∧
    nowS t1 + 1000 < nowS t2 ∧
    specOK sp1 t2 (.request 0) (.auth true) = false := by
  decide +kernel

/-- **An alternative comparison, NOT the tree's code** (the serial-number
comparison of the rejected session_expiry_serial_compare.patch, see
/verif/fixes/c12/README.md) would decide expiry exactly, for real, unbounded times:
a session whose real expiry `E` is at most `ttl` ahead of the clock (always
true: expiries are creation/last use + ttl) and that is looked at less than
2^32 − ttl seconds (~136 years) after `E` is found expired exactly when
`E ≤ now` — no absolute date (2106) enters. -/
theorem C12_fixed_expiry_exact (E nowS ttl : Nat) (httl : ttl < u32) (hE : E ≤ nowS + ttl)
    (hgap : E ≤ nowS → nowS - E < u32 - ttl) :
    expiredAt true (E % u32) (nowS % u32) ttl = decide (E ≤ nowS) := by
  unfold expiredAt u32 at *
  simp only [if_true]
  by_cases h : E ≤ nowS
  · have hg := hgap h
    simp only [h, decide_true, Bool.or_eq_true, beq_iff_eq, decide_eq_true_eq]
    omega
  · simp only [h, decide_false, Bool.or_eq_false_iff, beq_eq_false_iff_ne, ne_eq, decide_eq_false_iff_not]
    omega

/-- (alternative comparison, not the tree's code) the witness of
`C12_counterexample_uint32_horizon` against the serial-number comparison: the expired session is refused after the clock has wrapped, also
after a restart; and an expiry that wraps at creation works until it is due -/
theorem C12_fixed_horizon_witness :
    let t1 := (u32 - 2000) * nsPerSec
    let t2 := (u32 + 1000) * nsPerSec
    let st1 := (step (St.init 0 0 1000) t1 (.login ⟨0, none, false⟩ true 0)).2
    (stepFX true true st1 t2 true (.request 0)).1 = .auth false ∧
    (stepFX true true (stepFX true true st1 t2 true .restart).2 t2 true (.request 0)).1 = .auth false ∧
    (let t3 := (u32 - 500) * nsPerSec
     let st3 := (step (St.init 0 0 1000) t3 (.login ⟨0, none, false⟩ true 0)).2
     (stepFX true true st3 (t3 + 999 * nsPerSec) true (.request 0)).1 = .auth true ∧
     (stepFX true true st3 (t3 + 1000 * nsPerSec) true (.request 0)).1 = .auth false) := by
  decide +kernel

/-- **The sessions.db record round-trips**: `deserialize (serialize s) = s`
for every expiry below 2^32 and every user name shorter than 65536 bytes; a
record shorter than six bytes is rejected. -/
theorem C12_session_codec (name : List Nat) (expire : Nat) (he : expire < u32) (hn : name.length < 65536) :
    decodeSess (encodeSess name expire) = some (name, expire) ∧
    ∀ d : List Nat, d.length < 6 → decodeSess d = none :=
  ⟨decode_encode name expire he hn, fun d h => by simp [decodeSess, h]⟩

/-- without write failures the fallible model is the model -/
theorem C12_faultfree_step (st : St) (now : Nat) (o : Op) : stepF st now true o = step st now o := by
  cases o <;> rfl

/-- the driver's model at code level (no horizon repair, Basic-auth repair) is `stepF` -/
theorem C12_code_level_step (st : St) (now : Nat) (dbOK : Bool) (o : Op) :
    stepFX false true st now dbOK o = stepF st now dbOK o := by
  cases o with
  | login req good user => rfl
  | basic req good => rfl
  | request tok =>
    simp only [stepFX, stepF, checkSessionFX, checkSessionF, expiredAt, Bool.false_eq_true, if_false,
      decide_eq_true_eq]
  | logout tok => rfl
  | restart =>
    simp only [stepFX, stepF, restartX, restart, expiredAt, Bool.false_eq_true, if_false]

/-- **A logout whose file delete fails still ends the session in memory**: the
token is not found by any check until the next restart (whatever happens to
the file). -/
theorem C12_failed_logout_memory (st : St) (now tok : Nat) (dbOK dbOK' : Bool) :
    (checkSessionF (logoutF st tok dbOK) now tok dbOK').1 = .notFound ∧
    (checkSessionF (logoutF st tok dbOK) now tok dbOK').2 = logoutF st tok dbOK := by
  simp [checkSessionF, logoutF, FMap.erase]

/-- **Observation (storage fault, outside the property's histories) — a logout
whose file delete fails is undone by a restart**: login (token 0, TTL 1 h),
logout while sessions.db cannot be written, restart on the same file: the
logged-out token authenticates again (until its expiry).  `C12_logout_final`
therefore carries the assumption that sessions.db writes succeed. -/
theorem C12_failed_logout_restart_revives :
    let t := 946684800 * nsPerSec
    let st1 := (stepF (St.init 5 15 3600) t true (.login ⟨0, none, false⟩ true 0)).2
    let st2 := (stepF st1 t false (.logout 0)).2
    let st3 := (stepF st2 (t + nsPerSec) true .restart).2
    (stepF st2 t true (.request 0)).1 = .auth false ∧
    (stepF st3 (t + nsPerSec) true (.request 0)).1 = .auth true := by
  decide +kernel

/-- **A login whose file store fails, fails closed**: the session lives in
memory only; after a restart the token is unknown. -/
theorem C12_failed_store_fails_closed (st : St) (now now' : Nat) (req : Req) (user : Nat)
    (hfresh : st.db st.nextTok = none) :
    (restart (handleLoginF st now req true user false).2 now').mem st.nextTok = none := by
  simp only [restart, handleLoginF_false_db, hfresh]
  rfl

/-- **A lazy expiry whose file delete fails stays dead**: the expired entry
left in the file is not loaded by a later restart (before the clock wraps). -/
theorem C12_failed_expiry_delete_stays_dead (st : St) (now now' tok : Nat) (s : Sess)
    (hm : st.mem tok = some s) (hdb : st.db tok = some s) (hexp : s.expire ≤ now32 now)
    (hmono : now32 now ≤ now32 now') :
    (checkSessionF st now tok false).1 = .expired ∧
    (restart (checkSessionF st now tok false).2 now').mem tok = none := by
  have h1 : checkSessionF st now tok false =
      (.expired, { st with mem := st.mem.erase tok, db := st.db }) := by
    simp [checkSessionF, hm, hexp]
  rw [h1]
  refine ⟨rfl, ?_⟩
  have : s.expire ≤ now32 now' := Nat.le_trans hexp hmono
  simp [restart, hdb, Option.filter, this]

/-- in every reachable state the memory map mirrors the sessions file -/
theorem C12_mem_mirrors_db (ma bm ttl now : Nat) (evs : List Ev)
    (hw : noWrapAll (Spec.init ma bm ttl) now evs) (t : Nat) :
    (runLock (St.init ma bm ttl) (Spec.init ma bm ttl) now evs).1.mem t =
    (runLock (St.init ma bm ttl) (Spec.init ma bm ttl) now evs).1.db t :=
  (C12_sim_reachable ma bm ttl now evs hw).2.memDb t

/-! ### Non-vacuity: a concrete history (limit 2, block 1 min, ttl 1 h). -/

section Example
def ex0 : Nat := 946684800 * nsPerSec
def exEvs : List Ev :=
  [.op (.login ⟨0, none, false⟩ false 0), .advance (30 * nsPerSec), .op (.login ⟨0, some 7, true⟩ false 0),   -- two failures in 30 s
   .advance nsPerSec, .op (.login ⟨0, some 1, false⟩ true 0),                                     -- right password: blocked
   .op (.login ⟨1, some 0, true⟩ true 0),                                                        -- another address: token 0
   .op (.request 0), .op .restart, .op (.request 0),                             -- valid before and after restart
   .advance (59 * nsPerSec), .op (.login ⟨0, none, false⟩ true 1),                              -- block elapsed: token 1
   .op (.logout 0), .op .restart, .op (.request 0), .op (.request 1),
   .advance (3600 * nsPerSec), .op (.request 1)]                                 -- expired

example : noWrapAll (Spec.init 2 1 3600) ex0 exEvs := by
  simp only [exEvs, noWrapAll]; decide

def exObs : St → Nat → List Ev → List Obs
  | _, _, [] => []
  | st, now, .advance d :: evs => exObs st (now + d) evs
  | st, now, .op o :: evs => (step st now o).1 :: exObs (step st now o).2 now evs

example : exObs (St.init 2 1 3600) ex0 exEvs =
    [.login .forbidden, .login .forbidden, .login (.tooMany 59), .login (.ok 0),
     .auth true, .done, .auth true, .login (.ok 1), .done, .done, .auth false, .auth true, .auth false] := by
  decide +kernel

/-- the hypotheses of `C12_threshold_run` are satisfiable: limit 2; a failure
and then a success of address 0 (clean), then two failures of address 0 ten
seconds apart with a failure of address 1 in between — every attempt of
address 0 during the next minute is answered 429 -/
example (d : Nat) (hd : d < 60 * nsPerSec) (good : Bool) (user : Nat) :
    let evs0 : List Ev := [.op (.login ⟨0, none, false⟩ false 0), .advance nsPerSec, .op (.login ⟨0, none, false⟩ true 0)]
    let evs1 : List Ev := [.op (.login ⟨0, none, false⟩ false 0), .advance (10 * nsPerSec),
      .op (.login ⟨1, some 0, true⟩ false 0), .op (.login ⟨0, some 3, false⟩ false 1)]
    let s0 := runM (St.init 2 1 3600) ex0 evs0
    let s1 := runM s0.1 s0.2 evs1
    ∃ r, (handleLogin s1.1 (s1.2 + d) ⟨0, some 9, true⟩ good user).1 = .tooMany r := by
  intro evs0 evs1 s0 s1
  have h := C12_threshold_run 2 1 3600 ex0 evs0 evs1 0 (by decide) (by decide +kernel) (by decide +kernel)
    [ex0 + nsPerSec, ex0 + 11 * nsPerSec] (by decide +kernel) (by decide) (by decide +kernel) d ⟨0, some 9, true⟩ rfl good user
  have ht : s1.2 = ex0 + 11 * nsPerSec := by decide +kernel
  exact (h (by
    show s1.2 + d < _
    rw [ht]
    simp only [List.getLastD_cons, List.getLastD_nil]
    omega)).1

/-- Sensitivity of the model to the two keys of handleLogin: were the failures
counted under another address than the one the gate looks at (limit 1), the
second wrong password would still be evaluated (403) instead of rejected. -/
example : (loginAt (loginAt (St.init 1 1 3600) ex0 0 0 false 0).2 ex0 0 0 false 0).1 = .tooMany 60 ∧
    (loginAt (loginAt (St.init 1 1 3600) ex0 0 5 false 0).2 ex0 0 5 false 0).1 = .forbidden := by
  decide +kernel

end Example

/-! ## Translator tie: the limiter's bodies as the source states them (regenerated per run)

`extract/cmd/c12` TRANSLATES the bodies of `checkLocked`, `incLocked` and the
deletion condition of `cleanupLocked` (internal/home/authratelimiter.go) into
programs of the small statement language `AGH.MiniGo` (`Gen/C12Limiter.lean`,
rewritten on every run).  The theorems below run those programs and prove them
equal to the hand-written model for EVERY limiter state, address and instant:
the throttling theorems of this file are thereby theorems about what the
current source says, not only about a model that a sample of runs agreed with. -/
namespace T
open AGH.MiniGo

/-- The variables the translated bodies read besides their locals. -/
def envOf (l : Limiter) (now : Nat) : Env := fun x =>
  if x = "now" then (now : Int)
  else if x = "ab.maxAttempts" then (l.max : Int)
  else if x = "ab.blockDur" then (l.blockDur : Int)
  else 0

/-- What `ab.failedAuths[usrID]` holds. -/
def slotOf (l : Limiter) (addr : Nat) : Slot := (l.recs addr).map (fun r => ((r.untl : Int), (r.num : Int)))

end T

theorem C12_T_checkLocked_is_model (l : Limiter) (addr now : Nat) :
    ∃ v, MiniGo.run (T.slotOf l addr) Gen.C12.checkLocked (T.envOf l now) = .ret v ∧
      v.toNat = checkLocked l addr now := by
  unfold checkLocked T.slotOf
  cases h : l.recs addr with
  | none =>
    refine ⟨0, ?_, rfl⟩
    simp [Gen.C12.checkLocked, MiniGo.run, MiniGo.E.eval, MiniGo.Env.set, MiniGo.b2i]
  | some a =>
    -- the guard stays symbolic: one run of the program for both branches
    refine ⟨if a.num < l.max then 0 else (a.untl : Int) - (now : Int), ?_, ?_⟩
    · rw [apply_ite MiniGo.Outcome.ret]
      simp [Gen.C12.checkLocked, MiniGo.run, MiniGo.E.eval, MiniGo.Env.set, MiniGo.b2i, T.envOf]
    · rw [apply_ite Int.toNat]
      simp

theorem C12_T_incLocked_is_model (l : Limiter) (addr now : Nat) :
    ∃ u n, MiniGo.run (T.slotOf l addr) Gen.C12.incLocked (T.envOf l now) = .stored u n ∧
      (l.inc addr now).recs = l.recs.set addr ⟨u.toNat, n.toNat⟩ ∧
      (l.inc addr now).blockDur = l.blockDur ∧ (l.inc addr now).max = l.max := by
  unfold Limiter.inc T.slotOf
  cases h : l.recs addr with
  | none =>
    by_cases hge : 1 ≥ l.max
    · have hge' : (l.max : Int) ≤ 1 := Int.ofNat_le.mpr hge
      refine ⟨(now : Int) + (l.blockDur : Int), 1, ?_, ?_, rfl, rfl⟩
      · simp [Gen.C12.incLocked, MiniGo.run, MiniGo.E.eval, MiniGo.Env.set, MiniGo.b2i, T.envOf, hge']
      · simp [hge] <;> congr 1
    · have hge' : ¬ (l.max : Int) ≤ 1 := fun h' => hge (Int.ofNat_le.mp h')
      refine ⟨(now : Int) + 60000000000, 1, ?_, ?_, rfl, rfl⟩
      · simp [Gen.C12.incLocked, MiniGo.run, MiniGo.E.eval, MiniGo.Env.set, MiniGo.b2i, T.envOf, hge']
      · simp [hge, failedAuthTTL, nsPerSec] <;> congr 1
  | some a =>
    by_cases hge : a.num + 1 ≥ l.max
    · have hge' : (l.max : Int) ≤ (a.num : Int) + 1 := Int.ofNat_le.mpr hge
      refine ⟨(now : Int) + (l.blockDur : Int), (a.num : Int) + 1, ?_, ?_, rfl, rfl⟩
      · simp [Gen.C12.incLocked, MiniGo.run, MiniGo.E.eval, MiniGo.Env.set, MiniGo.b2i, T.envOf, hge']
      · simp [hge] <;> congr 1
    · have hge' : ¬ (l.max : Int) ≤ (a.num : Int) + 1 := fun h' => hge (Int.ofNat_le.mp h')
      refine ⟨(a.untl : Int), (a.num : Int) + 1, ?_, ?_, rfl, rfl⟩
      · simp [Gen.C12.incLocked, MiniGo.run, MiniGo.E.eval, MiniGo.Env.set, MiniGo.b2i, T.envOf, hge']
      · simp [hge] <;> congr 1

/-- `cleanupLocked` as written deletes exactly the records the model's `cleanup` drops. -/
theorem C12_T_cleanup_is_model (now : Nat) (recs : FMap Rec) (k : Nat) :
    cleanup now recs k = (recs k).filter (fun r =>
      decide (Gen.C12.cleanupCond.eval
        (fun x => if x = "now" then (now : Int) else if x = "v.until" then (r.untl : Int) else 0) = 0)) := by
  unfold cleanup
  congr 1
  funext r
  simp [Gen.C12.cleanupCond, MiniGo.E.eval, MiniGo.b2i]
  simp only [← Nat.not_le, decide_not]

theorem C12_T_failedAuthTTL : Gen.C12.failedAuthTTL = (failedAuthTTL : Int) := by decide

/-- The decision skeleton of `(*Auth).checkSession` is the model's `checkSession`:
a session is expired when `expire ≤ now` (both `uint32` seconds of the UTC
clock); on that branch the memory entry goes first, then the file entry; the
refreshed expiry is `now + sessionTTL` (uint32 addition: the model's `% u32`),
written back when it falls on another day (`/ 86400` on both sides). -/
theorem C12_T_checkSession_skeleton :
    Gen.C12.sessionCmps = [("s.expire", "<=", "now"), ("s.expire", "!=", "newExpire")] ∧
      Gen.C12.sessionDivisors = [daySec, daySec] ∧
      Gen.C12.sessionNow = "uint32(time.Now().UTC().Unix())" ∧
      Gen.C12.sessionNewExpire = "now + a.sessionTTL" ∧
      Gen.C12.sessionExpiredEffects = ["delete", "a.removeSessionFromFile", "return checkSessionExpired"] :=
  ⟨rfl, rfl, rfl, rfl, rfl⟩

/-- non-vacuity: the translated `incLocked` on the third failure of an address with `max = 3` blocks it for `blockDur` -/
example : MiniGo.run (some (100, 2)) Gen.C12.incLocked (T.envOf ⟨FMap.empty, 900, 3⟩ 50) = .stored 950 3 := by
  simp [Gen.C12.incLocked, MiniGo.run, MiniGo.E.eval, MiniGo.Env.set, MiniGo.b2i, T.envOf]
example : MiniGo.run (some (950, 3)) Gen.C12.checkLocked (T.envOf ⟨FMap.empty, 900, 3⟩ 60) = .ret 890 := by
  simp [Gen.C12.checkLocked, MiniGo.run, MiniGo.E.eval, MiniGo.Env.set, MiniGo.b2i, T.envOf]

end AGH.C12
