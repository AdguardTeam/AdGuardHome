/-
C09 — the concurrency clause: "with updates running concurrently with the
hourly flush and with API reads".

Model: AGH/Model/StatsConc.lean (threads, micro-steps, three locks, arbitrary
scheduler) and AGH/Model/StatsProgs.lean (Update / flush / getData /
handleStatsConfig / handlePutStatsConfig / handleStatsReset as the sequences of
lock acquisitions, reads and writes of the Go code, the locks being taken from
`LockFacts`).  Hypothesis: `okFor F op` for every operation in the run
(AGH/Spec/StatsLocks.lean) — the same predicate the driver evaluates on the
facts the harness re-extracts from the Go sources on every run.

Also here: the timing clause, "a rollover is noticed within one polling period" (`C09_rollover_within_period`,
`C09_loop_start_due`, `C09_poll_period_obligation`; over AGH/Model/StatsLoop.lean and AGH/Spec/StatsLoop.lean), and,
over AGH/Model/StatsFaults.lean, what a failed database write in the flush and the reset/flush race do to the answer
(`C09_flush_write_error_effect` and the counterexamples around it).
-/
import AGH.Lemmas.StatsConcMain
import AGH.Props.C09
import AGH.Model.StatsFaults
import AGH.Gen.C09Locks
import AGH.Lemmas.StatsLoop
import AGH.Spec.StatsLoop
namespace AGH.C09

/-- Serializability.  Threads `t` with `ops t = some op` run concurrently from
state `s0` under lock facts `F` that satisfy `okFor` for each of them.  For
EVERY state `σ` any schedule can reach there is a sequential order `hist`
(no repetitions) of the operations that have left their critical section such
that: every finished operation is in it; whenever `confMu` has no writer the
shared state is exactly the sequential model's state after running those
operations in that order; and every finished read returned exactly what the
sequential `getData` returns at its position in that order. -/
theorem C09_interleavings_serializable (F : LockFacts) (ops : Nat → Option COp) (s0 : State)
    (hok : ∀ t op, ops t = some op → okFor F op = true)
    (σ : Sys Loc) (hr : Reach (concInit F ops s0) σ) :
    ∃ hist : List Nat, hist.Nodup ∧
      (∀ t ∈ hist, ∃ op, ops t = some op ∧ rejected op = false) ∧
      (∀ t op, ops t = some op → rejected op = false → (σ.th t).rest = [] → t ∈ hist) ∧
      ((σ.lk .conf).writer = none → runOps s0 (hist.map (opOf ops)) = some σ.st) ∧
      (∀ t, ops t = some .read → (σ.th t).rest = [] →
        ∃ h1 h2 s, hist = h1 ++ t :: h2 ∧ runOps s0 (h1.map (opOf ops)) = some s ∧
          (σ.th t).loc.result = some (getData s)) := by
  rw [concInit_eq F ops s0 hok] at hr
  obtain ⟨hist, hnd, hmem, hdone, hfree⟩ := reach_serializable (setupOf_wf F ops s0 hok) hr
  refine ⟨hist, hnd, fun t ht => (setupOf_progs_iff F ops s0 hok t).mp (hmem t ht),
    fun t op hop hrj hrest => ?_, fun hw => ?_, fun t hop hrest => ?_⟩
  · obtain ⟨p, hp⟩ := (setupOf_progs_iff F ops s0 hok t).mpr ⟨op, hop, hrj⟩
    obtain ⟨h1, h2, hh, _⟩ := hdone t p hp hrest
    rw [hh]; simp
  · rw [runOps_seq F ops s0 hok hist s0, hfree hw]
    rfl
  · obtain ⟨p, hp⟩ := (setupOf_progs_iff F ops s0 hok t).mpr ⟨_, hop, rfl⟩
    obtain ⟨h1, h2, hh, hloc⟩ := hdone t p hp hrest
    exact ⟨h1, h2, _, hh, runOps_seq F ops s0 hok h1 s0, hloc ▸ read_effect F ops s0 hok t hop _⟩

/-- Hence the sequential theorems apply to concurrent runs: in any interleaving
started from a fresh `New`, what a finished API read returned satisfies the
spec monitor for the history "the operations serialized before it, then the
read". -/
theorem C09_interleavings_meet_spec (F : LockFacts) (ops : Nat → Option COp)
    (clock limitMs : Nat) (enabled : Bool) (s0 : State) (hnew : new [] clock limitMs enabled = some s0)
    (hok : ∀ t op, ops t = some op → okFor F op = true)
    (σ : Sys Loc) (hr : Reach (concInit F ops s0) σ)
    (t : Nat) (hop : ops t = some .read) (hdone : (σ.th t).rest = []) :
    ∃ (before : List Nat) (res : Except Fault Resp), (σ.th t).loc.result = some res ∧
      specOK (ghostRun (Ghost.init clock limitMs enabled) ((before ++ [t]).map (opOf ops))) res = true := by
  obtain ⟨hist, _, _, _, _, hread⟩ := C09_interleavings_serializable F ops s0 hok σ hr
  obtain ⟨h1, h2, s, _, hrun, hres⟩ := hread t hop hdone
  refine ⟨h1, getData s, hres, ?_⟩
  have hrun' : runOps s0 ((h1 ++ [t]).map (opOf ops)) = some s := by
    have hlast : runOps s ([t].map (opOf ops)) = some s := by simp [opOf, hop, COp.toOp, runOps, step]
    rw [List.map_append, runOps_append _ hrun, hlast]
  exact C09_model_meets_spec clock limitMs enabled _ s0 s hnew hrun'

/-- The locking of the current tree satisfies the hypothesis for every
operation: Update, the hourly flush, reads, both configuration requests and
(since the fix) `handleStatsReset`. -/
theorem C09_real_locks_cover (op : COp) : okFor LockFacts.real op = true :=
  okAll_okFor (F := LockFacts.real) rfl op

/-- THE TIE of the concurrency clause.  `AGH.Gen.C09.lockFacts` is regenerated
from the Go sources of the tree under test on every run (extract/cmd/c09); the
facts are turned into the `LockFacts` the programs of the model are built from,
and the hypothesis of the interleaving theorem — for all six operations — is
re-checked on them by the kernel.  A dropped or weakened lock makes this
theorem fail to compile. -/
theorem C09_lock_facts_obligation :
    (LockFacts.ofRaw AGH.Gen.C09.lockFacts).okAll = true ∧ rawClean AGH.Gen.C09.lockFacts = true := by
  decide +kernel

/-- Serializability for the locking the CURRENT tree has (no hypothesis left:
it is discharged by `C09_lock_facts_obligation`). -/
theorem C09_interleavings_serializable_current_tree (ops : Nat → Option COp) (s0 : State)
    (σ : Sys Loc) (hr : Reach (concInit (LockFacts.ofRaw AGH.Gen.C09.lockFacts) ops s0) σ) :
    ∃ hist : List Nat, hist.Nodup ∧
      (∀ t ∈ hist, ∃ op, ops t = some op ∧ rejected op = false) ∧
      (∀ t op, ops t = some op → rejected op = false → (σ.th t).rest = [] → t ∈ hist) ∧
      ((σ.lk .conf).writer = none → runOps s0 (hist.map (opOf ops)) = some σ.st) ∧
      (∀ t, ops t = some .read → (σ.th t).rest = [] →
        ∃ h1 h2 s, hist = h1 ++ t :: h2 ∧ runOps s0 (h1.map (opOf ops)) = some s ∧
          (σ.th t).loc.result = some (getData s)) :=
  C09_interleavings_serializable _ ops s0 (fun _ op _ => okAll_okFor C09_lock_facts_obligation.1 op) σ hr

/-- The timing clause.  `periodicFlush` with polling period `period` (any
positive value), a wake-up due within one period (true from `Start` on, and
re-established by this theorem), statistics with a non-zero limit.  Let `d ≥
period` ms pass.  If the UnitID generator has shown the same hour for the last
`period` ms, the module's current unit is the unit of THAT hour — whatever
happened before (clock steps of any size, any number of missed hours): a query
counted more than one period after an hour change is counted in the new hour.
A loop that may sleep longer than `period` while the unit is current does not
satisfy this. -/
theorem C09_rollover_within_period (period : Nat) (hp : 0 < period) (L : Loop) (d : Nat)
    (hlim : L.s.limitHours ≠ 0) (hdue : L.next ≤ L.t + period) (hd : period ≤ d)
    (hconst : hourAt (L.t + d - period) L.skew = hourAt (L.t + d) L.skew) :
    (L.wait period d).s.curr.id = hourAt (L.t + d) L.skew ∧
    (L.wait period d).t = L.t + d ∧
    (L.wait period d).t < (L.wait period d).next ∧ (L.wait period d).next ≤ (L.wait period d).t + period ∧
    (L.wait period d).s.limitHours ≠ 0 := by
  -- the wake-up that was due happened `k` ms ago; `k / period` more have followed it
  obtain ⟨k, hk⟩ := Nat.exists_eq_add_of_le (show L.next ≤ L.t + d by omega)
  have h1 : k / period * period ≤ k := Nat.div_mul_le_self _ _
  have h2 : k < k / period * period + period := by
    have := Nat.lt_mul_div_succ k hp
    rwa [Nat.mul_add, Nat.mul_one, Nat.mul_comm] at this
  have ar : L.t + d - period ≤ L.next + k / period * period ∧ L.next + k / period * period ≤ L.t + d ∧
      L.t + d < L.next + (k / period * period + period) ∧
      L.next + (k / period * period + period) ≤ L.t + d + period := by omega
  have hw : L.wait period d = { L.polls period (k / period + 1) with t := L.t + d } := by
    simp only [Loop.wait, hk, Nat.le_add_right, if_true, Nat.add_sub_cancel_left]
  have a := polls_curr_id period (k / period) L hlim
  obtain ⟨b, _, e⟩ := polls_frame period (k / period + 1) L
  rw [hw]
  refine ⟨?_, rfl, ?_, ?_, by rw [e]; exact hlim⟩
  · show (L.polls period (k / period + 1)).s.curr.id = _
    rw [a]
    apply Nat.le_antisymm
    · exact hourAt_mono ar.2.1 _
    · rw [← hconst]; exact hourAt_mono ar.1 _
  · show L.t + d < (L.polls period (k / period + 1)).next
    rw [b, Nat.add_mul, Nat.one_mul]; exact ar.2.2.1
  · show (L.polls period (k / period + 1)).next ≤ L.t + d + period
    rw [b, Nat.add_mul, Nat.one_mul]; exact ar.2.2.2

/-- `Start` establishes the premise: the first `flush` runs at once and the next
wake-up is one period later. -/
theorem C09_loop_start_due (period t0 skew limitMs : Nat) (enabled : Bool) (L : Loop)
    (h : Loop.start period t0 skew limitMs enabled = some L) :
    L.t = t0 ∧ L.next = t0 + period ∧ L.s.limitHours ≠ 0 ∧ L.s.curr.id = hourAt t0 skew := by
  revert h
  fun_cases Loop.start period t0 skew limitMs enabled with
  | case1 hn => exact nofun
  | case2 s hn =>
    rintro ⟨⟩
    obtain ⟨hv, rfl⟩ := new_spec hn
    have hl : limitMs / msPerHour ≠ 0 := by
      have := validIvl_range hv
      omega
    exact ⟨rfl, rfl, by rw [poll_limitHours]; exact hl, tick_id _ _ hl⟩

/-- THE TIE of the timing clause: what `flush` makes the loop sleep while the
unit is current, re-extracted from the source on every run, is the documented
one second — a constant, not a computed duration. -/
theorem C09_poll_period_obligation : AGH.Gen.C09.pollPeriodMs = some docPeriodMs := by decide +kernel

def exState : State :=
  { db := [], curr := ⟨500000, 0, fun _ => 0⟩, limit := 24 * msPerHour, enabled := true, clock := 500000 }

def exEntry : Entry := ⟨2, false, false⟩

/-- Without the locks in `Update` two concurrent updates lose one: both read
`nTotal = 0`, both write 1.  Sequentially the total is 2. -/
theorem C09_interleaving_lost_update_without_locks :
    let F := { LockFacts.real with updConf := none, updCurr := none }
    let ops : Nat → Option COp := fun t => if t < 2 then some (.upd exEntry) else none
    let σ := (concInit F ops exState).run [0, 0, 0, 0, 0, 1, 1, 1, 1, 1, 0, 1]
    (σ.th 0).rest = [] ∧ (σ.th 1).rest = [] ∧ σ.st.curr.nTotal = 1 ∧
    (updateN (updateN exState exEntry 1).1 exEntry 1).1.curr.nTotal = 2 := by
  decide +kernel

def exState3 : State :=
  { db := [], curr := ⟨500000, 3, fun i => if i = 2 then 3 else 0⟩, limit := 24 * msPerHour,
    enabled := true, clock := 500000 }

/-- FINDING (model level; repaired in /repo, where `handleStatsReset` takes
`confMu`).  Before the fix `handleStatsReset` called `clear()` without `confMu`
(`LockFacts.beforeResetFix`).  Interleaving: reset has replaced the
database file, the hourly flush runs completely (it still sees the OLD current
unit and writes it into the NEW file), reset then swaps the current unit.  The
bucket of hour 500000 with its 3 queries survives the reset; in either
sequential order it does not (no bucket, or an empty one). -/
theorem C09_counterexample_reset_vs_flush :
    let ops : Nat → Option COp := fun t => if t = 0 then some (.flush 500001) else if t = 1 then some .reset else none
    let σ := (concInit LockFacts.beforeResetFix ops exState3).run ([1] ++ List.replicate 11 0 ++ [1, 1, 1])
    (σ.th 0).rest = [] ∧ (σ.th 1).rest = [] ∧
    (σ.st.db.get 500000).map (·.nTotal) = some 3 ∧
    ((clear (tick exState3 500001)).db.get 500000).map (·.nTotal) = none ∧
    ((tick (clear exState3) 500001).db.get 500000).map (·.nTotal) = some 0 := by
  decide +kernel

/-- The history of both findings: fresh start at hour 500000 with a 24 h
limit, 3 blocked queries counted. -/
def exGhost3 : Ghost := ghostRun (Ghost.init 500000 (24 * msPerHour) true) [.upd ⟨2, false, false⟩ 3]

/-- What a failed database write in the hourly flush does: compared with a
successful flush the ONLY difference is that the rotated-out unit is not
stored (and bucket `id - limit` is not deleted) — the counters of the hour that
just ended are gone, everything else is as after a normal rollover. -/
theorem C09_flush_write_error_effect (s : State) (id : Nat) (h0 : s.limitHours ≠ 0) (hid : s.curr.id ≠ id) :
    (tickFail s id).db = s.db ∧ (tickFail s id).curr = newUnit id ∧ (tickFail s id).clock = id ∧
    (tick s id).db = (s.db.put s.curr.id s.curr.serialize).del (sub32 id s.limitHours) ∧
    (tick s id).curr = newUnit id ∧ (tick s id).clock = id := by
  have hc : ¬ (s.limitHours = 0 ∨ s.curr.id = id) := fun h => h.elim h0 hid
  rw [tick_rotate s id hc, tickFail, if_neg hc]
  exact ⟨rfl, rfl, rfl, rfl, rfl, rfl⟩

/-- FINDING.  "Counts survive hour rollovers" fails when the database write of
the rollover fails: 3 queries counted in hour 500000, rollover to 500001 with a
write error — hour 500000 is still inside the 24 h window but the totals are 0
(`specOK` false); with a successful write they are reported (`specOK` true). -/
theorem C09_counterexample_flush_write_error :
    specOK (ghostStep exGhost3 (.tick 500001)) (getData (tickFail exState3 500001)) = false ∧
    specOK (ghostStep exGhost3 (.tick 500001)) (getData (tick exState3 500001)) = true := by
  decide +kernel

/-- FINDING.  After the reset/flush race of `C09_counterexample_reset_vs_flush`
the API reports 3 queries although a reset has happened since they were
counted: the monitor rejects the answer whichever of the two sequential orders
(reset then rollover, rollover then reset) is taken as the reference. -/
theorem C09_counterexample_reset_race_reported :
    specOK (ghostStep (ghostStep exGhost3 .clear) (.tick 500001)) (getData (resetRace exState3 500001)) = false ∧
    specOK (ghostStep (ghostStep exGhost3 (.tick 500001)) .clear) (getData (resetRace exState3 500001)) = false := by
  decide +kernel

/-- A concrete concurrent run under the real lock facts: two updates, a
rollover and a read, in a schedule that makes them contend; all finish. -/
example :
    let ops : Nat → Option COp := fun t =>
      if t = 0 then some (.upd exEntry) else if t = 1 then some (.flush 500001)
      else if t = 2 then some .read else if t = 3 then some (.upd exEntry) else none
    let σ := (concInit LockFacts.real ops exState).run
      ([0, 1, 2, 3, 0, 0] ++ List.replicate 12 0 ++ List.replicate 14 1 ++ List.replicate 14 2 ++ List.replicate 12 3)
    (∀ t, t < 4 → (σ.th t).rest = []) ∧ σ.st.curr.id = 500001 ∧
    (σ.th 2).loc.result.isSome = true := by
  decide +kernel

end AGH.C09
