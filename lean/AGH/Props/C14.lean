/-
C14 — the configuration file, the DHCP lease database and downloaded filter-list
files are replaced atomically: at every instant of a save, and therefore after
a crash at any point, the path holds the complete previous or the complete new
version.

`OKAt s dest old new` (AGH/Spec/FS.lean) is the sentence of the property for one
instant `s`.  Instants of a save are the states after every prefix of its
syscall program (`runAbort s₀ (prog.take k)`; a run stops at the first failing
syscall, as the Go code returns at the first error).

What is assumed, not proved (named in the evidence): the crash semantics of
`AfterCrash` (completed directory operations are durable and atomic; an inode
unmodified since its last fsync survives exactly; a modified one comes back as
its last synced content or any prefix of its current content), and that the
names renameio invents differ from the destination (`TempNames`, checked on
every real trace by the driver).
-/
import AGH.Lemmas.FSMonitor
import AGH.Lemmas.FSCrash
import AGH.Gen.C14WriteSites
namespace AGH.C14

/-! ## The atomic writer (config.go:652/818, dhcpd/db.go:189, filter.go CloseReplace) -/

/-- Every instant of one atomic save — any content, any chunking of the writes,
any prefix `k` of the program, any syscall failing — shows the complete old or
the complete new version, to a reader and after a crash. -/
theorem C14_atomic_all_prefixes (pr : Probe) (dest tmp : Path) (fd : Nat) (chunks : List Content)
    (s₀ : FS) (old : Option Content) (hwf : WF s₀) (h0 : Settled s₀ dest old)
    (hn : TempNames pr tmp dest) (k : Nat) :
    OKAt (runAbort s₀ ((atomicWrite pr dest tmp fd chunks).take k)).1 dest old chunks.flatten := by
  exact save_prefix ⟨pr, tmp, fd, chunks, true, true⟩ hwf h0 hn k

/-- A save whose syscalls all succeeded has installed the new version, synced and
closed (so the next save starts from a settled file again). -/
theorem C14_completed_save_installs_new (pr : Probe) (dest tmp : Path) (fd : Nat)
    (chunks : List Content) (s₀ s : FS) (hwf : WF s₀) (hne : tmp ≠ dest)
    (h : runAbort s₀ (atomicWrite pr dest tmp fd chunks) = (s, true)) :
    Settled s dest (some chunks.flatten) ∧ visible s dest = some chunks.flatten :=
  ⟨atomic_complete hne s₀ s hwf h, settled_visible (atomic_complete hne s₀ s hwf h)⟩

/-- The committed temporary file holds exactly ONE version: every write between its
exclusive create and the rename belongs to the one run that produced `chunks`
(the program has no other write), and that — nothing before it, nothing after
it — is what a completed save shows.  The driver checks the same on every real
trace: sum and number of the write chunks of a committed save equal the length
and the number of rule lines of the one complete list served (`C14.length`,
`C14.oneversion`), and the final file equals it byte for byte (`C14.content`). -/
theorem C14_committed_content_is_one_version (pr : Probe) (dest tmp : Path) (fd : Nat)
    (chunks : List Content) (s₀ s : FS) (hwf : WF s₀) (hne : tmp ≠ dest)
    (h : runAbort s₀ (atomicWrite pr dest tmp fd chunks) = (s, true)) :
    writesOf (atomicWrite pr dest tmp fd chunks) = chunks ∧
      visible s dest = some (writesOf (atomicWrite pr dest tmp fd chunks)).flatten := by
  have hw : writesOf (atomicWrite pr dest tmp fd chunks) = chunks := by
    simp only [atomicWrite, stageOps, writesOf_append, writesOf_map, writesOf_probe]
    simp [writesOf]
  exact ⟨hw, by rw [hw]; exact settled_visible (atomic_complete hne s₀ s hwf h)⟩

/-- An abandoned filter update (`Cleanup`: list unchanged, download or parse
error after any number of rule lines) never shows anything but the old file. -/
theorem C14_abandoned_update_keeps_old (pr : Probe) (dest tmp : Path) (fd : Nat)
    (chunks : List Content) (s₀ : FS) (old : Option Content) (hwf : WF s₀)
    (h0 : Settled s₀ dest old) (hn : TempNames pr tmp dest) (k : Nat) (new : Content) :
    let s := (runAbort s₀ ((pendingAbort pr tmp fd chunks).take k)).1
    Settled s dest old ∧ OKAt s dest old new := by
  intro s
  have h := runAbort_safe hwf h0 (abort_safe hn fd chunks) k
  exact ⟨h, settled_old_ok _ h⟩

/-- Frame: whatever else the process does to the file system (error paths,
cleanups, other files' saves), as long as no syscall names `dest`, every instant
shows the version `dest` had. -/
theorem C14_unrelated_syscalls_preserve (dest : Path) (s₀ : FS) (v : Option Content)
    (hwf : WF s₀) (h0 : Settled s₀ dest v) (es : List Sys)
    (hes : ∀ e ∈ es, e.safeFor dest = true) (k : Nat) (new : Content) :
    OKAt (runAbort s₀ (es.take k)).1 dest v new :=
  settled_old_ok _ (runAbort_safe hwf h0 (List.all_eq_true.2 hes) k)

/-- After any number of earlier saves (committed, abandoned or failed half-way,
of any sizes), at every instant of the next one the path shows the complete
version `prev` that was there when it began — itself the initial version or one
of the complete versions saved before — or the complete new one. -/
theorem C14_successive_saves (dest : Path) (s₀ : FS) (old : Option Content) (hwf : WF s₀)
    (h0 : Settled s₀ dest old) (svs : List Save) (sv : Save)
    (hn : ∀ x ∈ sv :: svs, TempNames x.pr x.tmp dest) (k : Nat) :
    ∃ prev, prev ∈ old :: svs.map (fun x => some x.new) ∧
      visible (runSaves s₀ dest svs) dest = prev ∧
      OKAt (runAbort (runSaves s₀ dest svs) ((sv.prog dest).take k)).1 dest prev sv.new := by
  obtain ⟨hw, prev, hmem, hp⟩ :=
    saves_settled dest svs s₀ old hwf h0 (fun x hx => hn x (List.mem_cons_of_mem _ hx))
  exact ⟨prev, hmem, settled_visible hp,
    save_prefix sv hw hp (hn sv List.mem_cons_self) k⟩

/-! ## Several writers at once -/

/-- The set monitor the driver runs on interleaved traces of concurrent saves is
exact for the set form of the spec. -/
theorem C14_monitor_set_exact (ok : Option Content → Bool) (dest : Path) (s : FS) (es : List Sys) :
    firstBadP ok dest s es = none ↔ ∀ j, OKAtP ok (run s (es.take j)) dest :=
  firstBadP_none_iff ok dest s es

/-- ANY interleaving of any number of writers (and of anything else the process
does): if every step either does not name `dest` or renames onto it a temporary
file that is complete (a member of `V`), synced and closed — `save_good` shows it
of a saver that runs alone; among other writers it is the assumption that none of
them touches its temporary file — then at every instant `dest` shows, and a crash
leaves, the version it had or one of the complete versions `V`: two racing saves
end with one of the two complete files, never a mixture. -/
theorem C14_any_interleaving (dest : Path) (V : List Content) (es : List Sys) (s : FS)
    (v : Option Content) (hwf : WF s) (h : Settled s dest v) (hg : GoodTrace dest V s es)
    (j : Nat) :
    ∃ w, (w = v ∨ ∃ c ∈ V, w = some c) ∧ visible (run s (es.take j)) dest = w ∧
      ∀ c, AfterCrash (run s (es.take j)) dest c → c = w := by
  obtain ⟨w, hw, hs⟩ := goodTrace_settled dest V es s v hwf h hg j
  exact ⟨w, hw, settled_visible hs, fun c hc => settled_crash hs hc⟩

/-! ## Negative witnesses: what the positive theorems exclude -/

/-- `os.WriteFile` on the destination: right after its first syscall a reader
sees an EMPTY file, which is neither version (old and new non-empty). -/
theorem C14_trunc_unsafe (dest : Path) (fd : Nat) (chunks : List Content) (s₀ : FS) (c : Content)
    (h0 : Settled s₀ dest (some c)) (hc : c ≠ []) (hnew : chunks.flatten ≠ [])
    (hfd : s₀.fds fd = none) :
    visible (runAbort s₀ ((truncWrite dest fd chunks).take 1)).1 dest = some [] ∧
      ¬ OKAt (runAbort s₀ ((truncWrite dest fd chunks).take 1)).1 dest (some c) chunks.flatten := by
  obtain ⟨i, hn, hca, _⟩ := h0
  have hne : (s₀.cache i).isEmpty = false := by
    rw [hca, List.isEmpty_eq_false_iff]
    exact hc
  have hstep : step s₀ (.openWr dest fd true) =
      .ok { s₀ with cache := upd s₀.cache i [], dirty := upd s₀.dirty i true,
                    fds := upd s₀.fds fd (some (i, 0)) } := by
    simp only [step, hfd, hn, hne, Option.isSome_none, Bool.false_eq_true, if_false,
      Bool.not_false, Bool.and_self, if_true]
  have hv : visible (runAbort s₀ ((truncWrite dest fd chunks).take 1)).1 dest = some [] := by
    show visible (runAbort s₀ [.openWr dest fd true]).1 dest = some []
    rw [runAbort_cons_ok hstep]
    show Option.map _ (s₀.names dest) = _
    rw [hn]
    exact congrArg some (upd_same _ _ _)
  refine ⟨hv, fun hok => ?_⟩
  have h1 := hok.1
  rw [hv] at h1
  rcases h1 with h | h
  · exact hc (Option.some.inj h).symm
  · exact hnew (Option.some.inj h).symm

/-- The atomic writer with the `fsync` dropped: once it has completed, a crash
may leave an EMPTY file at the destination. -/
theorem C14_needs_fsync (pr : Probe) (dest tmp : Path) (fd : Nat) (chunks : List Content)
    (s₀ s : FS) (old : Option Content) (hwf : WF s₀) (hne : tmp ≠ dest)
    (h : runAbort s₀ (atomicNoSync pr dest tmp fd chunks) = (s, true))
    (hold : old ≠ some []) (hnew : chunks.flatten ≠ []) :
    AfterCrash s dest (some []) ∧ ¬ OKAt s dest old chunks.flatten := by
  obtain ⟨i, hn, _, hd⟩ := nosync_complete hne s₀ s hwf h
  have hcr : AfterCrash s dest (some []) :=
    ⟨i, hn, by simp [Survives, hd hnew]⟩
  refine ⟨hcr, fun hok => ?_⟩
  rcases hok.2 _ hcr with h1 | h1
  · exact hold h1.symm
  · exact hnew (by simpa using h1.symm)

/-! ## The monitor the driver runs on the implementation's traces -/

/-- `spec=ok` on a trace means: the property holds at every instant of the replay
of that trace in the model file system (and conversely). -/
theorem C14_monitor_exact (dest : Path) (old : Option Content) (new : Content) (s : FS)
    (es : List Sys) :
    firstBad dest old new s es = none ↔ ∀ j, OKAt (run s (es.take j)) dest old new :=
  firstBad_none_iff dest old new s es

def modelOut (s₀ : FS) (dest : Path) (sv : Save) : Out :=
  ⟨performed s₀ (sv.prog dest), sv.started && sv.commit && (runAbort s₀ (sv.prog dest)).2, 0⟩

/-- The model satisfies the spec predicate for ALL start states, contents,
chunkings, oracle values and failure points. -/
theorem C14_model_meets_spec (s₀ : FS) (dest : Path) (sv : Save) (hwf : WF s₀)
    (h0 : Settled s₀ dest (visible s₀ dest)) (hn : TempNames sv.pr sv.tmp dest) :
    specOK ⟨s₀, dest, sv.new⟩ (modelOut s₀ dest sv) = true := by
  have hfb : firstBad dest (visible s₀ dest) sv.new s₀ (performed s₀ (sv.prog dest)) = none := by
    rw [firstBad_none_iff]
    intro j
    rw [run_performed_take]
    exact save_prefix sv hwf h0 hn j
  simp only [specOK, check, In.old, modelOut, hfb, run_performed]
  cases hs : sv.started with
  | false => simp
  | true =>
    cases hc : sv.commit with
    | false => simp
    | true =>
      cases hr : runAbort s₀ (sv.prog dest) with
      | mk s ok =>
        cases ok with
        | false => simp
        | true =>
          have hr' : runAbort s₀ (atomicWrite sv.pr dest sv.tmp sv.fd sv.chunks) = (s, true) := by
            simpa [Save.prog, hc, hs] using hr
          have := settled_visible (atomic_complete hn.2.2 s₀ s hwf hr')
          simp [this, Save.new]

/-! ## Translator tie: the write sites of the current tree (regenerated every run) -/

/-- The path of the site is one of the three durable files (and not a sibling
such as `<file>.old`): `prov` is a bit set whose bit 0 stands for any other file. -/
def durable (st : Gen.Site) : Bool := decide (st.prov / 2 ≠ 0) && !st.derived

/-- The only operations allowed on a durable path: the atomic writer (0), a
pending file (1), renaming the file away (6) or removing it (7) — the last two
delete the file as a whole (filter removal, DHCP reset); they never leave
partial content. -/
def allowedOp (op : Nat) : Bool := op == 0 || op == 1 || op == 6 || op == 7

/-- Every call in the module that creates or overwrites the configuration file,
the lease database or a filter-list file goes through the atomic writer. -/
theorem C14_durable_sites_atomic :
    ∀ st ∈ Gen.sites, durable st = true → allowedOp st.op = true := by
  decide +kernel

/-- A durable path never disappears and is never rebound other than by the atomic
writer: every call that removes it, renames it away, truncates it or links
onto it is one of the explicitly reviewed deletions (DHCP reset deletes the
lease database; removing a filter list moves its file away) — neither is a
save, and no save, failed save or change of a list's URL may do such a thing. -/
theorem C14_durable_paths_never_removed :
    ∀ st ∈ Gen.sites, durable st = true → st.op ≠ 0 → st.op ≠ 1 → st.reviewed ≠ 0 := by
  decide +kernel

/-- …and they are exactly the two reviewed calls, each once. -/
theorem C14_reviewed_removals_exact :
    ((Gen.sites.filter (fun st => durable st && st.op != 0 && st.op != 1)).map (·.reviewed))
      = [1, 2] := by
  decide +kernel

/-- The monitor treats a destination that existed and is gone as a failure at
that very instant (this is what a rename-away before the download, or a removal
after a failed save, trips). -/
theorem C14_disappearance_detected (dest : Path) (c new : Content) (s : FS) (es : List Sys)
    (h : s.names dest = none) : firstBad dest (some c) new s es = some .visible := by
  unfold firstBad
  simp [visibleOK, isVersion, visible, h]

/-- Every pending temporary file is closed on all paths: by a finaliser deferred
right after its creation (`CloseReplace` or `Cleanup` on every return path), or
it is the aghrenameio wrapper handing the file to such a caller. -/
theorem C14_pending_files_finalised :
    ∀ st ∈ Gen.sites, st.op = 1 → st.fin = 1 ∨ st.fin = 2 := by
  decide +kernel

/-- The aghrenameio wrapper the filter updater writes through adds nothing of its
own: `CloseReplace`, `Cleanup` and `Write` are single delegations to renameio's
`CloseAtomicallyReplace` (fsync, close, rename), `Cleanup` and `os.File.Write` —
the syscall programs `atomicWrite` / `pendingAbort` transcribe. -/
theorem C14_wrapper_delegates : Gen.wrapperDelegates = [true, true, true] := by
  decide

/-- Completeness of CONTENT: every size limit on a path that feeds a save of one
of the three durable files is an erroring one (golibs `ioutil.LimitReader`,
`http.MaxBytesReader`): hitting it makes the read fail, the update is abandoned
through `Cleanup` and the old version stays (`C14_abandoned_update_keeps_old`).
A silent limiter (`io.LimitReader`, `io.LimitedReader`, `io.CopyN`) would end
the input with a clean EOF and a cut-off file would be installed atomically. -/
theorem C14_limits_on_save_paths_error :
    ∀ l ∈ Gen.limiters, l.durable = true → l.kind = 2 := by
  decide +kernel

/-- The extractor does see limiters, among them one on an atomic save path (the
rule-list cache of `filtering/rulelist`), and it is an erroring one. -/
theorem C14_limiters_seen : ∃ l ∈ Gen.limiters, l.atomic = true ∧ l.kind = 2 := by
  decide +kernel

/-- The table is not vacuous: each of the three kinds has a writer site in it
(config 2, leases 4, filter 8). -/
theorem C14_three_kinds_present :
    (∃ st ∈ Gen.sites, st.prov = 2 ∧ st.op = 0) ∧ (∃ st ∈ Gen.sites, st.prov = 4 ∧ st.op = 0) ∧
      (∃ st ∈ Gen.sites, st.prov = 8 ∧ st.op = 1 ∧ st.fin = 1) := by
  decide +kernel

/-- The syscall program a write site stands for (0: `renameio.WriteFile`,
1: pending file, committed or abandoned, 2: `os.WriteFile`). -/
def siteProg (op : Nat) (sv : Save) (dest : Path) : Option (List Sys) :=
  if op = 0 then some (atomicWrite sv.pr dest sv.tmp sv.fd sv.chunks)
  else if op = 1 then some (sv.prog dest)
  else if op = 2 then some (truncWrite dest sv.fd sv.chunks)
  else none

/-- Program-level statement: for every write site of the CURRENT tree whose path
is one of the three durable files, every save it performs — any content, any
oracle values, any prefix — keeps the property at every instant. -/
theorem C14_durable_sites_crash_safe (st : Gen.Site) (hst : st ∈ Gen.sites)
    (hd : durable st = true) (sv : Save) (dest : Path) (prog : List Sys)
    (hp : siteProg st.op sv dest = some prog) (s₀ : FS) (old : Option Content) (hwf : WF s₀)
    (h0 : Settled s₀ dest old) (hn : TempNames sv.pr sv.tmp dest) (k : Nat) :
    OKAt (runAbort s₀ (prog.take k)).1 dest old sv.new := by
  have hop := C14_durable_sites_atomic st hst hd
  -- the exits of `siteProg`: the atomic writer, a pending file, `os.WriteFile` (not allowed here), no program
  revert hp
  fun_cases siteProg st.op sv dest with
  | case1 =>
    rintro ⟨⟩
    exact save_prefix ⟨sv.pr, sv.tmp, sv.fd, sv.chunks, true, true⟩ hwf h0 hn k
  | case2 =>
    rintro ⟨⟩
    exact save_prefix sv hwf h0 hn k
  | case3 _ _ h => rw [h] at hop; cases hop
  | case4 => nofun

/-- Link 2 of the chain: the op codes of the generated table stand for `Save.prog`. -/
theorem C14_site_programs_are_saves (op : Nat) (hop : op = 0 ∨ op = 1) (sv : Save) (dest : Path)
    (hs : sv.started = true) :
    ∃ sv' : Save, siteProg op sv dest = some (sv'.prog dest) ∧ sv'.new = sv.new ∧
      sv'.pr = sv.pr ∧ sv'.tmp = sv.tmp := by
  rcases hop with h | h
  · refine ⟨{ sv with commit := true }, ?_, rfl, rfl, rfl⟩
    simp [siteProg, h, Save.prog, hs]
  · exact ⟨sv, by simp [siteProg, h], rfl, rfl, rfl⟩

/-! ## Crash safety under the explicit crash models (AGH/Spec/Crash.lean)

Chain from the code to this section, and where each link is established:
1. every call writing a durable path is `maybe.WriteFile` or a pending file that is
   finalised, through a wrapper that only delegates — PROVED over the table the
   extractor regenerates from the current tree (`C14_durable_sites_atomic`,
   `C14_pending_files_finalised`, `C14_wrapper_delegates`, `C14_durable_paths_never_removed`);
   the extractor itself is trusted;
2. such a call emits the syscall program `Save.prog` (probe, exclusive create, writes,
   fsync, close, rename | close, unlink) — TRANSCRIBED from renameio and SAMPLED on every run
   by strace of real saves of all three kinds (`instanceOf` in the driver, AGREE/DISAGREE);
   `C14_site_programs_are_saves` connects the table's op codes to `Save.prog`;
3. for every list of such saves, every crash point and every admissible loss set the
   destination holds a complete version — PROVED below. -/

/-- The three models are nested: what the strict model allows the ordered-journal
model allows, and what that allows the POSIX model allows. -/
theorem C14_crash_models_nested (s₀ : FS) (es : List Sys) (out : Dir) :
    (CrashDirStrict s₀ es out → CrashDirOrdered s₀ es out) ∧
      (CrashDirOrdered s₀ es out → CrashDirPosix s₀ es out) := by
  constructor
  · intro h; rw [h]; exact dirSnaps_last s₀ es
  · intro h
    unfold CrashDirOrdered at h
    unfold CrashDirPosix
    cases hds : dirSnaps s₀ es with
    | nil => exact absurd hds (dirSnaps_ne_nil s₀ es)
    | cons d ds => rw [hds] at h; exact lossy_prefix d ds h

/-- The crash model the earlier theorems use (`AfterCrash`) is the strict directory
model with a less pessimistic data layer. -/
theorem C14_strict_model_is_an_instance (s : FS) (p : Path) (c : Option Content)
    (h : AfterCrash s p c) : AfterCrashIn s.names s p c :=
  afterCrash_strict h

/-- None of the three savers ever opens an existing file in place: whatever they
actually perform consists of exclusive creates, writes to the descriptor so
obtained, fsync, close, rename and unlink. -/
theorem C14_savers_never_open_in_place (sv : Save) (dest : Path) (s : FS) :
    ∀ e ∈ performed s (sv.prog dest), e.isOpenWr = false :=
  fun e he => prog_no_openWr sv dest e (mem_of_mem_performed he)

/-- Once a version is installed at `dest` (instant `j`), its inode is never
modified again by any later syscalls of that kind (instant `k ≥ j`), across any
number of further saves: it keeps its content and survives a crash exactly.
Hence even if a crash brings the DIRECTORY back in an earlier state (the rename
was not yet durable — renameio does not fsync the directory), the file found at
`dest` is the complete version that was installed then, never a partial one. -/
theorem C14_installed_version_never_modified (dest : Path) (s₀ : FS) (hwf : WF s₀) (es : List Sys)
    (hes : ∀ e ∈ es, e.isOpenWr = false) (j k : Nat) (hjk : j ≤ k) (i : Nat) (c : Content)
    (hi : (run s₀ (es.take j)).names dest = some i)
    (hs : Settled (run s₀ (es.take j)) dest (some c)) :
    (run s₀ (es.take k)).cache i = c ∧ ∀ x, Survives (run s₀ (es.take k)) i x → x = c := by
  obtain ⟨hc, _, hd, _⟩ := frozen_stays hwf hes hjk hi (settled_frozen hs hi)
  refine ⟨hc, fun x hx => ?_⟩
  simp only [Survives, hd, Bool.false_eq_true, if_false] at hx
  rw [hx, hc]

/-- EVERY crash point, EVERY admissible loss set, pessimistic POSIX model (hence
also the ordered-journal and the strict one): after any number of saves of any
sizes — committed, abandoned, failed at any syscall — cut at any prefix `k` of the
concatenated syscall trace, whichever pending directory operations the crash
loses and whatever it does to unsynced data, the destination holds the initial
version or one of the COMPLETE versions saved (or is still absent if it never
existed): never an empty, truncated or mixed file.  No `fsync(dir)` is assumed;
the directory is taken to be durable at the start (`s₀`). -/
theorem C14_crash_safe_all_crash_points (dest : Path) (s₀ : FS) (old : Option Content)
    (hwf : WF s₀) (h0 : Settled s₀ dest old) (svs : List Save)
    (hn : ∀ sv ∈ svs, TempNames sv.pr sv.tmp dest) (k : Nat) (out : Dir) (c : Option Content)
    (hcd : CrashDirPosix s₀ ((performedSaves s₀ dest svs).take k) out)
    (hc : AfterCrashIn out (run s₀ ((performedSaves s₀ dest svs).take k)) dest c) :
    c ∈ old :: svs.map (fun sv => some sv.new) :=
  crash_keeps_settled_version hwf (performedSaves_no_openWr dest svs s₀)
    (saves_instants dest svs s₀ old hwf h0 hn) k hcd hc

/-- PARTIAL form of the property's literal wording: if the directory was durable
when the save began (journal committed, or `fsync(dir)`), a crash at any point of
that save under any of the three models leaves exactly the previous or the new
version. -/
theorem C14_previous_or_new_partial (dest : Path) (s₀ : FS) (old : Option Content)
    (hwf : WF s₀) (h0 : Settled s₀ dest old) (sv : Save) (hn : TempNames sv.pr sv.tmp dest)
    (k : Nat) (out : Dir) (c : Option Content)
    (hcd : CrashDirPosix s₀ ((performedSaves s₀ dest [sv]).take k) out)
    (hc : AfterCrashIn out (run s₀ ((performedSaves s₀ dest [sv]).take k)) dest c) :
    IsVersion old sv.new c := by
  have := C14_crash_safe_all_crash_points dest s₀ old hwf h0 [sv]
    (fun x hx => by simp at hx; subst hx; exact hn) k out c hcd hc
  simpa [IsVersion] using this

/- The full statement "after a crash at any point the path holds the complete PREVIOUS
or the complete NEW version" over SEVERAL saves is false in the ordered-journal and POSIX
models, because renameio does not fsync the directory: the renames of earlier saves may
not be durable yet.  What holds there is `C14_crash_safe_all_crash_points` (a complete
version, possibly an older one); the witness: -/

/-- Two completed saves ([1,2,3] → [7,7,7] → [9,9,9]); a crash before the journal
commits (ordered model, all pending directory operations lost) brings back [1,2,3],
which is neither the previous nor the new version — but complete. -/
theorem C14_counterexample_stale_version_without_dir_fsync :
    visible (run (FS.init [100] (some [1, 2, 3]))
        (performedSaves (FS.init [100] (some [1, 2, 3])) [100]
          [{ pr := ⟨[46, 7], [46, 8], 5, 5, .sameMount⟩, tmp := [46, 9], fd := 5,
             chunks := [[7], [7, 7]], commit := true },
           { pr := ⟨[46, 9], [46, 10], 5, 5, .sameMount⟩, tmp := [46, 11], fd := 5,
             chunks := [[9], [9, 9]], commit := true }])) [100] = some [9, 9, 9] ∧
      ∃ out, CrashDirOrdered (FS.init [100] (some [1, 2, 3]))
          (performedSaves (FS.init [100] (some [1, 2, 3])) [100]
            [{ pr := ⟨[46, 7], [46, 8], 5, 5, .sameMount⟩, tmp := [46, 9], fd := 5,
               chunks := [[7], [7, 7]], commit := true },
             { pr := ⟨[46, 9], [46, 10], 5, 5, .sameMount⟩, tmp := [46, 11], fd := 5,
               chunks := [[9], [9, 9]], commit := true }]) out ∧
        AfterCrashIn out (run (FS.init [100] (some [1, 2, 3]))
          (performedSaves (FS.init [100] (some [1, 2, 3])) [100]
            [{ pr := ⟨[46, 7], [46, 8], 5, 5, .sameMount⟩, tmp := [46, 9], fd := 5,
               chunks := [[7], [7, 7]], commit := true },
             { pr := ⟨[46, 9], [46, 10], 5, 5, .sameMount⟩, tmp := [46, 11], fd := 5,
               chunks := [[9], [9, 9]], commit := true }])) [100] (some [1, 2, 3]) := by
  refine ⟨by decide +kernel, (FS.init [100] (some [1, 2, 3])).names, ?_, ⟨0, by decide +kernel, fun _ => by decide +kernel⟩⟩
  exact dirSnaps_start (by decide +kernel)

/-- A concrete state satisfying the hypotheses, and a save that reaches the new
version: old content `[1,2,3]`, two successive saves written in two chunks each. -/
def exDest : Path := [100]
def exSave (n : Nat) : Save :=
  { pr := ⟨[46, n], [46, n + 1], 5, 5, .sameMount⟩, tmp := [46, n + 2], fd := 5,
    chunks := [[n], [n, n]], commit := true }

example : WF (FS.init exDest (some [1, 2, 3])) :=
  ⟨fun p i (h : upd (fun _ => none) exDest (some 0) p = some i) =>
      (upd_some_cases h).elim (fun ⟨_, hi⟩ => Option.some.inj hi ▸ Nat.zero_lt_one)
        (fun ⟨_, hq⟩ => nomatch hq),
    fun _ i off (h : none = some (i, off)) => nomatch h⟩

example : Settled (FS.init exDest (some [1, 2, 3])) exDest (some [1, 2, 3]) :=
  ⟨0, by simp [FS.init, upd], by simp [FS.init, upd], by simp [FS.init, upd],
    by simp [FS.init, FS.empty], by simp [FS.init, FS.empty]⟩

example : TempNames (exSave 7).pr (exSave 7).tmp exDest := by unfold TempNames; decide

/-- The save completes and the new version is visible; half-way the old one is. -/
example : visible (runSaves (FS.init exDest (some [1, 2, 3])) exDest [exSave 7, exSave 9]) exDest
    = some [9, 9, 9] := by decide +kernel

example : (runAbort (FS.init exDest (some [1, 2, 3])) ((exSave 7).prog exDest)).2 = true := by decide +kernel

example : visible (runAbort (FS.init exDest (some [1, 2, 3])) (((exSave 7).prog exDest).take 9)).1
    exDest = some [1, 2, 3] := by decide +kernel

/-- The hypothesis of `C14_needs_fsync` is satisfiable (the run completes). -/
example : (runAbort (FS.init exDest (some [1, 2, 3]))
    (atomicNoSync (exSave 7).pr exDest (exSave 7).tmp 5 [[7], [7, 7]])).2 = true := by decide +kernel

/-- The monitor rejects the truncating writer and the writer without fsync on the
same start state, and accepts the atomic one. -/
example : specOK ⟨FS.init exDest (some [1, 2, 3]), exDest, [7, 7, 7]⟩
    ⟨truncWrite exDest 5 [[7], [7, 7]], true, 0⟩ = false := by decide +kernel

example : check ⟨FS.init exDest (some [1, 2, 3]), exDest, [7, 7, 7]⟩
    ⟨atomicNoSync (exSave 7).pr exDest (exSave 7).tmp 5 [[7], [7, 7]], true, 0⟩ = some .crash := by
  decide +kernel

example : specOK ⟨FS.init exDest (some [1, 2, 3]), exDest, [7, 7, 7]⟩
    ⟨(exSave 7).prog exDest, true, 0⟩ = true := by decide +kernel

end AGH.C14
