/-
C02 — upstream answers revealing a blocked CNAME target / address / HTTPS hint
are replaced by the blocking-mode response, wherever the record sits; clean or
inapplicable answers are delivered unchanged.

Same model, same engine contract and same domain restrictions as C01 (see
`AGH/Props/C01.lean`).  `$dnsrewrite` and safe search are not modelled, so of
the "restores the original question" branch of `processFilteringAfterResponse`
only the legacy-rewrite case is covered (`C02_rewritten_restores_question`).
-/
import AGH.Props.C01
namespace AGH.Filter
open AGH AGH.Bytes

/-- The model satisfies the executable C02 spec predicate the driver evaluates
on the implementation — for all engines, configurations, upstream answers, queries. -/
theorem C02_model_meets_spec (e : Engines) (hwf : EnginesWF e) (c : Conf) (u : Upstream) (q : Query) :
    C02.specOK e c u q (handle e c u q) = true :=
  (handle_meets_monitors e hwf c u q).2

/-- **Position independence.**  Where response filtering applies, the first
answer record revealing a rule-blocked name — whatever precedes and follows
it — makes the client receive the blocking-mode response instead of the
upstream answer; the query is still forwarded exactly once, the record says
"filtered" and keeps the original answer. -/
theorem C02_position_independent (e : Engines) (hwf : EnginesWF e) (c : Conf) (u : Upstream) (q : Query)
    (pre : List RR) (rr : RR) (post : List RR)
    (hdom : reserved c q = false) (hpre0 : precededByOther e c q = false)
    (hb : blockedByRules e c q = false) (hs : serviceMayBlock e c q = false) (hob : otherBlocks e c q = false)
    (happ : respFilterApplies e c q = true)
    (hsplit : u.answer = pre ++ rr :: post)
    (hpre : ∀ x ∈ pre, offending e c x = false) (hoff : offending e c rr = true) :
    ∃ m oa, handle e c u q = .done m [q]
        (some { reason := .blockList, isFiltered := true, svcName := [], origAnswer := some oa }) ∧
      (respCandidates e c rr).any (fun (t, ips) => respBlockOK c q t ips m) = true ∧
      sameModuloStrip c oa u.answer = true := by
  obtain ⟨h, t, hfb⟩ := firstBlocked_of_offending hoff
  refine ⟨genDNSFilterMessage c q (blockResult e c h t), pre.map (stripC c) ++ stripC c rr :: post, ?_, ?_, ?_⟩
  · rw [handle_eq_main e c u q hdom, (handleMain_forward e hwf c u q hpre0 hb hs hob).2.2 happ hsplit hpre hfb]
  · exact firstBlocked_replacement e hwf c q hfb
  · rw [hsplit]; exact sameModuloStrip_stripC c pre rr post

/-- The replacement is independent of everything the upstream said except which
record is the first offending one: no record of the upstream answer is delivered. -/
theorem C02_replacement_is_local (e : Engines) (hwf : EnginesWF e) (c : Conf) (u : Upstream) (q : Query)
    (pre : List RR) (rr : RR) (post : List RR)
    (hdom : reserved c q = false) (hpre0 : precededByOther e c q = false)
    (hb : blockedByRules e c q = false) (hs : serviceMayBlock e c q = false) (hob : otherBlocks e c q = false)
    (happ : respFilterApplies e c q = true)
    (hsplit : u.answer = pre ++ rr :: post)
    (hpre : ∀ x ∈ pre, offending e c x = false) (hoff : offending e c rr = true) :
    ∃ r ql, handle e c u q = .done (genDNSFilterMessage c q r) [q] (some ql) ∧
      r.isFiltered = true ∧ r.reason = .blockList := by
  obtain ⟨h, t, hfb⟩ := firstBlocked_of_offending hoff
  exact ⟨blockResult e c h t, _, by
    rw [handle_eq_main e c u q hdom, (handleMain_forward e hwf c u q hpre0 hb hs hob).2.2 happ hsplit hpre hfb],
    rfl, rfl⟩

/-- **Allow override per record**: a record all of whose revealed names /
addresses are allowed (allow-list hit or winning `@@` exception for that very
name) is not offending, so the scan continues past it. -/
theorem C02_allow_override_per_record (e : Engines) (c : Conf) (rr : RR)
    (h : ∀ p ∈ revealed c rr, allowedName e c p.1 p.2 = true) :
    offending e c rr = false := by
  unfold offending
  cases hany : (revealed c rr).any (fun (h, t) => ruleBlockedName e c h t)
  · rfl
  · obtain ⟨p, hp, hb⟩ := List.any_eq_true.mp hany
    simp [ruleBlockedName, h p hp] at hb

/-- **Clean answers are delivered unchanged** (where the filter runs and AAAA
is disabled, HTTPS records lose their IPv6 hints — the code edits them in place). -/
theorem C02_clean_unchanged (e : Engines) (hwf : EnginesWF e) (c : Conf) (u : Upstream) (q : Query)
    (hdom : reserved c q = false) (hpre0 : precededByOther e c q = false)
    (hb : blockedByRules e c q = false) (hs : serviceMayBlock e c q = false) (hob : otherBlocks e c q = false)
    (happ : respFilterApplies e c q = true)
    (hclean : ∀ rr ∈ u.answer, offending e c rr = false) :
    ∃ ql, ql.isFiltered = false ∧ ql.origAnswer = none ∧
      handle e c u q =
        .done { u.exchange q with answer := if c.aaaaDisabled then u.answer.map stripRR else u.answer } [q] (some ql) := by
  refine ⟨forwardLog (verdict e c q), rfl, rfl, ?_⟩
  rw [handle_eq_main e c u q hdom, (handleMain_forward e hwf c u q hpre0 hb hs hob).2.1 happ hclean, map_stripC]

/-- **Not applicable ⇒ pass-through**: protection off, filtering off for the
client, or the queried name allow-listed ⇒ the upstream's message is delivered
untouched (not even the IPv6-hint edit happens). -/
theorem C02_not_applicable_passthrough (e : Engines) (hwf : EnginesWF e) (c : Conf) (u : Upstream) (q : Query)
    (hdom : reserved c q = false) (hpre0 : precededByOther e c q = false)
    (hb : blockedByRules e c q = false) (hs : serviceMayBlock e c q = false) (hob : otherBlocks e c q = false)
    (hna : protectionOn c = false ∨ filteringOn c = false ∨ allowedName e c (qhost q) q.qtype = true) :
    ∃ ql, ql.isFiltered = false ∧ ql.origAnswer = none ∧ handle e c u q = .done (u.exchange q) [q] (some ql) := by
  have happ : respFilterApplies e c q = false := by
    unfold respFilterApplies
    rcases hna with h | h | h <;> simp [h]
  exact ⟨forwardLog (verdict e c q), rfl, rfl, by
    rw [handle_eq_main e c u q hdom, (handleMain_forward e hwf c u q hpre0 hb hs hob).1 happ]⟩

/-- **A rewritten query gets its own question back.**  When a legacy rewrite maps
the name to a canonical name without addresses, the canonical name — and only
it — is resolved upstream, and the client receives the upstream's rcode and
records under the ORIGINAL question, preceded by `name CNAME canonical`.  No
response filtering takes place (the property exempts rewritten queries): the
statement holds whatever the upstream's records reveal. -/
theorem C02_rewritten_restores_question (e : Engines) (c : Conf) (u : Upstream) (q : Query)
    (hdom : reserved c q = false) (hf : filteringOn c = true) (hq : qhost q ≠ [])
    (hrw : legacyRewritten e c (qhost q) q.qtype = true)
    (hcn : rewriteCanon e c q ≠ []) (hips : rewriteIPs e c q = []) :
    ∃ m ql, handle e c u q = .done m [{ name := fqdn (rewriteCanon e c q), qtype := q.qtype }] (some ql) ∧
      m.qname = q.name ∧ m.qtype = q.qtype ∧ m.rcode = u.rcode ∧
      m.answer = { name := q.name, ttl := c.ttl, data := .cname (fqdn (rewriteCanon e c q)) } :: u.answer ∧
      ql.isFiltered = false ∧ ql.reason = .rewritten ∧ ql.origAnswer = none := by
  rw [C01_rewrite_precedes_block e c u q hdom hf hq hrw, if_pos ⟨hcn, hips⟩]
  exact ⟨_, _, rfl, rfl, rfl, rfl, rfl, rfl, rfl, rfl⟩

/-- **Only the answer section is scanned.**  Records in the authority section do
not trigger the replacement, even if they reveal blocked names: with a clean
answer section the upstream's message — authority section included — is what
the client gets. -/
theorem C02_authority_not_scanned (e : Engines) (hwf : EnginesWF e) (c : Conf) (u : Upstream) (q : Query)
    (hdom : reserved c q = false) (hpre0 : precededByOther e c q = false)
    (hb : blockedByRules e c q = false) (hs : serviceMayBlock e c q = false) (hob : otherBlocks e c q = false)
    (happ : respFilterApplies e c q = true)
    (hclean : ∀ rr ∈ u.answer, offending e c rr = false)
    (_hns : ∃ rr ∈ u.ns, offending e c rr = true) :
    ∃ m ql, handle e c u q = .done m [q] (some ql) ∧ m.ns = u.ns ∧ m.rcode = u.rcode ∧ ql.isFiltered = false := by
  obtain ⟨ql, hnf, _, h⟩ := C02_clean_unchanged e hwf c u q hdom hpre0 hb hs hob happ hclean
  exact ⟨_, ql, h, rfl, rfl, hnf⟩

theorem C02.specOK_dropLog (e : Engines) (c : Conf) (u : Upstream) (q : Query) (o : Outcome) :
    C02.specOK e c u q (dropLog o) = C02.specOK e c u q o := by
  cases o <;> rfl

/-- **Cache hits are filtered like fresh answers.**  With the dnsproxy cache in
front of the upstream, every step — hit or miss, whatever the cache holds —
satisfies the C02 spec with respect to the (stored raw or fresh) upstream
message it works on; so a stored answer revealing a blocked name is replaced
on every repetition of the query. -/
theorem C02_cached_step_meets_spec (e : Engines) (hwf : EnginesWF e) (c : Conf) (cache : Cache)
    (u : Upstream) (q : Query) :
    C02.specOK e c (usedUpstream cache u q) q (handleCached e c cache u q).1 = true := by
  unfold handleCached usedUpstream
  cases cache.lookup q with
  | none => exact C02_model_meets_spec e hwf c u q
  | some stored =>
    dsimp only
    split
    · rw [C02.specOK_dropLog]; exact C02_model_meets_spec e hwf c stored q
    · exact C02_model_meets_spec e hwf c stored q

/-- A 93.184.216.34 -/
def exA : RR := { name := [115, 105, 116, 101, 46, 101, 120, 97, 109, 112, 108, 101, 46], ttl := 60,
                  data := RData.a (some (IP.mk false 1572395042 [57, 51, 46, 49, 56, 52, 46, 50, 49, 54, 46, 51, 52])) }
/-- CNAME tracker.example. -/
def exCNAME : RR := { name := [115, 105, 116, 101, 46, 101, 120, 97, 109, 112, 108, 101, 46], ttl := 60, data := .cname [67, 68, 78, 46, 84, 114, 97, 99, 107, 101, 114, 46, 69, 120, 97, 109, 112, 108, 101, 46] }
/-- "site.example." A -/
def exQ4 : Query := { name := [115, 105, 116, 101, 46, 101, 120, 97, 109, 112, 108, 101, 46], qtype := tA }
def exConf : Conf := { toyConf with mode := .nullIP }

set_option maxRecDepth 8000 in
/-- the hypotheses of `C02_position_independent` are satisfiable: a clean A record, then a
CNAME to a sub-domain of a blocked name (mixed case), then another record -/
example : reserved exConf exQ4 = false ∧ blockedByRules (ruleEngines exBlock []) exConf exQ4 = false ∧
    serviceMayBlock (ruleEngines exBlock []) exConf exQ4 = false ∧
    respFilterApplies (ruleEngines exBlock []) exConf exQ4 = true ∧
    offending (ruleEngines exBlock []) exConf exA = false ∧
    offending (ruleEngines exBlock []) exConf exCNAME = true := by decide +kernel

/-- a legacy rewrite `ads.example → canon.example.net` in front of the rule `||ads.example^` -/
def rwConf : Conf :=
  { toyConf with rewrites := C06.prepare [{ domain := [97, 100, 115, 46, 101, 120, 97, 109, 112, 108, 101], answer := [99, 97, 110, 111, 110, 46, 101, 120, 97, 109, 112, 108, 101, 46, 110, 101, 116], parsed := none }] }
/-- "Ads.Example." A -/
def rwQ : Query := { name := [65, 100, 115, 46, 69, 120, 97, 109, 112, 108, 101, 46], qtype := tA }

/-- the hypotheses of `C01_rewrite_precedes_block` and `C02_rewritten_restores_question` are
satisfiable for a name the rules block: the rewrite applies (canonical name, no addresses) and
`||ads.example^` matches the same name -/
example : reserved rwConf rwQ = false ∧ filteringOn rwConf = true ∧ qhost rwQ ≠ [] ∧
    legacyRewritten (ruleEngines exBlock []) rwConf (qhost rwQ) tA = true ∧
    rewriteCanon (ruleEngines exBlock []) rwConf rwQ ≠ [] ∧ rewriteIPs (ruleEngines exBlock []) rwConf rwQ = [] ∧
    ruleBlockedName (ruleEngines exBlock []) rwConf (qhost rwQ) tA = true := by
  decide +kernel

end AGH.Filter
