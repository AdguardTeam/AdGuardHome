/-
C15 — a failed filter refresh changes nothing; a successful one stores a
stable normal form.  Property theorems only.

Status:
  * failure / unchanged-checksum / sequence theorems: full strength, for every
    list state, every body and every cut position;
  * normal-form theorems: what is written is proved exactly (`C15_output_shape`);
    the fixed point is proved unconditionally; the three facts about
    `bytes.TrimSpace` it rests on (sublist, idempotent, a trailing CR does not
    survive: `trimSpace_sub`, `trimSpace_idem`, `trimSpace_dropCR`) are
    proved for the model of Go's algorithm over all byte strings, invalid
    UTF-8 included (`C15_trimspace_facts` states the first two and that no
    result ends in CR);
  * rules in force: proved for every history of refreshes AND set_url requests
    (`C15_insync_invariant`, `C15_failed_refresh_keeps_rules_in_force`) for the
    code as repaired by commits f646577 (rebuild although the other array failed
    completely) and c5ab9db (rebuild when URL / enabled flag changed although the
    download brought nothing new).  Both defects were found by this check; the
    witnesses are kept in corpus/C15/refresh.txt as regression cases.
-/
import AGH.Lemmas.RuleListLink
import AGH.Lemmas.RuleListBurst
import AGH.Gen.C15Refresh
namespace AGH.C15
open AGH AGH.Bytes

/-- Whatever makes `update` return an error — no connection, non-200,
unreadable local file, HTML, binary, a line too long, a body cut at ANY byte —
leaves file, rule count and checksum of the list exactly as they were. -/
theorem C15_failure_changes_nothing (flt : Flt) (f : Fetch) (h : fetchFails f = true) :
    refreshOne flt f = flt :=
  refreshOne_of_none (updateIntl_none_of_fails h)

/-- A body that is cut short is a failure wherever the cut falls (before the
first byte, mid-line, at a line boundary): for every delivered prefix. -/
theorem C15_cut_body_fails (data : Bytes) : fetchFails (.body data false) = true := by
  simp only [fetchFails]
  cases h : (parse data false).err with
  | none => exact absurd h (parse_incomplete data)
  | some e => rfl

/-- HTML where the list should start, and binary bytes in a rule line, make
the parse fail (stated on the scanner's lines). -/
theorem C15_html_binary_fail (src : Bytes) (c : Bool) (h : (parse src c).err = none) :
    (∀ k rest, keptLines (scanLines (src.length + 1) src c).1 = k :: rest → isHTMLLine k = false) ∧
    (∀ k ∈ keptLines (scanLines (src.length + 1) src c).1, k.any likelyBinary = false) := by
  obtain ⟨_, h5, h6⟩ := runLines_ok_iff.mp h
  exact ⟨h6 rfl, h5⟩

/-- Content whose checksum is unchanged is not rewritten: file, count and
checksum stay (only the modification time moves, which the model omits). -/
theorem C15_same_checksum_no_rewrite (flt : Flt) (data : Bytes) (c : Bool)
    (h : (parse data c).st.crc = flt.checksum) : refreshOne flt (.body data c) = flt := by
  apply refreshOne_of_none
  rw [updateIntl_body, if_neg fun hh => hh.2 h]

/-- A refresh that does replace the file stores exactly the parser's output
of one complete body, with that parse's count and checksum. -/
theorem C15_success_stores_parse (flt : Flt) (f : Fetch) (h : refreshOne flt f ≠ flt) :
    ∃ data, f = .body data true ∧ (parse data true).err = none ∧
      (refreshOne flt f).file = some (parse data true).out ∧
      (refreshOne flt f).count = (parse data true).st.count ∧
      (refreshOne flt f).checksum = (parse data true).st.crc := by
  rcases refreshOne_cases flt f with hr | ⟨data, hf, he, hr⟩
  · exact absurd hr h
  · rw [hr]; exact ⟨data, hf, he, rfl, rfl, rfl⟩

/-- Over ANY sequence of refreshes with arbitrary per-request outcome, the
list is at every moment either pristine or exactly in the state produced by
ONE successful complete download (never a mixture, never a partial file). -/
theorem C15_refresh_sequence (flt : Flt) (fs : List Fetch) (h : Consistent flt) :
    Consistent (fs.foldl refreshOne flt) :=
  List.foldlRecOn fs refreshOne h fun _ hc f _ => refreshOne_consistent f hc

/-- … and a suffix of failures does not move it: the state after the whole
history is the state after its last successful, checksum-changing refresh. -/
theorem C15_failures_are_invisible (flt : Flt) (fs : List Fetch) (h : ∀ f ∈ fs, fetchFails f = true) :
    fs.foldl refreshOne flt = flt :=
  List.foldlRecOn (motive := (· = flt)) fs refreshOne rfl fun _ ha f hf =>
    ha ▸ C15_failure_changes_nothing flt f (h f hf)

/-- In a whole `tryRefreshFilters` call over both arrays: a list that is not
attempted, or whose download fails, keeps file, count and checksum — also
when other lists of the batch succeed. -/
theorem C15_batch_failure_changes_nothing (rq : Req) (ls : List LState) (ins : List (Bool × Fetch))
    (i : Nat) (l : LState) (due : Bool) (f : Fetch) (hl : ls[i]? = some l) (hi : ins[i]? = some (due, f))
    (hf : attempted rq l due = false ∨ fetchFails f = true) :
    ((refreshStep rq ls ins)[i]?).map (·.flt) = some l.flt := by
  obtain ⟨b, hg⟩ := refreshStep_get rq hl hi
  rw [hg, Option.map_some, reloaded_flt, attemptOn_eq_self (hf.imp_right updateIntl_none_of_fails)]

/-- The stored form is the normal form of what the scanner delivered: the
trimmed lines that are neither blank nor comments, in order, each followed by
`\n`; the count is their number and the checksum the CRC over them. -/
theorem C15_output_shape (src : Bytes) (h : (parse src true).err = none) :
    (parse src true).out = joinLines (keptLines (scanLines (src.length + 1) src true).1) ∧
    (parse src true).st.count = (keptLines (scanLines (src.length + 1) src true).1).length ∧
    (parse src true).st.crc = crcLines 0 (keptLines (scanLines (src.length + 1) src true).1) := by
  obtain ⟨h1, h2, h3⟩ := runLines_ok_out h
  exact ⟨h1, h2.trans (Nat.zero_add _), h3⟩

/-- `bytes.TrimSpace` (Go 1.26 algorithm, every byte string): the result is a
sublist of the input, trimming is idempotent, and the result never ends in a
carriage return. -/
theorem C15_trimspace_facts :
    (∀ x : Bytes, (trimSpace x).Sublist x) ∧ (∀ x : Bytes, trimSpace (trimSpace x) = trimSpace x) ∧
    (∀ x : Bytes, (trimSpace x).getLast? ≠ some 13) :=
  ⟨trimSpace_sub, trimSpace_idem, trimSpace_noCR⟩

/-- The stored form is a fixed point of the parser: parsing it again (what
`load` does after a restart) succeeds, writes the same bytes and yields the
same rule count and checksum. -/
theorem C15_normal_form_fixed_point (src : Bytes) (h : (parse src true).err = none) :
    (parse (parse src true).out true).err = none ∧
    (parse (parse src true).out true).out = (parse src true).out ∧
    (parse (parse src true).out true).st.count = (parse src true).st.count ∧
    (parse (parse src true).out true).st.crc = (parse src true).st.crc := by
  obtain ⟨hout, hcnt, hcrc, _⟩ := parse_normal src h
  rw [hout, hcnt, hcrc]
  exact parse_normalForm src h

/-- At every point of every refresh history the stored count and checksum are
what a restart (`load`: parse the file) computes from the file. -/
theorem C15_metadata_describes_file (flt : Flt) (fs : List Fetch) (h : Consistent flt)
    (out : Bytes) (hf : (fs.foldl refreshOne flt).file = some out) :
    (parse out true).err = none ∧ (parse out true).out = out ∧
    (parse out true).st.count = (fs.foldl refreshOne flt).count ∧
    (parse out true).st.crc = (fs.foldl refreshOne flt).checksum := by
  rcases C15_refresh_sequence flt fs h with ⟨hn, _, _⟩ | ⟨data, he, hfile, hcnt, hck⟩
  · rw [hn] at hf; cases hf
  · rw [hfile] at hf
    simp only [Option.some.injEq] at hf
    subst hf
    obtain ⟨h1, h2, h3, h4⟩ := C15_normal_form_fixed_point data he
    exact ⟨h1, h2, by rw [h3, hcnt], by rw [h4, hck]⟩

/-- The engine's view of every list stays equal to its file (`none` for a
disabled list) across every history of `tryRefreshFilters` calls and set_url
requests with arbitrary selections, due flags and download outcomes (code as
repaired by f646577 and c5ab9db). -/
theorem C15_insync_invariant (ls : List LState) (h : List HOp)
    (h0 : ∀ l ∈ ls, InSync l) : ∀ l ∈ runHist h ls, InSync l :=
  List.foldlRecOn (motive := fun ls => ∀ l ∈ ls, InSync l) h _ h0 fun ls h0 c _ => by
    cases c with
    | refresh rq ins => exact refreshStep_insync rq ls ins h0
    | setURL i rq f => exact setURLStep_insync ls i rq f h0

/-- With bursts of handler calls (each only REQUESTS the rebuild; the latest
request replaces the one still waiting; `updatesLoop` runs later): at every
moment the waiting task describes the list set as it is now, and whenever
nothing is waiting — in particular right after the loop step — the engine's
view equals the files of the lists enabled in the configuration accepted last. -/
theorem C15_burst_invariant (s : BState) (ops : List BOp) (h : BInv s) : BInv (runB ops s) :=
  List.foldlRecOn ops _ h fun s hs op _ => stepB_inv s op hs

/-- After the loop step nothing is waiting, so the engine is in sync. -/
theorem C15_burst_drained_in_sync (s : BState) (ops : List BOp) (h : BInv s) :
    (runB (ops ++ [.loop]) s).pending = none ∧ ∀ l ∈ (runB (ops ++ [.loop]) s).ls, InSync l := by
  have hi := C15_burst_invariant s (ops ++ [.loop]) h
  have hp : (runB (ops ++ [.loop]) s).pending = none := by
    simp only [runB, List.foldl_append, List.foldl_cons, List.foldl_nil, stepB, drain]
    cases hp : (List.foldl stepB s ops).pending with
    | none => simpa using hp
    | some snap => rfl
  exact ⟨hp, hi.2 hp⟩

/-- In any state in which the engine agrees with the files — every state
reached by a history of refreshes and set_url requests (`C15_insync_invariant`)
and every drained state of a history with bursts (`C15_burst_invariant`) — a
refresh that fails for a list, or does not attempt it, leaves its file, count,
checksum AND its rules in force exactly as they were, whatever happens to the
other lists in the same call. -/
theorem C15_failed_refresh_keeps_rules_in_force (ls : List LState)
    (h0 : ∀ l ∈ ls, InSync l) (rq : Req) (ins : List (Bool × Fetch))
    (i : Nat) (l : LState) (due : Bool) (f : Fetch) (hl : ls[i]? = some l)
    (hi : ins[i]? = some (due, f)) (hf : attempted rq l due = false ∨ fetchFails f = true) :
    ((refreshStep rq ls ins)[i]?).map (·.inForce) = some l.inForce ∧
    ((refreshStep rq ls ins)[i]?).map (·.flt) = some l.flt := by
  have hs : InSync l := h0 l (List.mem_of_getElem? hl)
  refine ⟨?_, C15_batch_failure_changes_nothing rq _ ins i l due f hl hi hf⟩
  rw [refreshStep_unchanged rq hl hi hs (hf.imp_right updateIntl_none_of_fails)]
  rfl

/-- What a successful refresh stores is the monitor's normal form of the
fetched body — split at LF, each line trimmed, blank lines and `#`/`!`
comments dropped, each kept line followed by LF — with the number of kept
lines as count and their CRC-32 as checksum; HTML documents and bodies with
binary rule lines never parse.  (This ties the scanner-based parser — 64 KiB
token limit, `dropCR` — to the LF-split definition of the property text, on
every body.) -/
theorem C15_stored_form_is_normal_form (src : Bytes) (h : (parse src true).err = none) :
    (parse src true).out = normalForm src ∧
    (parse src true).st.count = (specLines src).length ∧
    (parse src true).st.crc = crcLines 0 (specLines src) ∧
    htmlDoc src = false ∧ binaryDoc src = false :=
  parse_normal src h

/-- **The byte-level parser equals the declarative normal form.**  For every
byte string the parser accepts (`bufio.Scanner` line splitting with `dropCR`
and the 64 KiB token limit, `bytes.TrimSpace` with its Unicode set on valid and
invalid UTF-8, `#`/`!` comment classes — `##…` cosmetic rules are comments too,
there is no exception —, title extraction, the HTML test on the first line that
would be written, the binary test on rule lines, running CRC-32 over the
trimmed rule lines): bytes written = `normalForm src`, count = number of its
lines, checksum = CRC over them. -/
theorem C15_parser_equals_normal_form (src : Bytes) (h : (parse src true).err = none) :
    (parse src true).out = normalForm src ∧
    (parse src true).st.count = (specLines src).length ∧
    (parse src true).st.crc = crcLines 0 (specLines src) :=
  ⟨(parse_normal src h).1, (parse_normal src h).2.1, (parse_normal src h).2.2.1⟩

/-- **Which byte strings are accepted** — declaratively, for every byte
string: the parser succeeds on a complete body exactly when the body is not an
HTML document (first kept line starts with `<html` / `<!doctype`, any case),
no kept line has a control byte other than TAB (CR/LF cannot occur), and no
LF-terminated line — CR included — is 65 536 bytes or longer.  Together with
`C15_parser_equals_normal_form` the parser is fully described on complete
bodies; on a cut body it always fails (`C15_cut_body_fails`). -/
theorem C15_acceptance_characterised (src : Bytes) :
    (parse src true).err = none ↔
      (htmlDoc src = false ∧ binaryDoc src = false ∧ ∀ l ∈ splitOn nl src, l.length < maxToken) :=
  parse_accepts_iff src

/-- The normal form is idempotent — for EVERY byte string, accepted or not. -/
theorem C15_normal_form_idempotent (src : Bytes) : normalForm (normalForm src) = normalForm src := by
  unfold normalForm
  rw [specLines_joinLines (specLines src) (specLines_mem src)]

/-- Re-parsing the stored form (what `load` does at start-up) yields the same
bytes, the same rule count and the same checksum, at byte level. -/
theorem C15_reparse_same_count_and_checksum (src : Bytes) (h : (parse src true).err = none) :
    (parse (normalForm src) true).err = none ∧
    (parse (normalForm src) true).out = normalForm src ∧
    (parse (normalForm src) true).st.count = (parse src true).st.count ∧
    (parse (normalForm src) true).st.crc = (parse src true).st.crc := by
  have := C15_normal_form_fixed_point src h
  rw [(parse_normal src h).1] at this
  exact this

/-- Each failure the property enumerates (cut body, HTML, binary content,
failed transfer / unreadable file) is a failure of `update`. -/
theorem C15_enumerated_failures_fail (f : Fetch) (h : fetchBad f = true) : fetchFails f = true :=
  fetchBad_fails f h

/-- The model's parser satisfies the parser monitor on every text, complete or
cut short. -/
theorem C15_parse_meets_spec (src : Bytes) (complete : Bool) :
    parseSpecWhy src complete (parseObsOf src complete) = none := by
  unfold parseSpecWhy parseObsOf
  cases he : (parse src complete).err with
  | some e => simp
  | none =>
    cases complete with
    | false => exact absurd he (parse_incomplete src)
    | true =>
      obtain ⟨h1, h2, h3, h4, h5⟩ := parse_normal src he
      obtain ⟨f1, f2, f3, f4⟩ := C15_normal_form_fixed_point src he
      simp [h4, h5, h1.symm, h2.symm, h3.symm, f1, f2, f3, f4]

/-- **The model satisfies the refresh monitor in every in-sync state (every
reachable state, see `C15_insync_invariant` / `C15_burst_invariant`), for
every list of every call**: not attempted, failed, succeeded with unchanged
checksum, succeeded and rewritten.  The last argument of `obsOf` is the model's
"file was replaced". -/
theorem C15_model_meets_spec (ls : List LState)
    (h0 : ∀ l ∈ ls, InSync l) (rq : Req) (ins : List (Bool × Fetch))
    (i : Nat) (l l' : LState) (due : Bool) (f : Fetch) (hl : ls[i]? = some l)
    (hi : ins[i]? = some (due, f)) (hl' : (refreshStep rq ls ins)[i]? = some l') :
    refreshSpecWhy i (obsOf i l false) f (attempted rq l due)
      (obsOf i l' (attempted rq l due && (updateIntl l.flt.checksum f).isSome)) = none := by
  have hs : InSync l := h0 l (List.mem_of_getElem? hl)
  by_cases hn : attempted rq l due = false ∨ updateIntl l.flt.checksum f = none
  · -- nothing is stored: nothing changes, and the monitor asks for no more
    have hrew : (attempted rq l due && (updateIntl l.flt.checksum f).isSome) = false := by
      rcases hn with hn | hn <;> simp [hn]
    rw [Option.some.inj (hl'.symm.trans (refreshStep_unchanged rq hl hi hs hn)), hrew]
    refine refreshSpecWhy_unchanged _ _ _ _ rfl fun hatt data hf hhtml hbin hshort => ?_
    -- a complete acceptable body parses; it was not stored, so its checksum is the stored one
    have hok := (C15_acceptance_characterised data).mpr ⟨hhtml, hbin, hshort⟩
    rw [← (parse_normal data hok).2.2.1]
    refine Decidable.byContradiction fun hne => ?_
    have hu := hn.resolve_left (by rw [hatt]; decide)
    rw [hf, updateIntl_body, if_pos ⟨hok, hne⟩] at hu; cases hu
  · -- a complete body was parsed and stored
    rw [not_or, Bool.not_eq_false] at hn
    obtain ⟨hatt, hne⟩ := hn
    cases hu : updateIntl l.flt.checksum f with
    | none => exact absurd hu hne
    | some p =>
      obtain ⟨cnt, ck, out⟩ := p
      obtain ⟨data, rfl, hok, hck, rfl, rfl, rfl⟩ := updateIntl_some hu
      obtain ⟨b, hg⟩ := refreshStep_get rq hl hi
      have hflt := congrArg LState.flt (Option.some.inj (hl'.symm.trans hg))
      rw [reloaded_flt, attemptOn_flt, hatt, if_pos rfl, refreshOne, hu] at hflt
      obtain ⟨hout, hcnt, hcrc, hhtml, hbin⟩ := parse_normal data hok
      obtain ⟨_, _, fx3, fx4⟩ := C15_normal_form_fixed_point data hok
      -- `l'` carries exactly that parse
      obtain ⟨flt', al, inf⟩ := l'
      subst hflt
      rw [hatt]
      exact refreshSpecWhy_stored i _ _ data hhtml hbin hck (congrArg some hout) hcnt hcrc fx3 fx4

/-! ### set_url (not a refresh: what the code guarantees there) -/

/-- A refused set_url request (duplicate URL, or the download for the new URL
/ newly enabled list failed) leaves the list's URL, enabled flag, rule count
and file as they were.  The checksum is the one exception (observation O1):
it is what the download was compared against — zero after a URL change. -/
theorem C15_seturl_failure_guarantee (flt : Flt) (rq : SetReq) (f : Fetch)
    (h : (setProps flt rq f).res = .err) :
    (setProps flt rq f).urlChanged = false ∧ (setProps flt rq f).flt.enabled = flt.enabled ∧
    (setProps flt rq f).flt.count = flt.count ∧ (setProps flt rq f).flt.file = flt.file ∧
    ((setProps flt rq f).flt.checksum = flt.checksum ∨
      (rq.changed = true ∧ (setProps flt rq f).flt.checksum = 0)) := by
  rcases setProps_cases flt rq f with h1 | ⟨_, h2⟩ | ⟨_, _, _, h3⟩ | ⟨_, h4⟩
  · rw [h1]; exact ⟨rfl, rfl, rfl, rfl, Or.inl rfl⟩
  · rw [h2] at h; cases h
  · rw [h3] at h; cases h
  · rw [h4] at h ⊢
    rcases setDownload_cases flt _ rq.changed f with ⟨c, k, out, _, hs⟩ | ⟨_, _, hs⟩ | ⟨_, _, hs⟩
    · rw [hs] at h; cases h
    · rw [hs]
      refine ⟨rfl, rfl, rfl, rfl, ?_⟩
      cases hc : rq.changed with
      | false => left; simp
      | true => right; simp
    · rw [hs] at h; cases h

/-- Observation O1, consequence: after a FAILED set_url that tried a new URL,
the next refresh of the old URL stores byte-identical content again — the
file is rewritten although the checksum of the content did not change. -/
theorem C15_observation_O1_rewrite_after_failed_seturl (flt : Flt) (rq : SetReq) (f : Fetch) (data : Bytes)
    (hok : (parse data true).err = none) (hfile : flt.file = some (parse data true).out)
    (hck : flt.checksum = (parse data true).st.crc) (hnz : (parse data true).st.crc ≠ 0)
    (hch : rq.changed = true) (hdup : rq.dup = false) (hen : rq.enabled = true) (hff : fetchFails f = true) :
    (setProps flt rq f).res = .err ∧
    (updateIntl (setProps flt rq f).flt.checksum (.body data true)).isSome = true ∧
    (refreshOne (setProps flt rq f).flt (.body data true)).file = flt.file := by
  -- the request goes to the download against the list with zeroed metadata, which fails
  have hsp : setProps flt rq f = ⟨⟨flt.enabled, flt.count, 0, flt.file⟩, false, .err⟩ := by
    obtain ⟨changed, dup, en⟩ := rq
    simp only at hch hdup hen
    subst hch hdup hen
    rcases setDownload_cases flt ⟨true, 0, 0, flt.file⟩ true f with ⟨c, k, out, hu, _⟩ | ⟨_, _, hs⟩ | ⟨_, hn, _⟩
    · rw [updateIntl_none_of_fails hff] at hu; cases hu
    · exact hs
    · rw [hff] at hn; cases hn
  rw [hsp]
  have hu : updateIntl 0 (.body data true) =
      some ((parse data true).st.count, (parse data true).st.crc, (parse data true).out) := by
    rw [updateIntl_body, if_pos ⟨hok, hnz⟩]
  refine ⟨rfl, by simp [hu], ?_⟩
  simp [refreshOne, hu, hfile]

/-- Whenever a set_url request replaces the list's file, it stores exactly
what a refresh would: the normal form of the complete body, its line count and
checksum. -/
theorem C15_seturl_success_stores_normal_form (flt : Flt) (rq : SetReq) (f : Fetch)
    (h : (setProps flt rq f).flt.file ≠ flt.file) :
    ∃ data, f = .body data true ∧ (parse data true).err = none ∧
      (setProps flt rq f).res = .ok true ∧
      (setProps flt rq f).flt.file = some (normalForm data) ∧
      (setProps flt rq f).flt.count = (specLines data).length ∧
      (setProps flt rq f).flt.checksum = crcLines 0 (specLines data) := by
  rcases setProps_cases flt rq f with h1 | ⟨_, h2⟩ | ⟨_, _, _, h3⟩ | ⟨_, h4⟩
  · rw [h1] at h; exact absurd rfl h
  · rw [h2] at h; exact absurd rfl h
  · rw [h3] at h; exact absurd rfl h
  · rw [h4] at h ⊢
    rcases setDownload_cases flt _ rq.changed f with ⟨c, k, out, hu, hs⟩ | ⟨_, _, hs⟩ | ⟨_, _, hs⟩
    · obtain ⟨data, rfl, hok, _, rfl, rfl, rfl⟩ := updateIntl_some hu
      obtain ⟨h1, h2, h3, _, _⟩ := parse_normal data hok
      rw [hs]
      exact ⟨data, rfl, hok, rfl, by simp [h1], h2, h3⟩
    · rw [hs] at h; exact absurd rfl h
    · rw [hs] at h; exact absurd rfl h

/-- Observation O2 (outside C15's refresh wording; code as repaired by
c5ab9db): a set_url to a NEW URL whose list has no rules (checksum 0, e.g. an
empty body) is accepted; the list now carries the new URL with count 0 and
checksum 0, nothing is stored, the engine IS rebuilt — from the stored file of
that list id, which is still the OLD URL's content: the old URL's rules stay
on disk and in force under the new URL. -/
theorem C15_observation_O2_empty_list_keeps_old_file (ls : List LState) (i : Nat) (l : LState)
    (old : Bytes) (hl : ls[i]? = some l) (hf : l.flt.file = some old) :
    (setProps l.flt ⟨true, false, true⟩ (.body [] true)) = ⟨⟨true, 0, 0, some old⟩, true, .ok true⟩ ∧
    ((setURLStep ls i ⟨true, false, true⟩ (.body [] true)).1[i]?).map (fun x => (x.flt.file, x.inForce)) =
      some (some old, some old) := by
  have hsp : setProps l.flt ⟨true, false, true⟩ (.body [] true) = ⟨⟨true, 0, 0, some old⟩, true, .ok true⟩ := by
    obtain ⟨⟨fe, cnt, ck, file⟩, al, inf⟩ := l
    simp only at hf
    subst hf
    cases fe <;> simp [setProps, setDownload, updateIntl_body, fetchFails, parse, scanLines, runLines, PState.init]
  refine ⟨hsp, ?_⟩
  unfold setURLStep
  rw [hl]
  simp only [hsp]
  have hi : i < ls.length := (List.getElem?_eq_some_iff.mp hl).1
  simp [hi]

/-- Over ANY history of refreshes and set_url requests on a list: there is no
file and the metadata are zero, or the file is exactly the stored form of one
complete successful download, and count and checksum are each zero or those of
that download — never those of other content. -/
theorem C15_mixed_history_invariant (flt : Flt) (ops : List LOp) (h : WeakConsistent flt) :
    WeakConsistent (ops.foldl applyOp flt) := by
  refine List.foldlRecOn ops applyOp h fun flt h op _ => ?_
  cases op with
  | refresh f =>
    show WeakConsistent (refreshOne flt f)
    exact (refreshOne_eq_or_consistent flt f).elim (fun hr => by rw [hr]; exact h) Consistent.weak
  | setURL rq f =>
    -- `setProps` keeps the file and each of count and checksum, or zeroes them, or stores a download
    have keep : ∀ (e : Bool) (c k : Nat), (c = 0 ∨ c = flt.count) → (k = 0 ∨ k = flt.checksum) →
        WeakConsistent ⟨e, c, k, flt.file⟩ := by
      intro e c k hc hk
      rcases h with ⟨hn, h0c, h0k⟩ | ⟨data, he, hf, hcnt, hck⟩
      · exact Or.inl ⟨hn, hc.elim id (·.trans h0c), hk.elim id (·.trans h0k)⟩
      · exact Or.inr ⟨data, he, hf, hc.elim Or.inl (· ▸ hcnt), hk.elim Or.inl (· ▸ hck)⟩
    have zeroed : ∀ (b : Bool) (x : Nat), (if b then 0 else x) = 0 ∨ (if b then 0 else x) = x := by
      intro b x; cases b
      · exact Or.inr rfl
      · exact Or.inl rfl
    show WeakConsistent (setProps flt rq f).flt
    rcases setProps_cases flt rq f with h1 | ⟨_, h2⟩ | ⟨_, _, _, h3⟩ | ⟨_, h4⟩
    · rw [h1]; exact h
    · rw [h2]; exact keep _ _ _ (Or.inl rfl) (Or.inl rfl)
    · rw [h3]; exact keep _ _ _ (Or.inr rfl) (Or.inr rfl)
    · rw [h4]
      rcases setDownload_cases flt _ rq.changed f with ⟨c, k, out, hu, hs⟩ | ⟨_, _, hs⟩ | ⟨_, _, hs⟩
      · obtain ⟨data, _, he, _, rfl, rfl, rfl⟩ := updateIntl_some hu
        rw [hs]
        exact Or.inr ⟨data, he, rfl, Or.inr rfl, Or.inr rfl⟩
      · rw [hs]; exact keep _ _ _ (Or.inr rfl) (zeroed _ _)
      · rw [hs]; exact keep _ _ _ (zeroed _ _) (zeroed _ _)

/-- **The stored file is always ONE body.**  After any history of refreshes and
set_url requests on a list that started without a file: there is no file, or
the file is the normal form of exactly one complete response body that the
parser accepted — never a mixture of two answers, never a prefix.  (Follows
from `C15_mixed_history_invariant` and `C15_parser_equals_normal_form`; the
code makes one request per list and update and writes each pending file from
one response only.) -/
theorem C15_stored_is_one_body (en : Bool) (ops : List LOp) :
    (ops.foldl applyOp ⟨en, 0, 0, none⟩).file = none ∨
    ∃ data, (parse data true).err = none ∧
      (ops.foldl applyOp ⟨en, 0, 0, none⟩).file = some (normalForm data) := by
  rcases C15_mixed_history_invariant ⟨en, 0, 0, none⟩ ops (Or.inl ⟨rfl, rfl, rfl⟩) with ⟨h, _, _⟩ | ⟨data, he, hf, _, _⟩
  · exact Or.inl h
  · exact Or.inr ⟨data, he, by rw [hf, (parse_normal data he).1]⟩

/-! ### Non-vacuity -/

-- a successful parse with title, comment, blank line, CRLF and surrounding spaces
example : (parse [33, 32, 84, 105, 116, 108, 101, 58, 32, 88, 10, 35, 99, 10, 10, 32, 124, 124, 97, 94, 9, 13, 10, 98] true)
    = ⟨⟨[88], true, 2, 7, (parse [124, 124, 97, 94, 10, 98, 10] true).st.crc⟩, [124, 124, 97, 94, 10, 98, 10], none⟩ := by
  decide +kernel
-- HTML, binary and a cut body fail
example : (parse [60, 72, 84, 77, 76, 62] true).err = some .html := by decide +kernel
example : (parse [97, 10, 98, 0, 99] true).err = some (.binary 2 2 0) := by decide +kernel
example : (parse [97, 10, 98] false).err = some .read := by decide +kernel
-- a consistent, non-pristine list state exists and a refresh does change it
example : refreshOne ⟨true, 0, 0, none⟩ (.body [97, 10] true) ≠ ⟨true, 0, 0, none⟩ := by decide +kernel

-- observations about the parser, as the code is (none contradicts C15):
-- a UTF-8 BOM is not white space for `bytes.TrimSpace`, so "\ufeff! c" is kept as a RULE line
example : (parse [0xEF, 0xBB, 0xBF, 33, 32, 99, 10] true).st.count = 1 := by decide +kernel
-- "##.ad" (a cosmetic rule) starts with '#': dropped as a comment, like every "#…" line
example : (parse [35, 35, 46, 97, 100, 10, 97, 10] true).out = [97, 10] := by decide +kernel
-- an HTML opener AFTER a rule line is stored as a rule (the test only guards the first written line)
example : (parse [97, 10, 60, 104, 116, 109, 108, 62, 10] true).err = none := by decide +kernel
-- … while one after comments and blank lines only is refused
example : (parse [35, 99, 10, 10, 60, 104, 116, 109, 108, 62, 10] true).err = some .html := by decide +kernel

-- regression case of the defect repaired by f646577 (corpus/C15/refresh.txt): lists 0 = allow,
-- 1 = block, 2 = block; the allow array fails completely while block list 1 is updated —
-- its new rules are in force at once.
example :
    ((refreshStep ⟨true, true, true⟩
        [⟨⟨true, 0, 0, none⟩, true, none⟩, ⟨⟨true, 0, 0, none⟩, false, none⟩, ⟨⟨true, 0, 0, none⟩, false, none⟩]
        [(true, .fail), (true, .body [124, 124, 97, 10] true), (true, .fail)])[1]?).map (·.inForce)
      = some (some [124, 124, 97, 10]) := by decide +kernel


/-! ## Translator tie: the commit / abandon decision as the source states it (regenerated per run)

`extract/cmd/c15` rewrites `Gen/C15Refresh.lean` from the typed syntax of
`internal/filtering/filter.go`.  The model's refresh step (`Model/RuleList.lean`,
`Model/FilterConfig.lean`) commits exactly when the parse succeeded AND the
checksum differs, touches the list's recorded state only after the file was
replaced, and abandons the pending file otherwise; these theorems say the
current source has that shape. -/

/-- `updateIntl`: the pending file exists and `finalizeUpdate` is registered
BEFORE the source is opened and parsed (so every later failure goes through
it); the refresh counts as updated only when the checksum differs AND no error
occurred, and the error is handed on. -/
theorem C15_T_update_skeleton :
    Gen.C15.updateSteps =
      ["NewPendingFile", "defer:finalizeUpdate", "reader", "defer:Close", "Get", "defer:Put", "NewParser", "Parse"] ∧
      Gen.C15.updatedConj = [("res.Checksum", "!=", "flt.checksum"), ("err", "==", "nil")] ∧
      Gen.C15.updatedErrResult = "err" := by
  decide +kernel

/-- `finalizeUpdate`: not updated ⇒ the pending file is cleaned up and nothing
else happens; updated ⇒ the file is replaced first, a failure of the
replacement returns before anything is recorded, and only then title,
checksum and rule count of the list change. -/
theorem C15_T_finalize_skeleton :
    Gen.C15.abandonGuard = "!updated" ∧
      Gen.C15.abandonEvents = [("return", ""), ("call", "file.Cleanup")] ∧
      Gen.C15.commitEvents =
        [("call", "file.CloseReplace"), ("return", ""), ("call", "flt.ensureName"), ("assign", "flt.checksum"),
         ("assign", "flt.RulesCount"), ("return", "")] := by
  decide +kernel

/-- On the regenerated facts: an error never counts as an update (the conjunct
`err == nil` is present), and no field of the list is assigned on the abandon
branch or before the replacement on the commit path. -/
theorem C15_T_failure_records_nothing :
    Gen.C15.updatedConj.contains ("err", "==", "nil") = true ∧
      Gen.C15.abandonEvents.all (fun e => e.1 != "assign" && (e.1 != "call" || e.2 == "file.Cleanup")) = true ∧
      (Gen.C15.commitEvents.takeWhile (· != ("call", "file.CloseReplace"))).all (fun e => e.1 != "assign") = true ∧
      Gen.C15.commitEvents.head? = some ("call", "file.CloseReplace") ∧
      (Gen.C15.commitEvents.drop 1).head? = some ("return", "") := by
  decide +kernel

end AGH.C15
