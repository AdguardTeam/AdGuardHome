/-
C06 — custom DNS rewrites follow the documented precedence and always terminate.

Every theorem quantifies over ALL tables, names and query types and — because
`slices.SortFunc` is unstable above 12 elements — over every `Sorter` (any
function returning a sorted permutation; `Bytes → Sorter` lets the tie-breaking
differ from one looked-up name to the next).
-/
import AGH.Lemmas.RewritesOrder
import AGH.Lemmas.RewritesMonitor
import AGH.Lemmas.RewritesTable
import AGH.Lemmas.RewritesLock
import AGH.Gen.C06Sites
namespace AGH.C06
open AGH AGH.Bytes

def asc (str : String) : Bytes := str.toList.map Char.toNat

/-- A configured entry `domain → answer`, normalized as the code does; `ip` is
the parsed address (`none` for a name, with the flag saying IPv4). -/
def ent (domain answer : String) (ip : Option Bool := none) : Entry :=
  normalize ⟨asc domain, asc answer, ip.map (fun is4 => (is4, asc answer))⟩

/-- Byte-exact reading, any table at all: whatever sorted permutation the
runtime's sort produces at each name, the result of `processRewrites` is
acceptable to the spec. -/
theorem C06_meets_spec_exact_any_sort (srt : Bytes → Sorter) (tbl : List Entry) (h : Bytes) (q : Nat) :
    Spec.specExact tbl h q (processRewritesWith srt tbl h q) = true :=
  specExact_process srt tbl h q

/-! ### The monitor proper (names case-insensitive)

`normalize` lower-cases `Domain` and (repair 3bb3ec2, finding C06-F1) a CNAME
`Answer`, so that the configured names are in lower case is DERIVED, not
assumed: every table that went through `prepareRewrites` has lower-case names
(`C06_prepared_names_lower`), `CheckHost` lower-cases the queried name, and the
theorems hold for every configured table `rs`, every name and type and every
tie-breaking of the sort.  The witnesses of C06-F1 are regression cases in
`corpus/C06` and `example`s below. -/

/-- What `normalize` guarantees: patterns and CNAME answers of a prepared table
are in lower case. -/
theorem C06_prepared_names_lower (rs : List Raw) : Spec.LowerNames (prepare rs) :=
  prepare_lowerNames rs

/-- `∀ i, specOK i (model i)`: for every configured table, `processRewrites` on
the prepared table and the lower-cased name (what `CheckHost` passes) is
acceptable to the case-insensitive monitor. -/
theorem C06_model_meets_spec (srt : Bytes → Sorter) (rs : List Raw) (h : Bytes) (q : Nat) :
    Spec.specOK (prepare rs) (lower h) q
      (processRewritesWith srt (prepare rs) (lower h) q) = true :=
  specOK_process srt (prepare rs) (lower h) q (prepare_lowerNames rs) (lower_idem h)

/-- The same for the rewrite part of `CheckHost`, any spelling of the name. -/
theorem C06_checkhost_meets_spec (srt : Bytes → Sorter) (rs : List Raw) (h : Bytes) (q : Nat)
    (hne : h ≠ []) :
    Spec.specOK (prepare rs) h q (checkHostWith srt (prepare rs) h q) = true :=
  specOK_checkHost srt (prepare rs) h q hne (prepare_lowerNames rs)

/-- More generally, for any table (prepared or not) whose names are in lower
case. -/
theorem C06_meets_spec_lower_names (srt : Bytes → Sorter) (tbl : List Entry) (h : Bytes) (q : Nat)
    (hl : Spec.LowerNames tbl) (hh : lower h = h) :
    Spec.specOK tbl h q (processRewritesWith srt tbl h q) = true :=
  specOK_process srt tbl h q hl hh

/-- The CNAME loop follows at most `tbl.length` CNAMEs, whatever the table
(cycles of any length, starting anywhere) and the sort: the followed names are
pairwise distinct answers of CNAME entries of the table.  (`chase` itself is
accepted by Lean's termination checker with the measure `unvisited`, the number
of table entries whose answer has not been visited.) -/
theorem C06_terminates (srt : Bytes → Sorter) (tbl : List Entry) (h : Bytes) (q : Nat) :
    (processRun srt tbl h q).visited.length ≤ tbl.length ∧
    (processRun srt tbl h q).visited.Nodup ∧
    (∀ v ∈ (processRun srt tbl h q).visited, ∃ e ∈ tbl, e.typ = .CNAME ∧ e.answer = v) :=
  ⟨Nat.le_trans (process_visited_le srt tbl h q) (List.length_filter_le _ _),
    process_ghost srt tbl h q⟩

/-- The bound, sharpened: the number of CNAMEs followed is at most the number of
CNAME entries in the table — a table with `k` CNAME entries costs at most `k + 1`
calls of `findRewrites`, whatever cycles it contains. -/
theorem C06_terminates_cname_bound (srt : Bytes → Sorter) (tbl : List Entry) (h : Bytes) (q : Nat) :
    (processRun srt tbl h q).visited.length ≤ (tbl.filter (fun e => e.typ == .CNAME)).length :=
  process_visited_le srt tbl h q

/-- Every address in the result belongs to a table entry of the requested
family whose pattern covers the finally resolved name. -/
theorem C06_ips_from_table (srt : Bytes → Sorter) (tbl : List Entry) (h : Bytes) (q : Nat)
    (ip : Bytes) (hip : ip ∈ (processRewritesWith srt tbl h q).ips) :
    ∃ e ∈ tbl, e.ip = some ip ∧ e.typ.code = q ∧ (q = qA ∨ q = qAAAA) ∧
      matchesHost e (processRun srt tbl h q).final = true := by
  obtain ⟨e, he, hv⟩ := process_ips_most_specific srt tbl h q ip hip
  exact ⟨e, specAddrs_value (mostSpecific_subset _ e he) hv⟩

/-- … and more precisely of one of the MOST SPECIFIC address-kind entries that
bear on the query there (exact ones if any, else the longest wildcards) — for
every table and tie-breaking, no tie-freeness assumed. -/
theorem C06_ips_from_most_specific (srt : Bytes → Sorter) (tbl : List Entry) (h : Bytes) (q : Nat)
    (ip : Bytes) (hip : ip ∈ (processRewritesWith srt tbl h q).ips) :
    ∃ e ∈ Spec.mostSpecific (specAddrs tbl (processRun srt tbl h q).final q),
      Spec.value e q = some ip :=
  process_ips_most_specific srt tbl h q ip hip

/-- `*.s` does not cover the apex `s` itself … -/
theorem C06_wildcard_not_apex (s : Bytes) : matchDomainWildcard s (42 :: 46 :: s) = false := by
  unfold matchDomainWildcard hasSuffix
  simp only [isWildcard, List.drop_succ_cons, List.drop_zero, Bool.true_and]
  rw [Bool.eq_false_iff]
  intro h
  have := (List.isSuffixOf_iff_suffix.mp h).length_le
  simp at this
  omega

/-- … and covers every name under it, at any depth. -/
theorem C06_wildcard_covers_subdomains (p s : Bytes) :
    matchDomainWildcard (p ++ 46 :: s) (42 :: 46 :: s) = true := by
  unfold matchDomainWildcard hasSuffix
  simp only [isWildcard, List.drop_succ_cons, List.drop_zero, Bool.true_and]
  exact List.isSuffixOf_iff_suffix.mpr (List.suffix_append p (46 :: s))

/-- CNAME over address: whenever some CNAME entry covers the name, the entry
the loop looks at (`rewrites[0]`) is a CNAME entry covering it — whatever
address entries exist, exact or not — and it is a most specific one: exact if
an exact CNAME entry exists, otherwise a wildcard of maximal length. -/
theorem C06_cname_over_address (s : Sorter) (tbl : List Entry) (host : Bytes) (q : Nat)
    (h : ∃ e ∈ tbl, e.typ = .CNAME ∧ matchesHost e host = true) :
    ∃ c tl, (findRewritesWith s tbl host q).1 = c :: tl ∧ c.typ = .CNAME ∧ c ∈ tbl ∧
      matchesHost c host = true ∧
      (∀ e ∈ tbl, e.typ = .CNAME → matchesHost e host = true →
        (isWildcard e.domain = false → isWildcard c.domain = false) ∧
        (isWildcard c.domain = true → e.domain.length ≤ c.domain.length)) := by
  obtain ⟨e0, he0, hc0, hm0⟩ := h
  have hcand0 : e0 ∈ candidates tbl host q := mem_candidates.mpr ⟨he0, hm0, matchesQType_cname hc0 q⟩
  cases hfr : (findRewritesWith s tbl host q).1 with
  | nil => rw [find_nil hfr] at hcand0; cases hcand0
  | cons a tl =>
    obtain ⟨_, hamem, hmin, _⟩ := find_head_view hfr
    have hac : a.typ = .CNAME := cname_of_le_cname (hmin e0 hcand0) hc0
    obtain ⟨hmem, hsp⟩ := mem_mostSpecific_iff.mp (head_cname_mostSpecific hamem hac hmin)
    obtain ⟨m1, m2, _⟩ := mem_specCnames.mp hmem
    exact ⟨a, tl, rfl, hac, m1, m2, fun e he hc hm => hsp e (mem_specCnames.mpr ⟨he, hm, hc⟩)⟩

/-- Exact shadows wildcard: without a covering CNAME, if some exact entry
bears on the query then exactly the exact applicable entries are kept (all of
them, in some order) and no wildcard entry. -/
theorem C06_exact_shadows_wildcard (s : Sorter) (tbl : List Entry) (host : Bytes) (q : Nat)
    (hno : ∀ e ∈ tbl, matchesHost e host = true → e.typ ≠ .CNAME)
    (hex : ∃ e ∈ candidates tbl host q, isWildcard e.domain = false) :
    (findRewritesWith s tbl host q).1.Perm
        ((candidates tbl host q).filter (fun e => !isWildcard e.domain)) ∧
    (∀ e ∈ (findRewritesWith s tbl host q).1, isWildcard e.domain = false ∧ e.domain = host) := by
  have hp := find_exact_perm s q hno hex
  refine ⟨hp, ?_⟩
  intro e he
  have := hp.subset he
  rw [List.mem_filter] at this
  have hw : isWildcard e.domain = false := by simpa using this.2
  exact ⟨hw, domain_eq_of_matches_not_wild (mem_candidates.mp this.1).2.1 hw⟩

/-- Most specific wildcard wins: without a covering CNAME and without an exact
applicable entry, a single wildcard entry is kept and no applicable entry has a
longer pattern. -/
theorem C06_most_specific_wildcard (s : Sorter) (tbl : List Entry) (host : Bytes) (q : Nat)
    (hno : ∀ e ∈ tbl, matchesHost e host = true → e.typ ≠ .CNAME)
    (hall : ∀ e ∈ candidates tbl host q, isWildcard e.domain = true)
    (hne : candidates tbl host q ≠ []) :
    ∃ w, (findRewritesWith s tbl host q).1 = [w] ∧ w ∈ candidates tbl host q ∧
      ∀ e ∈ candidates tbl host q, e.domain.length ≤ w.domain.length :=
  find_wild_single s q hno hall hne

/-- A name the table does not cover is left alone. -/
theorem C06_unmatched_untouched (srt : Bytes → Sorter) (tbl : List Entry) (h : Bytes) (q : Nat)
    (hun : ∀ e ∈ tbl, matchesHost e h = false) :
    processRewritesWith srt tbl h q = Out.empty ∧
    dispatch (processRewritesWith srt tbl h q) = .pass := by
  have hm : tbl.any (matchesHost · h) = false :=
    List.any_eq_false.mpr fun e he => by simp [hun e he]
  unfold processRewritesWith
  rw [processRun_unmatched srt q hm]
  exact ⟨rfl, rfl⟩

/-- `name → itself` / `pattern → itself` / "back to the queried name": if every
most specific CNAME entry for the queried name is such an exception, the query
passes through untouched, for every query type. -/
theorem C06_cname_exception_passes (srt : Bytes → Sorter) (tbl : List Entry) (h : Bytes) (q : Nat)
    (hsome : ∃ e ∈ tbl, e.typ = .CNAME ∧ matchesHost e h = true)
    (hexc : ∀ e ∈ Spec.mostSpecific (specCnames tbl h), e.answer = h ∨ e.answer = e.domain) :
    processRewritesWith srt tbl h q = Out.empty := by
  obtain ⟨a, ha, hrun⟩ := process_of_cname srt tbl h q hsome
  unfold processRewritesWith
  rw [hrun, if_pos (hexc a ha)]

/-- `A` / `AAAA` exception: without a covering CNAME, an exact exception entry
of the requested family makes the query pass through (not rewritten), whatever
other entries say. -/
theorem C06_family_exception_passes (srt : Bytes → Sorter) (tbl : List Entry) (h : Bytes) (q : Nat)
    (hno : ∀ e ∈ tbl, matchesHost e h = true → e.typ ≠ .CNAME)
    (hx : ∃ x ∈ tbl, x.domain = h ∧ isWildcard x.domain = false ∧ x.typ.code = q ∧ x.ip = none) :
    (processRewritesWith srt tbl h q).rewritten = false ∧
    dispatch (processRewritesWith srt tbl h q) = .pass := by
  obtain ⟨x, hxt, hxd, hxw, hxc, hxip⟩ := hx
  have hxm : matchesHost x h = true := by simp [matchesHost, hxd]
  have hxn : x.typ ≠ .CNAME := hno x hxt hxm
  have hfam := family_of_code_eq hxn q hxc
  have hxq : matchesQType x q = true := by
    rcases hfam with rfl | rfl <;> simp [matchesQType, hxn, hxip]
  have hxcand : x ∈ candidates tbl h q := mem_candidates.mpr ⟨hxt, hxm, hxq⟩
  have hp := find_exact_perm (srt h) q hno ⟨x, hxcand, hxw⟩
  have hxin : x ∈ (findRewritesWith (srt h) tbl h q).1 :=
    hp.symm.subset (List.mem_filter.mpr ⟨hxcand, by simp [hxw]⟩)
  have hr : (processRewritesWith srt tbl h q).rewritten = false :=
    (process_of_no_cname srt tbl h q ⟨x, hxt, hxm⟩ hno).1
      (List.any_eq_true.mpr ⟨x, hxin, by simp [Spec.passesFamily, hxip, hxc]⟩)
  refine ⟨hr, ?_⟩
  unfold dispatch
  simp [hr]

/-- No data: a name the table covers, without a covering CNAME and without a
value or exception for the requested type (other family only, or a query type
other than A/AAAA), gets an empty successful answer produced locally — it is
neither passed through nor sent upstream. -/
theorem C06_nodata (srt : Bytes → Sorter) (tbl : List Entry) (h : Bytes) (q : Nat)
    (hcov : ∃ e ∈ tbl, matchesHost e h = true)
    (hnoval : ∀ e ∈ tbl, matchesHost e h = true →
      e.typ ≠ .CNAME ∧ Spec.value e q = none ∧ Spec.passesFamily e q = false) :
    processRewritesWith srt tbl h q = ⟨true, [], []⟩ ∧
    dispatch (processRewritesWith srt tbl h q) = .answer [] [] := by
  have hfacts : ∀ e ∈ (findRewritesWith (srt h) tbl h q).1,
      Spec.value e q = none ∧ Spec.passesFamily e q = false := by
    intro e he
    obtain ⟨m1, m2, _⟩ := mem_candidates.mp (find_mem_candidates he)
    exact (hnoval e m1 m2).2
  have hany : (findRewritesWith (srt h) tbl h q).1.any (Spec.passesFamily · q) = false := by
    rw [List.any_eq_false]
    intro e he
    simp [(hfacts e he).2]
  have hvals : (findRewritesWith (srt h) tbl h q).1.filterMap (Spec.value · q) = [] :=
    List.filterMap_eq_nil_iff.mpr fun e he => (hfacts e he).1
  rw [(process_of_no_cname srt tbl h q hcov (fun e he hm => (hnoval e he hm).1)).2 hany, hvals]
  exact ⟨rfl, rfl⟩

/-- Query types other than A and AAAA (HTTPS, MX, TXT, ANY, …): a covered name
without a covering CNAME gets the empty successful answer, locally. -/
theorem C06_other_qtype_empty (srt : Bytes → Sorter) (tbl : List Entry) (h : Bytes) (q : Nat)
    (hq : q ≠ qA ∧ q ≠ qAAAA)
    (hcov : ∃ e ∈ tbl, matchesHost e h = true)
    (hno : ∀ e ∈ tbl, matchesHost e h = true → e.typ ≠ .CNAME) :
    processRewritesWith srt tbl h q = ⟨true, [], []⟩ ∧
    dispatch (processRewritesWith srt tbl h q) = .answer [] [] := by
  apply C06_nodata srt tbl h q hcov
  intro e he hm
  have hne := hno e he hm
  have hcode : e.typ.code ≠ q := by
    intro hc
    rcases family_of_code_eq hne q hc with h' | h'
    · exact hq.1 h'
    · exact hq.2 h'
  refine ⟨hne, ?_, ?_⟩
  · simp [Spec.value, hcode]
  · simp [Spec.passesFamily, hcode]

/-- CNAME to upstream: when every most specific CNAME entry for the queried
name points at the same name `t` (no exception) and the table does not cover
`t`, the result carries the canonical name `t` and no address; dnsforward then
asks the upstream for `t` (and restores the original question afterwards). -/
theorem C06_cname_upstream (srt : Bytes → Sorter) (tbl : List Entry) (h t : Bytes) (q : Nat)
    (hsome : ∃ e ∈ tbl, e.typ = .CNAME ∧ matchesHost e h = true)
    (hall : ∀ e ∈ Spec.mostSpecific (specCnames tbl h), e.answer = t ∧ e.domain ≠ t)
    (hth : t ≠ h) (htne : t ≠ [])
    (hun : ∀ e ∈ tbl, matchesHost e t = false) :
    processRewritesWith srt tbl h q = ⟨true, t, []⟩ ∧
    dispatch (processRewritesWith srt tbl h q) = .upstream t := by
  have hres : processRewritesWith srt tbl h q = ⟨true, t, []⟩ := by
    obtain ⟨a, ha, hrun⟩ := process_of_cname srt tbl h q hsome
    obtain ⟨hat, hadt⟩ := hall a ha
    have hexc : ¬ (a.answer = h ∨ a.answer = a.domain) := by
      rw [hat]
      rintro (h' | h')
      · exact hth h'
      · exact hadt h'.symm
    have hnil : (findRewritesWith (srt t) tbl t q).1 = [] :=
      find_unmatched _ q (List.any_eq_false.mpr fun e he => by simp [hun e he])
    unfold processRewritesWith
    rw [hrun, if_neg hexc, hat, chase_nil hnil]
  rw [hres]
  refine ⟨rfl, ?_⟩
  unfold dispatch
  simp [htne]

/-- What the client and the upstream see is acceptable to the DNS-level monitor,
for every configured table, question and upstream rcode: the upstream is asked
only for a pass-through (under the name itself) or an unfinished CNAME (under
the canonical name; the reply then carries the ORIGINAL question and the CNAME
record first, whatever the upstream's rcode); everything else is answered
locally with NOERROR, possibly empty. -/
theorem C06_dns_meets_spec (srt : Bytes → Sorter) (rs : List Raw) (h : Bytes) (q rc : Nat)
    (hne : h ≠ []) :
    Spec.dnsSpecOK (prepare rs) h q rc (respondWith srt (prepare rs) h q rc) = true :=
  dnsSpecOK_respond srt (prepare rs) h q rc hne (prepare_lowerNames rs)

/-- A rewritten query never reaches the rule engines: the verdict does not
depend on the loaded rules. -/
theorem C06_rewrite_short_circuits (srt : Bytes → Sorter) (tbl : List Entry) (rules : List Bytes)
    (h : Bytes) (q : Nat) (hr : (checkHostWith srt tbl h q).rewritten = true) :
    checkHostFull srt tbl rules h q = .rewritten (checkHostWith srt tbl h q) := by
  simp [checkHostFull, hr]

/-- A query the rewrites pass through (exception, or name not in the table) is
judged by the rule engines. -/
theorem C06_pass_through_reaches_filters (srt : Bytes → Sorter) (tbl : List Entry)
    (rules : List Bytes) (h : Bytes) (q : Nat) (hne : h ≠ [])
    (hr : (checkHostWith srt tbl h q).rewritten = false) :
    checkHostFull srt tbl rules h q =
      if blockedBy rules (lower h) = true then .blocked else .notFound := by
  simp [checkHostFull, hr, hne]

/-- The full `CheckHost` verdict is acceptable for every configured table. -/
theorem C06_verdict_meets_spec (srt : Bytes → Sorter) (rs : List Raw) (rules : List Bytes)
    (h : Bytes) (q : Nat) :
    Spec.verdictOK (prepare rs) rules h q (checkHostFull srt (prepare rs) rules h q) = true := by
  by_cases hne : h = []
  · subst hne
    simp [checkHostFull, checkHostWith, Out.empty, Spec.verdictOK]
  · have hspec := C06_checkhost_meets_spec srt rs h q hne
    cases hr : (checkHostWith srt (prepare rs) h q).rewritten
    · have hemp := checkHost_not_rewritten srt (prepare rs) h q hr
      rw [hemp] at hspec
      unfold checkHostFull
      simp only [hr, Bool.false_eq_true, if_false]
      by_cases hb : blockedBy rules (lower h) = true <;>
        simp [hne, hb, Spec.verdictOK, specOK_lower, hspec]
    · unfold checkHostFull
      simp [hr, Spec.verdictOK, specOK_lower, hspec]

/-- Saving the configuration does not change the table the server answers from.
(Trivially true of the model, where `cloneRewrites` is a faithful copy; the point
is that the sequence harness checks it on the code, where home hands
`WriteDiskConfig` the very `*Config` the filter runs on.) -/
theorem C06_config_write_preserves_table (tbl : List Entry) :
    (stepTable tbl .write).1 = tbl := rfl

/-- Add / delete / update through the HTTP handlers (and a config write) turn the
prepared form of a configured list into the prepared form of the edited list. -/
theorem C06_edits_yield_prepared (rs : List Raw) (op : TableOp) :
    (stepTable (prepare rs) op).1 = prepare (Spec.editRaws rs op) :=
  stepTable_prepare rs op

/-- Stateful form of `C06_model_meets_spec`: after EVERY history of operations
on a filter created from ANY configured list, the live table is the prepared
form of the edited list, satisfies the spec's table check, and every lookup is
acceptable to the monitor. -/
theorem C06_history_meets_spec (srt : Bytes → Sorter) (rs : List Raw) (ops : List TableOp)
    (h : Bytes) (q : Nat) :
    runTable (prepare rs) ops = prepare (ops.foldl Spec.editRaws rs) ∧
    Spec.tableOK (ops.foldl Spec.editRaws rs) ((runTable (prepare rs) ops).map Spec.rowOf) = true ∧
    Spec.specOK (prepare (ops.foldl Spec.editRaws rs)) (lower h) q
      (processRewritesWith srt (runTable (prepare rs) ops) (lower h) q) = true := by
  have ht := runTable_prepare rs ops
  refine ⟨ht, ?_, ?_⟩
  · simp [Spec.tableOK, ht]
  · rw [ht]
    exact C06_model_meets_spec srt _ h q

/-- add: the normalized entry is appended; nothing is validated or de-duplicated
(adding the same pair twice keeps both). -/
theorem C06_api_add_appends (tbl : List Entry) (r : Raw) :
    stepTable tbl (.add r) = (tbl ++ [normalize r], true) := rfl

/-- delete: exactly the entries whose stored pair is the given one go — all
duplicates of it, nothing else — and the others keep their order. -/
theorem C06_api_delete_exact (tbl : List Entry) (d a : Bytes) :
    (∀ e, e ∈ (stepTable tbl (.del d a)).1 ↔ e ∈ tbl ∧ sameKey d a e = false) ∧
    (stepTable tbl (.del d a)).1.Sublist tbl ∧
    ((stepTable tbl (.del d a)).1 ++ tbl.filter (sameKey d a)).Perm tbl := by
  refine ⟨?_, ?_, ?_⟩
  · intro e
    simp [stepTable, List.mem_filter]
  · exact List.filter_sublist
  · simp only [stepTable]
    have := List.filter_append_perm (sameKey d a) tbl
    exact (List.perm_append_comm).trans this

/-- update: the FIRST entry with the target pair is replaced in place by the
normalized new entry (position kept, further duplicates of the target stay);
without such an entry the request fails and the table is untouched. -/
theorem C06_api_update_replaces_first (tbl : List Entry) (td ta : Bytes) (u : Raw) :
    (∃ pre e post, tbl = pre ++ e :: post ∧ sameKey td ta e = true ∧
        (∀ x ∈ pre, sameKey td ta x = false) ∧
        stepTable tbl (.upd td ta u) = (pre ++ normalize u :: post, true)) ∨
    ((∀ x ∈ tbl, sameKey td ta x = false) ∧ stepTable tbl (.upd td ta u) = (tbl, false)) := by
  rcases replaceFirst_cases (sameKey td ta) (normalize u) tbl with
    ⟨pre, e, post, h1, h2, h3, h4⟩ | ⟨h1, h2⟩
  · left; exact ⟨pre, e, post, h1, h2, h3, by simp [stepTable, h4]⟩
  · right; exact ⟨h1, by simp [stepTable, h2]⟩

/-- update = delete + add, atomically, when the target occurs once: the same
entries (as a multiset) as deleting the target and adding the new entry — but
in one step and at the old position. -/
theorem C06_api_update_is_delete_add (tbl : List Entry) (td ta : Bytes) (u : Raw)
    (pre post : List Entry) (e : Entry) (htbl : tbl = pre ++ e :: post)
    (he : sameKey td ta e = true)
    (hpre : ∀ x ∈ pre, sameKey td ta x = false) (hpost : ∀ x ∈ post, sameKey td ta x = false) :
    stepTable tbl (.upd td ta u) = (pre ++ normalize u :: post, true) ∧
    (stepTable tbl (.upd td ta u)).1.Perm
      (stepTable (stepTable tbl (.del td ta)).1 (.add u)).1 := by
  have hupd : stepTable tbl (.upd td ta u) = (pre ++ normalize u :: post, true) := by
    simp only [stepTable, htbl, replaceFirst_append _ _ e pre post hpre he]
  refine ⟨hupd, ?_⟩
  rw [hupd]
  have hdel : (stepTable tbl (.del td ta)).1 = pre ++ post := by
    simp only [stepTable, htbl, List.filter_append, List.filter_cons, he, Bool.not_true,
      Bool.false_eq_true, if_false]
    have f1 : pre.filter (fun e => !sameKey td ta e) = pre :=
      List.filter_eq_self.mpr (fun x hx => by simp [hpre x hx])
    have f2 : post.filter (fun e => !sameKey td ta e) = post :=
      List.filter_eq_self.mpr (fun x hx => by simp [hpost x hx])
    rw [f1, f2]
  rw [hdel]
  simp only [stepTable]
  have : (pre ++ normalize u :: post).Perm (normalize u :: (pre ++ post)) := List.perm_middle
  exact this.trans ((List.perm_append_comm (l₁ := [normalize u]) (l₂ := pre ++ post)))

/-- A rejected request (malformed JSON) changes nothing. -/
theorem C06_api_rejected_changes_nothing (tbl : List Entry) : stepTable tbl .bad = (tbl, false) := rfl

/-- Persistence: after any history on a filter created from any configured
list, saving the configuration and creating a new filter from what was saved
(`domain`/`answer` only) gives the same table, derived fields included. -/
theorem C06_api_reload_same_table (rs : List Raw) (ops : List TableOp) :
    stepTable (runTable (prepare rs) ops) .reload = (runTable (prepare rs) ops, true) := by
  rw [runTable_prepare]
  simp only [stepTable]
  rw [reload_prepare]

/-- `GET /control/rewrite/list` shows the configured list after any history. -/
theorem C06_api_list_shows_configured (rs : List Raw) (ops : List TableOp) :
    Spec.listOK (ops.foldl Spec.editRaws rs) (listTable (runTable (prepare rs) ops)) = true := by
  rw [runTable_prepare]
  simp [Spec.listOK, listTable]

/-- Evaluation is atomic with respect to table updates: the result of a lookup
that runs concurrently with a history of table states is the result for the
table at ONE instant — never a mixture of two states (trivial in the model,
where the read lock spans the whole evaluation; the concurrent mode of the
sequence harness checks it on the code: every answer seen while the update
handler flips an entry must be an answer of the table before or after). -/
theorem C06_evaluation_atomic (srt : Bytes → Sorter) (states : List (List Entry)) (i : Nat)
    (h : Bytes) (q : Nat) (o : Out) (ho : evalDuring srt states i h q = some o) :
    ∃ t ∈ states, o = processRewritesWith srt t h q ∧
      (Spec.LowerNames t → lower h = h → Spec.specOK t h q o = true) := by
  unfold evalDuring at ho
  cases ht : states[i]? with
  | none => rw [ht] at ho; cases ho
  | some t =>
    rw [ht] at ho
    simp only [Option.map_some, Option.some.injEq] at ho
    refine ⟨t, List.mem_of_getElem? ht, ho.symm, ?_⟩
    intro hl hh
    rw [← ho]
    exact C06_meets_spec_lower_names srt t h q hl hh

/-! ## Translator tie: which lock each access of the table holds (regenerated per run)

`evalDuring` (one table state per evaluation) is not a fact about the rewrite
logic but about `confMu`.  The lock-machine theorems of `Lemmas/RewritesLock`
say what the discipline buys; the three theorems below say that the CURRENT
source follows it.  `Gen.C06.*` is rewritten from the typed syntax of
`internal/filtering` on every run (`extract/cmd/c06`). -/

/-- Rows `(function, read/write, guard)` follow the discipline: a write holds
the write lock, a read holds either; functions in `ctor` run before the filter
is published (construction) and are exempt. -/
def Disciplined (ctor : List String) (rows : List (String × String × String)) : Bool :=
  rows.all fun r => ctor.contains r.1 ||
    (if r.2.1 == "write" then r.2.2 == "W" else r.2.2 == "W" || r.2.2 == "R")

/-- Every access to `Config.Rewrites` in the package is under `confMu` (writes
under the write lock); the one exemption, `prepareRewrites`, is called from the
constructor `New` only. -/
theorem C06_T_table_access_disciplined :
    Disciplined ["DNSFilter.prepareRewrites"] Gen.C06.tableSites = true ∧
      Gen.C06.prepareCallers = ["New"] ∧
      ("DNSFilter.processRewrites", "read", "R") ∈ Gen.C06.tableSites := by
  decide +kernel

/-- The evaluation takes the read lock first, releases it only by the deferred
unlock, and both table lookups (before and inside the CNAME loop) read the
field itself — not a snapshot taken under an earlier hold. -/
theorem C06_T_evaluation_one_hold :
    Gen.C06.evalHeadLocked = true ∧ Gen.C06.evalOtherLockOps = 0 ∧
      Gen.C06.lookupSites = [("DNSFilter.processRewrites", true), ("DNSFilter.processRewrites", true)] := by
  decide +kernel

/-- The CNAME loop does its steps in the order of `chase`: the two exits (name
onto itself / wildcard self-match), then `host = answer`, the visited test with
its exit, the insertion, the next lookup.  `C06_terminates` rests on the visited
test preceding the lookup. -/
theorem C06_T_loop_order :
    Gen.C06.loopEvents = ["return", "break", "assign-host", "has", "return", "add", "lookup"] := by
  decide +kernel

/-- What the discipline buys, for every schedule the readers–writer lock
accepts: all reads made under one read hold see the table version current when
the hold began, and no write is accepted while a reader holds. -/
theorem C06_lock_discipline_gives_one_state (es : List Lock.Ev) (s : Lock.LS)
    (h : Lock.run {} es = some s) :
    (∀ r ∈ s.seen, r.2.1 = r.2.2) ∧ (s.held ≠ [] → ∀ t, Lock.step s (.write t) = none) :=
  ⟨Lock.reads_of_one_hold_one_version es s h,
   fun hh t => Lock.no_write_inside_read_hold es s t h hh⟩

/-! ## Order of entries and tie-breaking of the sort

Full statement (DESIGN: `C06_order_independent`, `C06_sort_agnostic`):

    ∀ t₁ t₂ h q srt₁ srt₂, t₁.Perm t₂ →
      OutEquiv (processRewritesWith srt₁ t₁ h q) (processRewritesWith srt₂ t₂ h q)

It is FALSE for the code: `findRewrites` keeps ONE of several equally specific
wildcard entries and follows ONE of several equally specific CNAME entries —
the first in table order (stable sort, ≤ 12 candidates) or whichever the
unstable sort leaves first.  `C06_counterexample_*` exhibit this on concrete
tables; `C06_order_independent_partial` proves the statement for tables without
such ties. -/

/-- Swapping `*.x.com → AAAA` and `*.x.com → 1.1.1.1` changes the answer to
`a.x.com A` from "empty" to `1.1.1.1`. -/
theorem C06_counterexample_wildcard_tie :
    ∃ t₁ t₂ : List Entry, ∃ h : Bytes, ∃ q : Nat, t₁.Perm t₂ ∧
      ¬ Spec.OutEquiv (processRewrites t₁ h q) (processRewrites t₂ h q) := by
  refine ⟨[ent "*.x.com" "AAAA", ent "*.x.com" "1.1.1.1" (some true)],
          [ent "*.x.com" "1.1.1.1" (some true), ent "*.x.com" "AAAA"],
          asc "a.x.com", 1, List.Perm.swap _ _ _, ?_⟩
  have e₁ : processRewrites [ent "*.x.com" "AAAA", ent "*.x.com" "1.1.1.1" (some true)]
      (asc "a.x.com") 1 = ⟨true, [], []⟩ := by decide +kernel
  have e₂ : processRewrites [ent "*.x.com" "1.1.1.1" (some true), ent "*.x.com" "AAAA"]
      (asc "a.x.com") 1 = ⟨true, [], [asc "1.1.1.1"]⟩ := by decide +kernel
  rw [e₁, e₂]
  rintro ⟨_, h2⟩
  have := (h2 rfl).2.length_eq
  simp at this

/-- Two CNAME entries for one name: the first in table order is followed. -/
theorem C06_counterexample_cname_tie :
    ∃ t₁ t₂ : List Entry, ∃ h : Bytes, ∃ q : Nat, t₁.Perm t₂ ∧
      ¬ Spec.OutEquiv (processRewrites t₁ h q) (processRewrites t₂ h q) := by
  refine ⟨[ent "a.x.com" "b.x.com", ent "a.x.com" "c.x.com"],
          [ent "a.x.com" "c.x.com", ent "a.x.com" "b.x.com"],
          asc "a.x.com", 1, List.Perm.swap _ _ _, ?_⟩
  have e₁ : processRewrites [ent "a.x.com" "b.x.com", ent "a.x.com" "c.x.com"]
      (asc "a.x.com") 1 = ⟨true, asc "b.x.com", []⟩ := by decide +kernel
  have e₂ : processRewrites [ent "a.x.com" "c.x.com", ent "a.x.com" "b.x.com"]
      (asc "a.x.com") 1 = ⟨true, asc "c.x.com", []⟩ := by decide +kernel
  rw [e₁, e₂]
  rintro ⟨_, h2⟩
  have := (h2 rfl).1
  revert this
  decide +kernel

/-- Unconditionally: the SET of results the code can produce (over all
tie-breakings of the sort) does not depend on the order of the entries — for
whatever the sort does on one order, some sort yields exactly the same run
(result, finally resolved name, followed names) on any other order.  What is
unspecified is exactly the choice among equally specific CNAME entries / equally
specific wildcard address entries, and the order of the exact addresses. -/
theorem C06_outcome_set_order_independent (s₁ : Bytes → Sorter) (t₁ t₂ : List Entry) (h : Bytes)
    (q : Nat) (hp : t₁.Perm t₂) :
    ∃ s₂ : Bytes → Sorter, processRun s₂ t₂ h q = processRun s₁ t₁ h q ∧
      processRewritesWith s₂ t₂ h q = processRewritesWith s₁ t₁ h q := by
  obtain ⟨s₂, hs⟩ := outcome_set_perm s₁ t₁ t₂ h q hp
  exact ⟨s₂, hs, by unfold processRewritesWith; rw [hs]⟩

/-- On a tie-free table the result (decision, canonical name, addresses up to
order) depends neither on the order of the entries nor on how the sort breaks
ties. -/
theorem C06_order_independent_partial (srt₁ srt₂ : Bytes → Sorter) (t₁ t₂ : List Entry)
    (h : Bytes) (q : Nat) (hp : t₁.Perm t₂) (htf : Spec.TieFree t₁ q) :
    Spec.OutEquiv (processRewritesWith srt₁ t₁ h q) (processRewritesWith srt₂ t₂ h q) := by
  -- some sort reproduces on `t₂` the run on `t₁`; on the tie-free `t₂` it agrees with `srt₂`
  obtain ⟨s, hs⟩ := outcome_set_perm srt₁ t₁ t₂ h q hp
  have htf₂ : Spec.TieFree t₂ q :=
    ⟨fun e he f hf => htf.1 e (hp.symm.subset he) f (hp.symm.subset hf),
     fun e he f hf => htf.2 e (hp.symm.subset he) f (hp.symm.subset hf)⟩
  have := process_sorter_irrel s srt₂ t₂ h q htf₂
  unfold processRewritesWith at this ⊢
  rwa [hs] at this

/-- In particular the unstable sort cannot show on a tie-free table. -/
theorem C06_sort_agnostic_partial (srt : Bytes → Sorter) (tbl : List Entry) (h : Bytes) (q : Nat)
    (htf : Spec.TieFree tbl q) :
    Spec.OutEquiv (processRewritesWith srt tbl h q) (processRewrites tbl h q) :=
  process_sorter_irrel srt _ tbl h q htf

/-! ## Non-vacuity: the AGHTechDoc examples and instances of the hypotheses -/

section Examples

/-- doc "A record" -/
example : processRewrites [ent "host.com" "1.2.3.4" (some true)] (asc "host.com") 1 =
    ⟨true, [], [asc "1.2.3.4"]⟩ := by decide +kernel
example : dispatch (processRewrites [ent "host.com" "1.2.3.4" (some true)] (asc "host.com") 28) =
    .answer [] [] := by decide +kernel

/-- doc "CNAME record": resolved upstream under the canonical name -/
example : dispatch (processRewrites [ent "sub.host.com" "host.com"] (asc "sub.host.com") 1) =
    .upstream (asc "host.com") := by decide +kernel

/-- doc "CNAME+A records" -/
example : processRewrites [ent "sub.host.com" "host.com", ent "host.com" "1.2.3.4" (some true)]
    (asc "sub.host.com") 1 = ⟨true, asc "host.com", [asc "1.2.3.4"]⟩ := by decide +kernel
example : dispatch (processRewrites
    [ent "sub.host.com" "host.com", ent "host.com" "1.2.3.4" (some true)] (asc "sub.host.com") 28) =
    .upstream (asc "host.com") := by decide +kernel

/-- doc "Wildcard CNAME+A record with CNAME exception" -/
example : processRewrites
    [ent "*.host.com" "1.2.3.4" (some true), ent "pass.host.com" "pass.host.com"]
    (asc "my.host.com") 1 = ⟨true, [], [asc "1.2.3.4"]⟩ := by decide +kernel
example : processRewrites
    [ent "*.host.com" "1.2.3.4" (some true), ent "pass.host.com" "pass.host.com"]
    (asc "pass.host.com") 1 = Out.empty := by decide +kernel

/-- doc "A record with AAAA exception" -/
example : processRewrites [ent "host.com" "1.2.3.4" (some true), ent "host.com" "AAAA"]
    (asc "host.com") 1 = ⟨true, [], [asc "1.2.3.4"]⟩ := by decide +kernel
example : (processRewrites [ent "host.com" "1.2.3.4" (some true), ent "host.com" "AAAA"]
    (asc "host.com") 28).rewritten = false := by decide +kernel

/-- doc "pass A only" -/
example : (processRewrites [ent "host.com" "A"] (asc "host.com") 1).rewritten = false := by
  decide +kernel
example : processRewrites [ent "host.com" "A"] (asc "host.com") 28 = ⟨true, [], []⟩ := by
  decide +kernel

/-- a cycle that does not start at the queried name: a → b → c → b -/
example : processRun (fun _ => stable)
    [ent "a.x.com" "b.x.com", ent "b.x.com" "c.x.com", ent "c.x.com" "b.x.com"] (asc "a.x.com") 1 =
    ⟨⟨true, asc "c.x.com", []⟩, asc "b.x.com", [asc "c.x.com", asc "b.x.com"]⟩ := by decide +kernel

/-- a cycle through the queried name is the "name to itself" exception -/
example : processRewrites [ent "a.x.com" "b.x.com", ent "b.x.com" "a.x.com"] (asc "a.x.com") 1 =
    Out.empty := by decide +kernel

/-- exact CNAME beats wildcard CNAME beats exact address; most specific wildcard wins -/
example : processRewrites
    [ent "a.b.x.com" "1.1.1.1" (some true), ent "*.x.com" "t.net", ent "*.b.x.com" "u.net"]
    (asc "a.b.x.com") 1 = ⟨true, asc "u.net", []⟩ := by decide +kernel

/-- the hypotheses of `C06_order_independent_partial` hold for a table with
wildcards, a CNAME chain and both families -/
example : Spec.TieFree
    [ent "*.x.com" "1.1.1.1" (some true), ent "*.x.com" "::1" (some false),
     ent "a.x.com" "b.x.com", ent "b.x.com" "1.1.1.2" (some true)] 1 := by
  constructor <;> decide +kernel

/-- … and fail for the counterexample table -/
example : ¬ Spec.TieFree [ent "*.x.com" "AAAA", ent "*.x.com" "1.1.1.1" (some true)] 1 := by
  -- the second clause fails for the two entries, which share the wildcard and differ in type
  exact fun h => absurd h.2 (by decide +kernel)

/-- the hypotheses of `C06_nodata` (only an AAAA value, A asked) -/
example : ∀ e ∈ [ent "host.com" "::1" (some false)], matchesHost e (asc "host.com") = true →
    e.typ ≠ .CNAME ∧ Spec.value e 1 = none ∧ Spec.passesFamily e 1 = false := by decide +kernel

/-- the hypotheses of `C06_cname_upstream` -/
example : ∀ e ∈ Spec.mostSpecific (specCnames [ent "sub.host.com" "host.com"] (asc "sub.host.com")),
    e.answer = asc "host.com" ∧ e.domain ≠ asc "host.com" := by decide +kernel

/-- DNS level, `TestRewrite`'s third case: upstream asked for the canonical
name only, original question restored, CNAME record first -/
example : respond [ent "my.alias.example.org" "example.org"] (asc "my.alias.example.org") 1 0 =
    ⟨[asc "example.org"], 0, asc "my.alias.example.org",
     [⟨5, asc "my.alias.example.org", asc "example.org"⟩, ⟨1, asc "example.org", ups4⟩]⟩ := by
  decide +kernel

/-- DNS level, no data: empty NOERROR, the upstream is not asked -/
example : respond [ent "host.com" "1.2.3.4" (some true)] (asc "Host.com") 28 3 =
    ⟨[], 0, asc "Host.com", []⟩ := by decide +kernel

/-- DNS level, the upstream says NXDOMAIN for the canonical name: the reply keeps
the rcode, the original question and the CNAME record -/
example : respond [ent "my.alias.example.org" "example.org"] (asc "my.alias.example.org") 1 3 =
    ⟨[asc "example.org"], 3, asc "my.alias.example.org",
     [⟨5, asc "my.alias.example.org", asc "example.org"⟩]⟩ := by decide +kernel

/-- DNS level, CNAME + address from the table -/
example : respond [ent "sub.host.com" "host.com", ent "host.com" "1.2.3.4" (some true)]
    (asc "sub.host.com") 1 0 =
    ⟨[], 0, asc "sub.host.com",
     [⟨5, asc "sub.host.com", asc "host.com"⟩, ⟨1, asc "host.com", asc "1.2.3.4"⟩]⟩ := by
  decide +kernel

/-- the hypothesis `LowerNames` holds for an ordinary table … -/
example : Spec.LowerNames
    [ent "Host.com" "1.2.3.4" (some true), ent "*.x.com" "b.x.com", ent "b.x.com" "AAAA"] := by
  unfold Spec.LowerNames
  decide +kernel

/-- … and fails for a table that did not go through `normalize` -/
example : ¬ Spec.LowerNames [⟨asc "example.com", asc "Example.com", .CNAME, none⟩] := by
  unfold Spec.LowerNames
  decide +kernel

/-- regression, finding C06-F1: "name to itself" written with capitals passes through -/
example : processRewrites [ent "Example.com" "Example.com"] (asc "example.com") 1 = Out.empty := by
  decide +kernel

/-- regression, C06-F1: a CNAME target written with capitals is followed into the table -/
example : processRewrites [ent "a.x.com" "B.x.com", ent "b.x.com" "1.1.1.1" (some true)]
    (asc "a.x.com") 1 = ⟨true, asc "b.x.com", [asc "1.1.1.1"]⟩ := by decide +kernel

/-- a history: add, save, update, delete, save -/
example : runTable (prepare [])
    [.add ⟨asc "A.x.com", asc "B.x.com", none⟩, .write,
     .upd (asc "a.x.com") (asc "b.x.com") ⟨asc "a.x.com", asc "1.1.1.1", some (true, asc "1.1.1.1")⟩,
     .add ⟨asc "c.x.com", asc "AAAA", none⟩, .del (asc "c.x.com") (asc "AAAA"), .write] =
    [ent "a.x.com" "1.1.1.1" (some true)] := by decide +kernel

/-- deleting with a spelling that is not the stored one removes nothing; an
update of a missing target fails -/
example : stepTable [ent "A.x.com" "1.1.1.1" (some true)] (.del (asc "A.x.com") (asc "1.1.1.1")) =
    ([ent "a.x.com" "1.1.1.1" (some true)], true) := by decide +kernel
example : (stepTable [ent "a.x.com" "1.1.1.1" (some true)]
    (.upd (asc "b.x.com") (asc "1.1.1.1") ⟨asc "b.x.com", asc "A", none⟩)).2 = false := by
  decide +kernel

end Examples

end AGH.C06
