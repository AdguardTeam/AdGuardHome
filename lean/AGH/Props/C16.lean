/-
C16 — ClientIDs come only from a well-formed DoH path or server-name label:
for the extraction alone, end to end from the wire, and as facts about the Go
code that tie the model's inputs to it.  `fromSNI_shape` is the one lemma here
that is not a property theorem; it hangs `C16_ctx_shape` on `C16_sni_shape`.
-/
import AGH.Lemmas.ClientIDE2E
import AGH.Gen.C16Sources
-- for the `decide +kernel` examples below, which compare results of type `Except Err Bytes`
deriving instance DecidableEq for Except

namespace AGH.C16
open AGH AGH.Bytes

/-- Plain DNS and DNSCrypt requests never carry a ClientID (and never fail). -/
theorem C16_plain_none (c : Ctx) (h : c.proto = .udp ∨ c.proto = .tcp ∨ c.proto = .dnscrypt) :
    clientIDFromCtx c = .ok [] := by
  rcases h with h | h | h <;> simp [clientIDFromCtx, h]

/-- A ClientID taken from a server name is the lower-cased valid label `l` of
`l.<configured name>`: immediate sub-domain only (no sub-sub-domain, sibling or
suffix look-alike). -/
theorem C16_sni_shape (host cli : Bytes) (strict : Bool) (id : Bytes)
    (hr : clientIDFromServerName host cli strict = .ok id) (hne : id ≠ []) :
    ∃ l, validLabel l = true ∧ dot ∉ l ∧ cli = l ++ dot :: host ∧ id = lower l := by
  revert hr
  -- the configured name itself; no immediate sub-domain of it (lax, strict); one (label valid, not)
  fun_cases clientIDFromServerName host cli strict with
  | case1 | case2 => intro hr; exact absurd (Except.ok.inj hr).symm hne
  | case3 | case5 => intro hr; cases hr
  | case4 _ himm l' hv =>
    intro hr
    obtain ⟨l, _, hd, rfl⟩ := (isImmediateSubdomain_iff cli host).mp (by simpa using himm)
    have hl : l' = l := by
      show List.take _ _ = l
      rw [length_sub_suffix, List.take_left]
    rw [hl] at hv hr
    exact ⟨l, hv, hd, rfl, (Except.ok.inj hr).symm⟩

/-- A candidate label that is not a valid host-name label makes the request
fail; it is never attributed to nobody or to somebody else. -/
theorem C16_sni_invalid_fails (host cli : Bytes) (strict : Bool)
    (hne : host ≠ cli) (himm : isImmediateSubdomain cli host = true)
    (hbad : validLabel (cli.take (cli.length - host.length - 1)) = false) :
    clientIDFromServerName host cli strict = .error .badLabel := by
  unfold clientIDFromServerName
  simp [hne, himm, hbad]

/-- With strict server-name checking, a name that is neither the configured
one nor its immediate sub-domain is rejected. -/
theorem C16_strict_rejects (host cli : Bytes)
    (hne : host ≠ cli) (himm : isImmediateSubdomain cli host = false) :
    clientIDFromServerName host cli true = .error .sniMismatch := by
  unfold clientIDFromServerName
  simp [hne, himm]

/-- A ClientID taken from a DoH path is the lower-cased valid label `l` of a
path that cleans to `/dns-query/l` (`dns-query/l` for a relative path, which
net/http never produces).  Extra segments never yield an id. -/
theorem C16_path_shape (p id : Bytes) (hr : clientIDFromPath p = .ok id) (hne : id ≠ []) :
    ∃ l, validLabel l = true ∧ slash ∉ l ∧
      (pathClean p = slash :: dnsQuery ++ slash :: l ∨ pathClean p = dnsQuery ++ slash :: l) ∧
      id = lower l := by
  rw [path_char] at hr
  cases hl : pathLabel p with
  | none =>
    rw [hl] at hr
    dsimp only at hr
    split at hr
    · exact absurd (Except.ok.inj hr).symm hne
    · cases hr
  | some l =>
    rw [hl] at hr
    dsimp only at hr
    by_cases hs : slash ∈ l
    · rw [if_pos hs] at hr; cases hr
    rw [if_neg hs] at hr
    by_cases hv : validLabel l = true
    · rw [if_pos hv] at hr
      exact ⟨l, hv, hs, pathLabel_some hl, (Except.ok.inj hr).symm⟩
    · rw [if_neg hv] at hr; cases hr

theorem fromSNI_shape (c : Ctx) (id : Bytes) (hne : id ≠ []) : fromSNI c = .ok id →
    c.hostSrvName ≠ [] ∧
      ∃ cli l, clientServerName c = .ok cli ∧ validLabel l = true ∧ dot ∉ l ∧
        cli = l ++ dot :: c.hostSrvName ∧ id = lower l := by
  fun_cases fromSNI c with
  | case1 => intro hr; exact absurd (Except.ok.inj hr).symm hne
  | case2 => intro hr; cases hr
  | case3 hh cli hcli =>
    intro hr
    obtain ⟨l, h⟩ := C16_sni_shape _ _ _ _ hr hne
    exact ⟨hh, cli, l, hcli, h⟩

/-- What the whole extraction returns, when it returns an id: the lower-cased
valid label of `/dns-query/<l>` (DoH only) or of `<l>.<configured name>`
(DoH, DoT, DoQ, configured name non-empty). -/
theorem C16_ctx_shape (c : Ctx) (id : Bytes) (hr : clientIDFromCtx c = .ok id) (hne : id ≠ []) :
    (c.proto = .https ∧ ∃ p l, c.path = some p ∧ validLabel l = true ∧ slash ∉ l ∧
        (pathClean p = slash :: dnsQuery ++ slash :: l ∨ pathClean p = dnsQuery ++ slash :: l) ∧
        id = lower l)
    ∨ ((c.proto = .https ∨ c.proto = .tls ∨ c.proto = .quic) ∧ c.hostSrvName ≠ [] ∧
        ∃ cli l, clientServerName c = .ok cli ∧ validLabel l = true ∧ dot ∉ l ∧
          cli = l ++ dot :: c.hostSrvName ∧ id = lower l) := by
  revert hr
  -- DoH: no request; the path fails; it holds an id; it holds none and the server name decides;
  -- then DoT, DoQ, any other protocol
  fun_cases clientIDFromCtx c with
  | case1 | case2 => intro hr; cases hr
  | case3 hp p hpath id' hid' =>
    intro hr
    cases hr
    obtain ⟨l, h⟩ := C16_path_shape p id hid' hne
    exact Or.inl ⟨hp, p, l, hpath, h⟩
  | case4 hp => intro hr; exact Or.inr ⟨Or.inl hp, fromSNI_shape c id hne hr⟩
  | case5 hp => intro hr; exact Or.inr ⟨Or.inr (Or.inl hp), fromSNI_shape c id hne hr⟩
  | case6 hp => intro hr; exact Or.inr ⟨Or.inr (Or.inr hp), fromSNI_shape c id hne hr⟩
  | case7 => intro hr; exact absurd (Except.ok.inj hr).symm hne

/-- Every ClientID handed on is itself a valid host-name label and is in
lower case (lower-casing is idempotent). -/
theorem C16_result_valid (c : Ctx) (id : Bytes) (hr : clientIDFromCtx c = .ok id) (hne : id ≠ []) :
    validLabel id = true ∧ lower id = id := by
  rcases C16_ctx_shape c id hr hne with ⟨_, _, l, _, hv, _, _, hid⟩ | ⟨_, _, _, l, _, hv, _, _, hid⟩
  · subst hid; exact ⟨by rw [validLabel_lower]; exact hv, lower_idem l⟩
  · subst hid; exact ⟨by rw [validLabel_lower]; exact hv, lower_idem l⟩

/-- The model satisfies the spec monitor that the driver evaluates on the implementation's
output, for every request context: the monitor never raises an alarm on
behaviour that agrees with the model. -/
theorem C16_model_meets_spec (c : Ctx) : specOK c (clientIDFromCtx c) = true := by
  cases hp : c.proto
  -- on a plain protocol the spec of "nobody" evaluates to `true`
  case udp => rw [C16_plain_none c (Or.inl hp)]; cases c; cases hp; rfl
  case tcp => rw [C16_plain_none c (Or.inr (Or.inl hp))]; cases c; cases hp; rfl
  case dnscrypt => rw [C16_plain_none c (Or.inr (Or.inr hp))]; cases c; cases hp; rfl
  case tls =>
    rw [ctx_sni c (Or.inl hp)]
    exact specOK_fromSNI c (by rw [hp]; rfl) (fun h => by rw [hp] at h; cases h)
  case quic =>
    rw [ctx_sni c (Or.inr hp)]
    exact specOK_fromSNI c (by rw [hp]; rfl) (fun h => by rw [hp] at h; cases h)
  case https =>
    cases hpath : c.path with
    | none => simp [specOK, clientIDFromCtx, sniCapable, hp, hpath]
    | some p =>
      simp only [clientIDFromCtx, hp, hpath, path_char]
      cases hpl : pathLabel p with
      | some l =>
        -- a candidate label: its id, or a failure
        simp only [specOK, sniCapable, hp, hpath, hpl]
        by_cases hsl : slash ∈ l
        · simp [hsl, not_valid_of_slash l hsl]
        · by_cases hv : validLabel l = true
          · simp [hsl, hv, lower_ne_nil (validLabel_ne_nil hv), idOf]
          · simp [hsl, hv]
      | none =>
        by_cases hq : pathClean p = slash :: dnsQuery ∨ pathClean p = dnsQuery
        · -- no label in the path: the server name decides
          simp only [hq, if_true, ne_eq, not_true_eq_false, if_false]
          exact specOK_fromSNI c (by rw [hp]; rfl) (fun _ => ⟨p, hpath, hpl⟩)
        · simp only [hq, if_false]
          simp only [specOK, sniCapable, hp, hpath, hpl]
          simp
          exact Or.inl (not_or.mp hq)

-- Non-vacuity: concrete requests that yield an id from the path and from the SNI
-- ("Cli-1" = [67,108,105,45,49]; "example.org" as bytes below).
def exHost : Bytes := [101,120,97,109,112,108,101,46,111,114,103]
example : clientIDFromPath (slash :: dnsQuery ++ slash :: [67,108,105,45,49]) = .ok [99,108,105,45,49] := by decide +kernel
example : clientIDFromServerName exHost ([67,108,105] ++ dot :: exHost) true = .ok [99,108,105] := by decide +kernel
-- a.b.example.org with strict checking
example : clientIDFromServerName exHost ([97,46,98] ++ dot :: exHost) true = .error .sniMismatch := by decide +kernel
-- suffix look-alike xexample.org, not strict: nobody
example : clientIDFromServerName exHost (120 :: exHost) false = .ok [] := by decide +kernel
-- /dns-query/a_b : invalid label fails
example : clientIDFromPath (slash :: dnsQuery ++ slash :: [97,95,98]) = .error .badLabel := by decide +kernel

/-- A request that passed `HandleBefore` is attributed to exactly the ClientID
extracted from THAT request — whatever the cache held before (any history of
earlier requests, any reuse of request numbers after the proxy was re-created).
In particular a plain or DNSCrypt request is attributed to nobody. -/
theorem C16_attribution_is_own (c : Cache) (r : Nat) (ctx : Ctx) (id : Bytes)
    (h : (handleBefore c r ctx).2 = .ok id) :
    attributed (handleBefore c r ctx).1 r = id ∧ clientIDFromCtx ctx = .ok id := by
  obtain ⟨hres, hatt⟩ := handleBefore_view c r ctx
  rw [hres] at h
  exact ⟨hatt id h, h⟩

/-- …over every history of requests sharing one cache. -/
theorem C16_attribution_history (hist : List (Nat × Ctx)) (r : Nat) (ctx : Ctx) (id : Bytes) :
    let c := hist.foldl (fun c p => (handleBefore c p.1 p.2).1) ([] : Cache)
    (handleBefore c r ctx).2 = .ok id → attributed (handleBefore c r ctx).1 r = id :=
  fun h => (C16_attribution_is_own _ r ctx id h).1

/-- A request over plain DNS or DNSCrypt is attributed to nobody, whatever the cache held
under its number. -/
theorem C16_plain_attributed_to_nobody (c : Cache) (r : Nat) (ctx : Ctx)
    (hp : ctx.proto = .udp ∨ ctx.proto = .tcp ∨ ctx.proto = .dnscrypt) :
    attributed (handleBefore c r ctx).1 r = [] :=
  (handleBefore_view c r ctx).2 [] (C16_plain_none ctx hp)

end AGH.C16

/-! ## End to end: from the wire to the consumers of the ClientID

`E2E.step` is one request through the whole server: request-target parsing and
percent-decoding (net/url), routing (`ServeMux` with the two patterns AdGuard
Home registers), the unencrypted-DoH gate, dnsproxy's DNS-message check, the
strict-SNI handshake gate of DoT/DoQ, `HandleBefore`, the ClientID cache under
dnsproxy's request counter, `processInitial`.  `E2E.specE2E` is the monitor the
driver evaluates on what a REAL server did (answer / SERVFAIL / HTTP status /
reset / refused handshake, and the identity seen by the query log, the
statistics, the client-upstream lookup and the client-filtering lookup). -/
namespace AGH.C16.E2E
open AGH AGH.Bytes AGH.C16

/-- Go's `url.unescape` (the two index loops, `EscapeError` on a bad escape) is
percent-decoding as RFC 3986 defines it — for every byte string. -/
theorem C16_unescape_is_pct_decoding (s : Bytes) : unescape s = pctDecode s :=
  unescape_eq_pctDecode s

/-- **The whole pipeline meets the spec**, for every configuration, every server
state (any request-counter value, any content of the ClientID cache — hence any
history, any number of reconfigurations) and every request: raw target, server
name, Host header, headers, EDNS options, peer. -/
theorem C16_e2e_meets_spec (cf : Conf) (st : St) (r : Req) :
    specE2E cf r (obsOf (step cf st r).2) = true := by
  rw [step_outcome, specE2E_obsOf]
  cases hf : front cf r with
  | error o =>
    rcases front_error hf with ⟨n, rfl⟩ | rfl | ⟨rfl, hs, htr⟩
    · rfl
    · rfl
    · rcases htr with htr | htr <;> simp [outcome, hs, htr]
  | ok c =>
    have hm := C16_model_meets_spec c
    simp only [outcome, verdict]
    cases hc : clientIDFromCtx c with
    | ok id => rw [hc] at hm; simp only [front_specCtx hf, hm]
    | error e =>
      rw [hc] at hm
      simp only [front_specCtx hf]
      exact (specOK_error_irrel c .badLabel e).trans hm

/-- …in particular along every history of requests and reconfigurations on one
long-lived server. -/
theorem C16_e2e_history (cf : Conf) (hist : List (Option Req)) (r : Req) :
    let st := hist.foldl (fun st o => match o with
      | some q => (step cf st q).1
      | none => reconf st) ({} : St)
    specE2E cf r (obsOf (step cf st r).2) = true :=
  C16_e2e_meets_spec cf _ r

/-- The percent-decoded path of the request-target, as the spec reads it (`none`: the target
does not parse). -/
def decodedPath (cf : Conf) (r : Req) : Option Bytes := (specPath (envOf cf r.ipLitOK) r.target).map (·.2)

/-- `r.Host` as the handler sees it. -/
def hostOf (cf : Conf) (r : Req) : Bytes :=
  match specPath (envOf cf r.ipLitOK) r.target with
  | some (h, _) => effHost r h
  | none => []

/-- **No other source.**  Two requests that agree on the transport, the
server name they sent and their percent-decoded path (over unencrypted HTTP
also on the Host, which stands in for the server name there) get the same
verdict from the ClientID stage whenever both reach it — whatever their Host
header, query string, method, raw spelling of the target, other headers, EDNS
options, question and peer address are. -/
theorem C16_no_other_source (cf : Conf) (r r' : Req) (c c' : Ctx)
    (h : front cf r = .ok c) (h' : front cf r' = .ok c')
    (htr : r.tr = r'.tr) (hsni : r.sni = r'.sni)
    (hpath : decodedPath cf r = decodedPath cf r')
    (hplain : r.tr = .hp → hostOf cf r = hostOf cf r' ∧ r.hostSplit = r'.hostSplit) :
    clientIDFromCtx c = clientIDFromCtx c' := by
  rcases tr_cases r.tr with hc | hc | hc
  · -- plain DNS, DNSCrypt: nobody, both
    obtain ⟨p, hp, hf⟩ := front_plain cf r.tr hc
    rw [hf r rfl] at h; rw [hf r' htr.symm] at h'
    cases h; cases h'
    rfl
  · -- DoT, DoQ: the server name decides
    obtain ⟨p, hp, hf⟩ := front_tls cf r.tr hc
    rw [hf r rfl] at h; rw [hf r' htr.symm] at h'
    rw [frontTLS_ok h, frontTLS_ok h', hsni]
  · -- DoH: the decoded path, then the server name (the Host over unencrypted HTTP)
    rw [front_http cf r hc] at h
    rw [front_http cf r' (htr ▸ hc)] at h'
    obtain ⟨u, hu, rfl, _⟩ := frontHTTP_ok h
    obtain ⟨u', hu', rfl, _⟩ := frontHTTP_ok h'
    simp only [decodedPath, hostOf, specPath_of_parseRequestURI hu, specPath_of_parseRequestURI hu',
      Option.map_some] at hpath hplain
    refine ctx_congr rfl hpath ?_ rfl rfl
    rw [clientServerName_http, clientServerName_http, ← htr, ← hsni]
    by_cases hp : r.tr = .hp
    · rw [if_pos hp, if_pos hp, (hplain hp).1, (hplain hp).2]
    · rw [if_neg hp, if_neg hp]

/-- …and therefore the same attribution: if both are answered, they are
attributed to the same identity, from whatever server states. -/
theorem C16_no_other_source_attribution (cf : Conf) (st st' : St) (r r' : Req) (id id' : Bytes)
    (h : (step cf st r).2 = .ans id) (h' : (step cf st' r').2 = .ans id')
    (htr : r.tr = r'.tr) (hsni : r.sni = r'.sni)
    (hpath : decodedPath cf r = decodedPath cf r')
    (hplain : r.tr = .hp → hostOf cf r = hostOf cf r' ∧ r.hostSplit = r'.hostSplit) :
    id = id' := by
  obtain ⟨c, hf, hc⟩ := step_ans h
  obtain ⟨c', hf', hc'⟩ := step_ans h'
  rw [C16_no_other_source cf r r' c c' hf hf' htr hsni hpath hplain, hc'] at hc
  exact (Except.ok.inj hc).symm

/-- **Decode, then shape.**  An identity attributed to a DoH request is the
lower-cased valid label `l` such that the percent-decoded path component of
THAT request's target cleans to `/dns-query/l` — or it is the label of the
server name the request came with (`l.<configured name>`; over unencrypted HTTP
the Host stands in for the server name). -/
theorem C16_decode_then_shape (cf : Conf) (st : St) (r : Req) (id : Bytes)
    (hh : isHTTP r.tr = true) (h : (step cf st r).2 = .ans id) (hne : id ≠ []) :
    (∃ host rp p l, splitTarget (envOf cf r.ipLitOK) r.target = some (host, rp) ∧ pctDecode rp = some p ∧
        validLabel l = true ∧ slash ∉ l ∧ pathClean p = slash :: dnsQuery ++ slash :: l ∧
        id = lower l)
    ∨ (cf.srvName ≠ [] ∧ ∃ cli l, validLabel l = true ∧ dot ∉ l ∧ cli = l ++ dot :: cf.srvName ∧
        id = lower l ∧ ((r.tr ≠ .hp ∧ cli = r.sni) ∨ (r.tr = .hp ∧ r.hostSplit = some cli))) := by
  obtain ⟨c, hf, hc⟩ := step_ans h
  rw [front_http cf r hh] at hf
  obtain ⟨u, hu, rfl, v, hv⟩ := frontHTTP_ok hf
  obtain ⟨_, hsp, hun⟩ := parseRequestURI_parts hu
  rcases C16_ctx_shape _ id hc hne with ⟨_, p, l, hp, hvl, hsl, hcl, hid⟩ |
      ⟨_, hsn, cli, l, hcs, hvl, hdl, hcli, hid⟩
  · left
    cases hp
    refine ⟨u.host, u.rawPath, u.path, l, hsp, unescape_eq_pctDecode _ ▸ hun, hvl, hsl, ?_, hid⟩
    -- the path is rooted, so its cleaned form is too: the relative alternative is out
    rcases hcl with hcl | hcl
    · exact hcl
    · obtain ⟨w, hw⟩ := pathClean_rooted_head v
      rw [hv, hw] at hcl
      cases hcl
  · right
    rw [clientServerName_http] at hcs
    refine ⟨hsn, cli, l, hvl, hdl, hcli, hid, ?_⟩
    by_cases htr : r.tr = .hp
    · rw [if_pos htr] at hcs
      refine Or.inr ⟨htr, ?_⟩
      split at hcs
      · -- an empty Host gives the empty name, not `l.<configured name>`
        cases hcs
        cases l <;> cases hcli
      · split at hcs
        · next x hx => cases hcs; exact hx
        · cases hcs
    · rw [if_neg htr] at hcs
      exact Or.inl ⟨htr, (Except.ok.inj hcs).symm⟩

/-- The split of a request-target the spec monitor relies on, stated without
reference to the parser: the path component is a literal piece of the target,
followed by nothing or by `?…`, preceded by nothing (origin-form), by
`scheme:` or by `scheme://authority` (absolute-form; `parseAuthority` — userinfo,
port, IP literal, host escapes as in net/url — gives the Host); a rootless `scheme:…` target has the empty path. -/
theorem C16_target_split_shape (e : UrlEnv) (raw host rp : Bytes) (h : splitTarget e raw = some (host, rp)) :
    ∃ pre q, raw = pre ++ rp ++ q ∧ qmark ∉ rp ∧ (q = [] ∨ q.head? = some qmark) ∧
      ((pre = [] ∧ host = [] ∧ rp.head? = some slash) ∨
       ∃ sc, sc ≠ [] ∧ (∀ c ∈ sc, schemeChar c) ∧
         ((pre = sc ++ [colon] ∧ host = [] ∧ rp.head? = some slash) ∨
          (∃ auth, pre = sc ++ colon :: slash :: slash :: auth ∧ slash ∉ auth ∧
              parseAuthority e (lower sc) auth = some host ∧ (rp = [] ∨ rp.head? = some slash)) ∨
          (rp = [] ∧ host = [] ∧ ∃ o, pre = sc ++ colon :: o ∧ o.head? ≠ some slash))) := by
  -- Along the exits of `splitTarget`: `getSchemeAux_some` gives `raw = scheme ++ ':' :: rest0` or
  -- no scheme, `cutQuery_split` gives `rest0 = cutQuery rest0 ++ q`; each exit then only names `pre`.
  have hsch := fun sc rest0 => getSchemeAux_some raw [] raw sc rest0 rfl (fun _ h => nomatch h)
  revert h
  fun_cases splitTarget e raw with
  | case3 _ scheme rest0 hgs rest hhead hsc =>
    -- rootless: `scheme:opaque`, the empty path
    intro h
    cases h
    obtain ⟨q, hq, hnq, hqh⟩ := cutQuery_split rest0
    rcases hsch _ _ hgs with ⟨h1, _⟩ | ⟨_, hraw, hchars⟩
    · exact absurd h1 hsc
    · refine ⟨scheme ++ colon :: rest, q, ?_, by simp, hqh, Or.inr ⟨scheme, hsc, hchars, ?_⟩⟩
      · rw [hraw]; conv => lhs; rw [hq]
        simp [rest]
      · exact Or.inr (Or.inr ⟨rfl, rfl, rest, rfl, hhead⟩)
  | case5 _ scheme rest0 hgs rest hhead hauth a p hh hpa =>
    -- `scheme://authority` and the rest
    intro h
    obtain ⟨rfl, rfl⟩ := Prod.mk.inj (Option.some.inj h)
    obtain ⟨q, hq, hnq, hqh⟩ := cutQuery_split rest0
    obtain ⟨hsc, hpre⟩ := hauth
    rcases hsch _ _ hgs with ⟨h1, _⟩ | ⟨_, hraw, hchars⟩
    · exact absurd h1 hsc
    · have hsplit : rest = slash :: slash :: (a ++ p) := by
        rw [List.takeWhile_append_dropWhile]
        conv => lhs; rw [← List.take_append_drop 2 rest]
        rw [hpre]; rfl
      refine ⟨scheme ++ colon :: slash :: slash :: a, q, ?_, ?_, hqh,
        Or.inr ⟨scheme, hsc, hchars, Or.inr (Or.inl ⟨_, rfl, not_mem_takeWhile_ne slash _, hpa, ?_⟩)⟩⟩
      · rw [hraw]; conv => lhs; rw [hq]
        show scheme ++ colon :: (rest ++ q) = _
        rw [hsplit]
        simp
      · intro hm
        exact hnq (List.mem_of_mem_drop ((List.dropWhile_sublist _).mem hm))
      · exact dropWhile_ne_head slash _
  | case7 _ scheme rest0 hgs rest hhead hauth =>
    -- a rooted path, after nothing or after `scheme:`
    intro h
    obtain ⟨rfl, rfl⟩ := Prod.mk.inj (Option.some.inj h)
    obtain ⟨q, hq, hnq, hqh⟩ := cutQuery_split rest0
    rw [ne_eq, Decidable.not_not] at hhead
    rcases hsch _ _ hgs with ⟨h1, h2⟩ | ⟨hsc, hraw, hchars⟩
    · refine ⟨[], q, ?_, hnq, hqh, Or.inl ⟨rfl, rfl, hhead⟩⟩
      rw [← h2]; simpa using hq
    · refine ⟨scheme ++ [colon], q, ?_, hnq, hqh, Or.inr ⟨scheme, hsc, hchars, Or.inl ⟨rfl, rfl, hhead⟩⟩⟩
      rw [hraw]; conv => lhs; rw [hq]
      simp [rest]
  -- every other exit is `none`
  | _ => intro h; cases h

/-- A DoH request whose decoded path carries a candidate label that is not a
valid host-name label (or extra segments after it) is never answered: not
attributed to nobody, not to somebody else — whatever server name, Host or
headers it has. -/
theorem C16_e2e_invalid_fails (cf : Conf) (st : St) (r : Req) (hh : isHTTP r.tr = true)
    (host p l : Bytes) (hs : specPath (envOf cf r.ipLitOK) r.target = some (host, p)) (hl : pathLabel p = some l)
    (hv : validLabel l = false) (id : Bytes) : (step cf st r).2 ≠ .ans id := by
  intro h
  obtain ⟨c, hf, hc⟩ := step_ans h
  rw [front_http cf r hh] at hf
  obtain ⟨u, hu, rfl, _⟩ := frontHTTP_ok hf
  rw [specPath_of_parseRequestURI hu] at hs
  cases hs
  -- the path decides, and fails
  simp only [clientIDFromCtx, mkCtxHTTP, path_char, hl, hv] at hc
  by_cases hsl : slash ∈ l <;> simp [hsl] at hc

/-- A DoT / DoQ server name `<l>.<configured name>` whose label `l` is not a
valid host-name label is never answered either. -/
theorem C16_e2e_sni_invalid_fails (cf : Conf) (st : St) (r : Req)
    (htr : r.tr = .dot ∨ r.tr = .doq) (hn : cf.srvName ≠ [])
    (hne : cf.srvName ≠ r.sni) (himm : isImmediateSubdomain r.sni cf.srvName = true)
    (hbad : validLabel (r.sni.take (r.sni.length - cf.srvName.length - 1)) = false) :
    (step cf st r).2 = .hs ∨ (step cf st r).2 = .servfail :=
  step_tls_error cf st r htr hn _ (C16_sni_invalid_fails cf.srvName r.sni cf.strict hne himm hbad)

/-- The request record carries the peer address, the EDNS options, the
question and the other HTTP headers; the pipeline provably never looks at
them: changing them changes neither the outcome nor the server state. -/
theorem C16_ignored_inputs (cf : Conf) (st : St) (r : Req)
    (peer edns qname : Bytes) (hdrs : List (Bytes × Bytes)) :
    step cf st { r with peer := peer, edns := edns, qname := qname, hdrs := hdrs } = step cf st r := rfl

/-- Over TLS (DoH over HTTP/1.1 or h2, DoT, DoQ) the Host header / `:authority`
and the request method are not a source either: any two values the transport
accepts as a Host (`hostFieldOK`: `ValidHostHeader` for HTTP/1.x, a valid field
value for h2 — a malformed one fails the request with 400 / a stream reset)
lead to the same outcome. -/
theorem C16_host_header_ignored_over_tls (cf : Conf) (st : St) (r : Req)
    (host : Bytes) (hsplit : Option Bytes) (m : Method) (htr : r.tr ≠ .hp)
    (hok : hostFieldOK r.tr host = hostFieldOK r.tr r.host) :
    (step cf st { r with host := host, hostSplit := hsplit, method := m }).2 = (step cf st r).2 := by
  rw [step_outcome, step_outcome]
  generalize hr' : ({ r with host := host, hostSplit := hsplit, method := m } : Req) = r'
  have htr' : r'.tr = r.tr := by rw [← hr']
  rcases tr_cases r.tr with hc | hc | hc
  · obtain ⟨p, _, hf⟩ := front_plain cf r.tr hc
    rw [hf r rfl, hf r' htr']
  · -- `frontTLS` reads none of the three fields
    obtain ⟨p, _, hf⟩ := front_tls cf r.tr hc
    rw [hf r rfl, hf r' htr', ← hr']
    rfl
  · rw [front_http cf r hc, front_http cf r' (htr' ▸ hc), ← hr']
    simp only [frontHTTP, hok]
    split
    · rfl
    · cases gateHTTP cf r.tr r.target r.dnsOK r.ipLitOK with
      | error o => rfl
      | ok u =>
        -- the server name of the TLS connection stands, whatever the Host is
        refine congrArg verdict (ctx_congr rfl rfl ?_ rfl rfl)
        rw [clientServerName_http, clientServerName_http, if_neg htr, if_neg htr]

/-- Plain DNS and DNSCrypt requests are always answered and attributed to
nobody, whatever the cache holds under their request number. -/
theorem C16_e2e_plain_none (cf : Conf) (st : St) (r : Req)
    (h : r.tr = .udp ∨ r.tr = .tcp ∨ r.tr = .dcu) : (step cf st r).2 = .ans [] := by
  obtain ⟨p, hp, hf⟩ := front_plain cf r.tr h
  rw [step_outcome, hf r rfl, outcome, C16_plain_none _ hp]
  rfl

/-- With strict checking, a DoT / DoQ server name outside the configured domain
is rejected: the handshake is refused or the request is answered SERVFAIL. -/
theorem C16_e2e_strict_rejects (cf : Conf) (st : St) (r : Req)
    (hs : cf.strict = true) (hn : cf.srvName ≠ []) (htr : r.tr = .dot ∨ r.tr = .doq)
    (hne : cf.srvName ≠ r.sni) (himm : isImmediateSubdomain r.sni cf.srvName = false) :
    (step cf st r).2 = .hs ∨ (step cf st r).2 = .servfail :=
  step_tls_error cf st r htr hn _ (hs ▸ C16_strict_rejects cf.srvName r.sni hne himm)

/-- **The strictness used for a request is the configured one**, for every
certificate: `prepareTLS` derives the handshake names from the certificate (DNS
SANs, else the common name, even an empty one) but never rewrites
`strict_sni_check`; whatever the certificate carries — a matching name, another
name, a wildcard, a common name only, IP addresses only, nothing — the context
handed to `clientIDFromDNSContext` has `strict` = the configuration's, and a
handshake is refused only under the configured strictness. -/
theorem C16_strict_is_configured_strict (cf : Conf) (r : Req) :
    (prepareTLS cf.strict cf.cert).strict = cf.strict ∧
      (∀ c, front cf r = .ok c → c.strict = cf.strict) ∧
      (front cf r = .error .hs → cf.strict = true) := by
  refine ⟨rfl, ?_, ?_⟩
  · -- the context is the one the spec builds, which carries the configured flag
    intro c h
    have hs := front_specCtx h
    unfold specCtx at hs
    obtain ⟨c₀, _, rfl⟩ := Option.map_eq_some_iff.mp hs
    rfl
  · intro h
    rcases front_error h with ⟨n, hn⟩ | hn | ⟨_, hs, _⟩
    · cases hn
    · cases hn
    · exact hs

/-- With strict checking and a certificate that has no DNS name and no common
name (an IP-only certificate) every DoT / DoQ handshake is refused — strict
checking is not silently given up. -/
theorem C16_strict_ip_only_cert_refuses (cf : Conf) (st : St) (r : Req)
    (hs : cf.strict = true) (hd : cf.cert.dnsNames = []) (hcn : cf.cert.cn = [])
    (htr : r.tr = .dot ∨ r.tr = .doq) (hv : r.sniValidHost = true → r.sni ≠ []) :
    (step cf st r).2 = .hs := by
  apply step_tls_refused cf st r htr hs
  -- the only name to match is the empty common name
  by_cases hvv : r.sniValidHost = true
  · simp [Conf.prep, prepareTLS, hs, hd, hcn, anyNameMatches, isWildcard, hvv, hv hvv]
  · simp [anyNameMatches, hvv]

-- Non-vacuity: concrete requests through the whole model.
def exConf : Conf := { srvName := exHost, strict := true, cert := { dnsNames := [exHost, [42, 46] ++ exHost], cn := [], hasIP := false }, plainDoH := false, urlStrictColons := false }
def exReq (tr : Tr) (sni target : Bytes) : Req :=
  { tr := tr, sni := sni, sniValidHost := true, method := .get, target := target, host := [120],
    hostSplit := some [120], dnsOK := true, ipLitOK := true, peer := [], edns := [], qname := [], hdrs := [] }
-- GET /dns-query/%43li-1?dns=… over h1 with SNI example.org: attributed to "cli-1"
example : (step exConf {} (exReq .h1 exHost
    (slash :: dnsQuery ++ slash :: [37, 52, 51, 108, 105, 45, 49, 63, 100, 110, 115, 61, 65]))).2 =
    .ans [99, 108, 105, 45, 49] := by decide +kernel
-- //dns-query/x is redirected by the mux, never attributed
example : (step exConf {} (exReq .h2 exHost (slash :: slash :: dnsQuery ++ [slash, 120]))).2 = .http 307 := by decide +kernel
-- /dns-query/%zz : 400 over HTTP/1.1, stream reset over h2
example : (step exConf {} (exReq .h1 exHost (slash :: dnsQuery ++ [slash, 37, 122, 122]))).2 = .http 400 := by decide +kernel
example : (step exConf {} (exReq .h2 exHost (slash :: dnsQuery ++ [slash, 37, 122, 122]))).2 = .rst := by decide +kernel
-- DoT with SNI a.b.example.org under strict checking passes the wildcard gate and is answered SERVFAIL
example : (step exConf {} (exReq .dot ([97, 46, 98] ++ dot :: exHost) [])).2 = .servfail := by decide +kernel
-- DoT with SNI xexample.org: the handshake is refused
example : (step exConf {} (exReq .dot (120 :: exHost) [])).2 = .hs := by decide +kernel
-- an IP-only certificate under strict checking: DoT is refused, DoH (handshake by the web server) with
-- a server name outside the domain is answered SERVFAIL — never served as nobody
def exConfIP : Conf := { exConf with cert := { dnsNames := [], cn := [], hasIP := true } }
example : (step exConfIP {} (exReq .dot ([99, 108, 105] ++ dot :: exHost) [])).2 = .hs := by decide +kernel
example : (step exConfIP {} (exReq .h1 (120 :: exHost) (slash :: dnsQuery ++ [63, 100]))).2 = .servfail := by decide +kernel
-- absolute-form with an escaped non-ASCII authority, GET http://%ff/.. : the mux redirects (307);
-- http://%41/dns-query (escape of an ASCII byte in the host) is a parse error (400)
example : (step exConf {} (exReq .h1 exHost [104, 116, 116, 112, 58, 47, 47, 37, 102, 102, 47, 46, 46])).2 = .http 307 := by decide +kernel
example : (step exConf {} (exReq .h1 exHost ([104, 116, 116, 112, 58, 47, 47, 37, 52, 49, 47] ++ dnsQuery))).2 = .http 400 := by decide +kernel

end AGH.C16.E2E

/-! ## Translator tie: "no other source" in the Go code

`AGH.Gen.C16` is regenerated from the typed syntax of internal/dnsforward on
every run (extract/cmd/c16).  The obligations below are re-checked against the
tree under check; they are what makes the model's input signature (`Ctx`, and
`E2E.Req` above it) the input signature of the CODE: a new source of the
ClientID (an HTTP header, an EDNS option, the Host header over TLS, the peer
address, the question) adds a selector or an escape and breaks
`C16_gen_sources_expected`; a second writer of the identity, a cache store of
something else, a lost `Del` break `C16_gen_single_writer`; a return that is not
validated and lower-cased breaks `C16_gen_validated_returns`. -/
namespace AGH.C16
open AGH.Gen.C16

/-- The selectors each field of the model's `Ctx` stands for (ids of
`AGH.Gen.C16`, names in the generated file):
`proto` ← 1; `path` ← 2 3 4 (`HTTPRequest.URL.Path`); `httpTLS` ← 2 5 6
(`HTTPRequest.TLS.ServerName`); `hostHdr`/`hostSplit` ← 2 7 (`HTTPRequest.Host`);
`connSNI` ← 8 9 6 / 10 11 12 6 (`Conn`→`ConnectionState().ServerName`,
`QUICConnection`→`ConnectionState().TLS.ServerName`); `hostSrvName` ← 13 14 15
(`s.conf.TLSConf.ServerName`); `strict` ← 13 14 16. -/
def ctxFieldSources : List (List Nat) :=
  [[1], [2, 3, 4], [2, 5, 6], [2, 7], [8, 9, 6], [10, 11, 12, 6], [13, 14, 15], [13, 14, 16]]

/-- The request-derived reads of the Go functions that compute the ClientID
are exactly the inputs of the model (`Ctx`): nothing else of the request, the
connection or the configuration is read, and no request-carrying value is
handed to a function outside them.  With `C16_no_other_source` /
`C16_ignored_inputs` (the model provably ignores everything else) this is the
"no other source" claim for the code. -/
theorem C16_gen_sources_expected :
    (∀ s ∈ sources, s ∈ ctxFieldSources.flatten) ∧ (∀ s ∈ ctxFieldSources.flatten, s ∈ sources) ∧
      escapes = [] := by decide +kernel

/-- The identity of a request (`dnsContext.clientID`) is written in one way
only: in `processInitial`, from `clientIDCache.Get` under the key derived from
`pctx.RequestID` (model: `attributed`).  The cache is stored to only in
`HandleBefore`, only with the value `clientIDFromDNSContext` returned for this
request, under the same key, and the entry is deleted there when the request
has no id (model: `handleBefore`); nobody else calls the extraction or touches
the cache. -/
theorem C16_gen_single_writer :
    (2, 1, 1) ∈ clientIDWrites ∧ (∀ w ∈ clientIDWrites, w = (2, 1, 1)) ∧
      (1, 1, 1, 1) ∈ cacheOps ∧ (1, 3, 0, 1) ∈ cacheOps ∧ (2, 2, 0, 1) ∈ cacheOps ∧
      (∀ o ∈ cacheOps, o = (1, 1, 1, 1) ∨ o = (1, 3, 0, 1) ∨ o = (2, 2, 0, 1)) ∧
      (∀ f ∈ extractionCalls, f = 1) := by decide +kernel

/-- Every return of every function whose result becomes the ClientID is the
empty string, or `strings.ToLower(v)` immediately after `ValidateClientID(v)`
and its error return, or a value forwarded from another such function;
`ValidateClientID` starts with `netutil.ValidateHostnameLabel` on its argument
(model: `validLabel`, `lower`; theorems `C16_result_valid`, `C16_ctx_shape`). -/
theorem C16_gen_validated_returns :
    (∀ r ∈ returns, r.2 = 0 ∨ r.2 = 1 ∨ r.2 = 3) ∧ (∃ r ∈ returns, r.2 = 1) ∧
      (∀ f ∈ idFuncs, f ∈ closure) ∧ (∀ r ∈ returns, r.1 ∈ idFuncs) ∧
      1 ∈ validateCallees ∧ validateUnconditional = 1 := by decide +kernel

/-- `TLSConfig.StrictSNICheck` — the flag `clientIDFromDNSContext` passes as
`strict` and `onGetCertificate` consults — is only ever set by a composite
literal where the configuration is loaded (package home); nothing in
dnsforward (not `prepareTLS`, not a request path) assigns it or takes its
address.  This is what makes the model's `prepareTLS` (flag copied through,
`C16_strict_is_configured_strict`) the code's. -/
theorem C16_gen_strict_flag_never_rewritten :
    (∀ w ∈ strictFlagWrites, w.1 ≠ 3 ∧ w.2 = 1) ∧ (1, 1) ∈ strictFlagWrites := by decide +kernel

end AGH.C16
