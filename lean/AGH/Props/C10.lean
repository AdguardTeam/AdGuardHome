/-
C10 — DHCPv4 never leases one address to two clients; lease table survives restart.

The model (`AGH/Model/DHCP.lean`) transcribes `internal/dhcpd/v4_unix.go`, `db.go`,
`config.go Validate` as they are after the repairs F5–F7, F16/F17, a691f53 (R5),
410da26 (R3) and 2820039 (R4); `Reachable O c s` are the states it reaches from
the empty table by ANY history of DISCOVER / REQUEST (selecting, init-reboot,
renew) / DECLINE / RELEASE / static add, update, remove / sleep / restart /
reorder (the unstable sort of `writeDB`), from ANY hardware addresses, for ANY
hostname oracle `O` and ANY configuration `c`.

`c.fixR3 = true`, `c.fixR4 = true` say "the tree as it is" (the defaults of
`Conf`, and what the driver runs for /repo: the harness reports the level).
Every clause of the property is a theorem for that variant.  The variant with a
switch off is the code before 410da26 / 2820039: `C10_counterexample_*_before_fix`
show what was wrong, `*_partial` what held all the same.
-/
import AGH.Lemmas.DHCPObs
import AGH.Lemmas.DHCPNames
import AGH.Lemmas.DHCPAnswers
import AGH.Lemmas.LeaseDBCodec
import AGH.Gen.C10Steps
namespace AGH.C10
open AGH

theorem C10_inv_init (c : Conf) : Inv c State.init := Inv_init c

/-- Every operation keeps the invariant (addresses and MACs unique, dynamic
leases inside the pool, bitset / address index / hostname index in step with
the table, file well-formed). -/
theorem C10_inv_step (O : Oracle) (c : Conf) (s : State) (op : Op) (h : Inv c s) :
    Inv c (step O c s op).1 := Inv_step h

theorem C10_inv_reachable (O : Oracle) (c : Conf) (ops : List Op) :
    Inv c (run O c State.init ops) := run_inv ops _ (Inv_init c)

/-- For every address at most one lease (held or not, static or dynamic). -/
theorem C10_no_shared_address {O : Oracle} {c : Conf} {s : State} (hr : Reachable O c s)
    {l₁ l₂ : Lease} (h₁ : l₁ ∈ s.leases) (h₂ : l₂ ∈ s.leases) (hip : l₁.ip = l₂.ip) : l₁ = l₂ :=
  nodup_map_inj hr.inv.ipNodup h₁ h₂ hip

/-- A client holds at most one lease. -/
theorem C10_one_lease_per_client {O : Oracle} {c : Conf} {s : State} (hr : Reachable O c s)
    {l₁ l₂ : Lease} (h₁ : l₁ ∈ s.leases) (h₂ : l₂ ∈ s.leases) (hmac : l₁.mac = l₂.mac) : l₁ = l₂ :=
  nodup_map_inj hr.inv.macNodup h₁ h₂ hmac

/-- The table holds every lease once (no object twice). -/
theorem C10_each_lease_once {O : Oracle} {c : Conf} {s : State} (hr : Reachable O c s) :
    (s.leases.map (·.id)).Nodup ∧ (s.leases.map (·.ip)).Nodup ∧ (s.leases.map (·.mac)).Nodup :=
  ⟨hr.inv.idNodup, hr.inv.ipNodup, hr.inv.macNodup⟩

/-- A configuration the server accepts never has the gateway inside the
(inclusive) pool — at its first or last address included.  `validate`
transcribes `V4ServerConf.Validate`; its verdict is compared with the real
`v4Create` on every generated configuration. -/
theorem C10_validate_excludes_gateway {c : Conf} (h : validate c = true) :
    ¬ (c.start ≤ c.gw ∧ c.gw ≤ c.stop) ∧ c.start < c.stop := ⟨(validate_spec h).2.1, (validate_spec h).1⟩

/-- Dynamic addresses lie inside the pool, are not the gateway (because the
configuration passed validation) and never coincide with a static reservation. -/
theorem C10_dynamic_in_pool_not_reserved {O : Oracle} {c : Conf} {s : State} (hc : validate c = true)
    (hr : Reachable O c s) {l : Lease} (hl : l ∈ s.leases) (hd : l.static = false) :
    (c.start ≤ l.ip ∧ l.ip ≤ c.stop) ∧ l.ip ≠ c.gw ∧ ∀ r ∈ s.leases, r.static = true → r.ip ≠ l.ip := by
  have hp := hr.inv.dynPool l hl hd
  refine ⟨hp, fun e => (validate_spec hc).2.1 ⟨e ▸ hp.1, e ▸ hp.2⟩, ?_⟩
  intro r hrm hrs e
  have : r = l := nodup_map_inj hr.inv.ipNodup hrm hl e
  rw [this, hd] at hrs; cases hrs

/-- The address of a positive reply is recorded in the table for the client it was sent to. -/
theorem C10_reply_recorded {O : Oracle} {c : Conf} {s : State} (hr : Reachable O c s) {op : Op}
    {m : Bytes} (hm : op.mac? = some m) (hrc : (step O c s op).2.rc = 1) (hyi : (step O c s op).2.yi ≠ 0) :
    ∃ l ∈ (step O c s op).1.leases, l.mac = m ∧ l.ip = (step O c s op).2.yi :=
  step_recorded hm hrc hyi

/-- A client with a reservation is only ever given that address (OFFER, ACK of
any REQUEST flavour, DECLINE replacement). -/
theorem C10_reserved_client_gets_reservation {O : Oracle} {c : Conf} {s : State} (hr : Reachable O c s)
    {op : Op} {m : Bytes} (hm : op.mac? = some m)
    (hrc : (step O c s op).2.rc = 1) (hyi : (step O c s op).2.yi ≠ 0)
    {r : Lease} (hrl : r ∈ (step O c s op).1.leases) (_hrs : r.static = true) (hrm : r.mac = m) :
    (step O c s op).2.yi = r.ip :=
  step_reply_ip hr.inv hm hrc hyi hrl hrm

/-- A DISCOVER from a new client is answered with an OFFER of a pool address
whenever some pool address is neither leased (held by an unexpired lease) nor
reserved — also when every address carries a lease and only expired ones are left. -/
theorem C10_offer_liveness {O : Oracle} {c : Conf} {s : State} (hr : Reachable O c s)
    {mac : Bytes} (hv : validMAC mac = true) (hnew : ∀ l ∈ s.leases, l.mac ≠ mac)
    (hfree : ∃ a, c.start ≤ a ∧ a ≤ c.stop ∧ ∀ l ∈ s.leases, l.ip = a → l.static = false ∧ l.exp < s.now) :
    (step O c s (.discover mac)).2.rc = 1 ∧ (step O c s (.discover mac)).2.typ = 2 ∧
    c.start ≤ (step O c s (.discover mac)).2.yi ∧ (step O c s (.discover mac)).2.yi ≤ c.stop :=
  step_discover_offer hr.inv hv hnew hfree

/-- No DHCP message and no lapse of time adds, removes, moves, renames or
re-assigns a reservation: the static leases of the table are literally the same
list before and after (so a reserved client keeps its address whatever other
clients send, also when the pool is exhausted and expired leases are recycled). -/
theorem C10_reservations_unchanged_by_dhcp {O : Oracle} {c : Conf} {s : State} (hr : Reachable O c s)
    {op : Op} (hd : op.isDHCP = true) :
    (step O c s op).1.leases.filter (·.static) = s.leases.filter (·.static) :=
  step_statics hr.inv hd

/-- The bitset of leased offsets is exactly the set of pool addresses in the table. -/
theorem C10_bitset_agrees {O : Oracle} {c : Conf} {s : State} (hr : Reachable O c s) (o : Nat) :
    s.bits o = true ↔ ∃ l ∈ s.leases, l.ip = c.start + o ∧ l.ip ≤ c.stop := hr.inv.bitsIff o

/-- The address index maps exactly the addresses of the table, each to its lease. -/
theorem C10_ip_index_agrees {O : Oracle} {c : Conf} {s : State} (hr : Reachable O c s) (ip id : Nat) :
    s.ips ip = some id ↔ ∃ l ∈ s.leases, l.ip = ip ∧ l.id = id := hr.inv.ipsIff ip id

/-- Every entry of the hostname index points to a lease of the table that carries that name. -/
theorem C10_host_index_sound {O : Oracle} {c : Conf} {s : State} (hr : Reachable O c s) (h : Bytes) (id : Nat)
    (he : s.hosts h = some id) : ∃ l ∈ s.leases, l.id = id ∧ l.host = h := hr.inv.hostsSound h id he

/-- `HostByIP` answers the name of the lease on that address and `MACByIP` its
hardware address while it is a reservation or unexpired; both answer nothing
for an address without a lease. -/
theorem C10_dns_answers_by_address {O : Oracle} {c : Conf} {s : State} (hr : Reachable O c s) :
    (∀ l ∈ s.leases, s.hostByIP l.ip = l.host ∧
      s.macByIP l.ip = (if l.static || decide (s.now < l.exp) then l.mac else [])) ∧
    (∀ ip, (∀ l ∈ s.leases, l.ip ≠ ip) → s.hostByIP ip = [] ∧ s.macByIP ip = []) :=
  ⟨fun _ hl => answers_at_lease hr.inv hl, fun _ ha => answers_absent hr.inv ha⟩

/-- An address `IPByHost` answers belongs to a lease of the table that carries
that name; a name no lease carries is not answered. -/
theorem C10_dns_answer_by_name_sound {O : Oracle} {c : Conf} {s : State} (hr : Reachable O c s) (n : Bytes) :
    (s.ipByHost n ≠ 0 → ∃ l ∈ s.leases, l.host = n ∧ l.ip = s.ipByHost n) ∧
    ((∀ l ∈ s.leases, l.host ≠ n) → s.ipByHost n = 0) :=
  ⟨fun hne => ipByHost_sound hr.inv hne, fun ha => ipByHost_absent hr.inv ha⟩

/-- `reset_leases` on the running server leaves nothing behind: empty table, no
bit set, empty indexes, an empty file — so the whole pool is on offer again
(`C10_offer_liveness` applies to the state it leaves, which is reachable when `s` is:
`Reachable.step`). -/
theorem C10_reset_leases_frees_everything {O : Oracle} {c : Conf} (s : State) :
    (step O c s .resetLeases).1.leases = [] ∧ (∀ o, (step O c s .resetLeases).1.bits o = false) ∧
    (∀ ip, (step O c s .resetLeases).1.ips ip = none) ∧ (∀ h, (step O c s .resetLeases).1.hosts h = none) ∧
    (step O c s .resetLeases).1.disk = some [] :=
  ⟨rfl, fun _ => rfl, fun _ => rfl, fun _ => rfl, rfl⟩

/-- Every operation other than a restart (and the model's own `reorder` of the
file) ends with `dbStore` or changes neither table nor file — including DECLINE
and a failing static-lease call. -/
theorem C10_store_or_unchanged {O : Oracle} {c : Conf} {s : State} (hr : Reachable O c s) {op : Op}
    (hne : op ≠ .restart) (hnr : ∀ d, op ≠ .reorder d) :
    (∃ x : State, (step O c s op).1 = x.store) ∨
    ((step O c s op).1.leases = s.leases ∧ (step O c s op).1.disk = s.disk) :=
  step_store_or_same hr.inv hne hnr

/-- The file lists exactly the leases in memory (each once, in whatever order
the unstable sort of `writeDB` left them: `Op.reorder`) after every operation
other than a restart, once it did so before. -/
theorem C10_disk_mirror_step {O : Oracle} {c : Conf} {s : State} (hr : Reachable O c s) {op : Op}
    (hne : op ≠ .restart) (hm : Mirror s) : Mirror (step O c s op).1 := Mirror_step hr.inv hm hne

/-- Along every history without a restart the file lists exactly the leases in
memory — for either code variant (with restarts: `C10_disk_mirror`). -/
theorem C10_disk_mirror_without_restart (O : Oracle) (c : Conf) (ops : List Op)
    (hnr : ∀ op ∈ ops, op ≠ .restart) : Mirror (run O c State.init ops) := by
  refine (run_ind (P := fun s ops => (Inv c s ∧ Mirror s) ∧ ∀ op ∈ ops, op ≠ .restart) ?_ ops _
    ⟨⟨Inv_init c, Mirror_init⟩, hnr⟩).1.2
  intro s op rest ⟨⟨hi, hm⟩, hnr⟩
  exact ⟨⟨Inv_step hi, Mirror_step hi hm (hnr op List.mem_cons_self)⟩, fun o ho => hnr o (List.mem_cons_of_mem _ ho)⟩

/-- What is on disk is a permutation of what is in memory: each lease once. -/
theorem C10_disk_lists_each_lease_once {s : State} (hm : Mirror s) {d : List DLease} (hd : s.disk = some d) :
    d.Perm (s.leases.map Lease.toDisk) := by
  rcases hm with ⟨d', h, hp⟩ | ⟨h, _⟩
  · rw [hd] at h; cases h; exact hp
  · rw [hd] at h; cases h

/-- The model meets the specification on its own observations, after every
step of every history: all clauses about addresses and clients (`specCore`:
shared address, two leases per client, pool, reservation, recorded reply, offer
liveness, bitset, address index), DHCP messages leave the reservations alone,
no step other than a restart makes the file differ from the table, and the
hostname index is sound.  What is left of `specOK` are the two clauses the code
violates (hostname index complete — R3; restart reproduces table and answers —
R4), see below. -/
theorem C10_model_meets_spec {O : Oracle} {c : Conf} {s : State} (hc : validate c = true) (hpos : 0 < c.start)
    (hr : Reachable O c s)
    {op : Op} :
    specCore c (obsOf c s) op (step O c s op).2 (obsOf c (step O c s op).1) = true ∧
    reservationsKept (obsOf c s) op (obsOf c (step O c s op).1) = true ∧
    (op ≠ .restart → (∀ d, op ≠ .reorder d) →
      (diskMirror (obsOf c s) && !diskMirror (obsOf c (step O c s op).1)) = false) ∧
    hostIndexSound (obsOf c (step O c s op).1) = true :=
  ⟨specCore_step hc hpos hr.inv, obs_reservationsKept hr.inv, fun hne hnr => obs_disk_step hr.inv hne hnr,
    obs_hostIndexSound (Inv_step hr.inv)⟩

def O0 : Oracle := { norm := fun b => some b, valid := fun _ => true }
def c0 : Conf := { gw := 1, maskLen := 24, start := 10, stop := 12, leaseTime := 60, sid := 2 }
/-- The same configuration on the code before the repairs of R3 and R4. -/
def c0old : Conf := { c0 with fixR3 := false, fixR4 := false }
def mA : Bytes := [2, 0, 0, 0, 0, 1]
def mB : Bytes := [2, 0, 0, 0, 0, 2]
def mC : Bytes := [2, 0, 0, 0, 0, 3]
/-- `0-0-0-10`, the name `GenerateHostname` gives 0.0.0.10. -/
def name10 : Bytes := [48, 45, 48, 45, 48, 45, 49, 48]
def alpha : Bytes := [97, 108, 112, 104, 97]

theorem c0_valid : validate c0 = true := by decide
theorem c0old_valid : validate c0old = true := by decide

/-- R3: a reservation named `0-0-0-10`; a client is offered 0.0.0.10 and requests it without a hostname. -/
def opsR3 : List Op := [.addStatic mA 20 name10, .discover mB, .request mB 2 true 10 0 []]
/-- R4: one DISCOVER that is never followed by a REQUEST. -/
def opsR4 : List Op := [.discover mB]
/-- R4 with the generated name taken: a reservation named `0-0-0-10`, then the DISCOVER. -/
def opsR4b : List Op := [.addStatic mA 20 name10, .discover mB]
/-- A busy, healthy table: reservation, two acknowledged clients, one offer. -/
def opsOK : List Op :=
  [.addStatic mA 20 alpha, .discover mB, .request mB 2 true 10 0 [98], .discover mC, .request mC 2 true 11 0 [99],
   .sleep 5, .discover [2, 0, 0, 0, 0, 4]]

/-- Mixed hardware-address lengths: three 8-byte clients fill the pool, then a
6-byte client whose address is the prefix of the second one's sends DISCOVER
(the pattern of R5, repaired by a691f53). -/
def opsMixed : List Op :=
  [.discover [2, 0, 0, 0, 0, 1, 7, 7], .discover [2, 0, 0, 0, 0, 2, 7, 7], .discover [2, 0, 0, 0, 0, 3, 7, 7],
   .discover mB]

/-! ### R3 — before 410da26 the generated hostname was not checked for uniqueness

Full statement (false): `∀ reachable s, ∀ l ∈ s.leases, l.host ≠ [] → s.hosts l.host = some l.id`
("every named lease is what its name resolves to"), hence also "a restart restores the same table". -/

/-- A reservation named `0-0-0-10`, a client that is offered 0.0.0.10 and
requests it without a hostname: two leases carry the same name, the index entry
of the reservation ends up pointing to the client, and the monitor names the cause. -/
theorem C10_counterexample_generated_hostname_not_unique_before_fix :
    validate c0old = true ∧
    (run O0 c0old State.init opsR3).leases.map (fun l => (l.ip, l.static, l.host)) =
      [(20, true, name10), (10, false, name10)] ∧
    (run O0 c0old State.init opsR3).hosts name10 = some 1 ∧
    (∃ l ∈ (run O0 c0old State.init opsR3).leases, l.host ≠ [] ∧ (run O0 c0old State.init opsR3).hosts l.host ≠ some l.id) ∧
    specWhy c0old (obsOf c0old (run O0 c0old State.init (opsR3.take 2))) (.request mB 2 true 10 0 [])
      (step O0 c0old (run O0 c0old State.init (opsR3.take 2)) (.request mB 2 true 10 0 [])).2
      (obsOf c0old (run O0 c0old State.init opsR3)) = some "generated-hostname-not-unique@request" := by
  decide +kernel

/-- What does hold: the hostname index stays complete over every step that is
not an instance of R3 (`R3at`: a REQUEST commits a still unnamed lease, the
wanted name is taken, and the generated name it falls back to is indexed for
another lease) — DISCOVER, the other REQUESTs, DECLINE, RELEASE, the static-lease
API and restart included. -/
theorem C10_host_index_complete_step_partial {O : Oracle} {c : Conf} {s : State} (hr : Reachable O c s)
    (hcpl : HostComplete s) {op : Op} (hno : ¬ R3at O c s op) :
    HostComplete (step O c s op).1 := (Inv2_step (p := True) ⟨hr.inv, fun _ => hcpl⟩ (fun _ => .inr hno)).2 trivial

/-- Along every history without an instance of R3, every named lease is what its name resolves to. -/
theorem C10_host_index_complete_partial (O : Oracle) (c : Conf) (ops : List Op)
    (hno : NoR3 O c State.init ops) : HostComplete (run O c State.init ops) :=
  (run_inv2 (p := True) ops _ Inv2_init (fun _ => hno)).2 trivial

/-- After the history of `C10_counterexample_generated_hostname_not_unique_before_fix`, the next
restart loses one of the two leases although the file listed both. -/
theorem C10_counterexample_restart_drops_duplicate_hostname_before_fix :
    Mirror (run O0 c0old State.init opsR3) ∧
    (run O0 c0old State.init opsR3).leases.length = 2 ∧
    (restart O0 c0old (run O0 c0old State.init opsR3)).leases.map (fun l => (l.ip, l.static)) = [(20, true)] := by
  exact ⟨Mirror_of_eq (by decide +kernel), by decide +kernel⟩

/-! ### R4 — before 2820039 `ResetLeases` renamed unnamed dynamic leases

Full statement (false): `∀ reachable s, Mirror s → (restart O c s).leases.map Lease.view` is a
permutation of `s.leases.map Lease.view`, with the same `HostByIP` / `IPByHost` answers. -/

/-- One DISCOVER, then a restart: the file mirrors the table, yet the reloaded
lease has a hostname it did not have, and `IPByHost` answers a name it did not know. -/
theorem C10_counterexample_restart_names_unnamed_lease_before_fix :
    validate c0old = true ∧ Mirror (run O0 c0old State.init opsR4) ∧
    (run O0 c0old State.init opsR4).leases.map (·.host) = [[]] ∧
    (restart O0 c0old (run O0 c0old State.init opsR4)).leases.map (·.host) = [name10] ∧
    (obsOf c0old (run O0 c0old State.init opsR4)).ipByHost name10 = none ∧
    (obsOf c0old (restart O0 c0old (run O0 c0old State.init opsR4))).ipByHost name10 = some 10 ∧
    specWhy c0old (obsOf c0old (run O0 c0old State.init opsR4)) .restart (Reply.api "ok")
      (obsOf c0old (restart O0 c0old (run O0 c0old State.init opsR4))) = some "restart-names-unnamed-lease" := by
  exact ⟨c0old_valid, Mirror_of_eq (by decide +kernel), by decide +kernel⟩

/-- If the generated name is taken, the restart drops a lease — here the reservation. -/
theorem C10_counterexample_restart_drops_lease_generated_name_taken_before_fix :
    Mirror (run O0 c0old State.init opsR4b) ∧
    (run O0 c0old State.init opsR4b).leases.map (fun l => (l.ip, l.static, l.host)) = [(20, true, name10), (10, false, [])] ∧
    (restart O0 c0old (run O0 c0old State.init opsR4b)).leases.map (fun l => (l.ip, l.static, l.host)) = [(10, false, name10)] ∧
    specWhy c0old (obsOf c0old (run O0 c0old State.init opsR4b)) .restart (Reply.api "ok")
      (obsOf c0old (restart O0 c0old (run O0 c0old State.init opsR4b))) = some "restart-drops-lease-generated-name-taken" := by
  exact ⟨Mirror_of_eq (by decide +kernel), by decide +kernel⟩

/-- What does hold on the unrepaired tree (excludes R3 and R4 by hypothesis):
when the file mirrors the table (in ANY order — `slices.SortFunc` is not stable
beyond 12 records), reservations lie in the subnet, loading leaves the name of
every dynamic lease alone and no two leases share a name, a restart restores
exactly the records of the file, every lease once. -/
theorem C10_restart_restores_table_partial {O : Oracle} {c : Conf} {s : State} (hr : Reachable O c s)
    (hm : Mirror s)
    (hsub : ∀ l ∈ s.leases, l.static = true → inSubnet c l.ip = true)
    (hnamed : ∀ l ∈ s.leases, l.static = false → loadHost O c l.toDisk = l.host)
    (huniq : ∀ l₁ ∈ s.leases, ∀ l₂ ∈ s.leases, l₁.host = l₂.host → l₁.host ≠ [] → l₁ = l₂) :
    ((restart O c s).leases.map Lease.toDisk).Perm (s.leases.map Lease.toDisk) ∧
    (∀ d, s.disk = some d → (restart O c s).leases.map Lease.toDisk = d) := by
  have h := restart_restores hr.inv hm hsub hnamed huniq
  exact ⟨h.1, h.2.2⟩

/-! ### the tree as it is (`fixR3 = fixR4 = true`): the clauses about the hostname index, the restart and
the file at full strength, for every history -/

/-- For every history (any tree): every hostname in the table and in the file
is empty or left alone by normalisation + validation, and every reservation
lies in the subnet. -/
theorem C10_names_normalised_reservations_in_subnet {O : Oracle} {c : Conf} (ho : OracleOK O) (ops : List Op) :
    Inv3 O c (run O c State.init ops) := run_inv3 ho ops _ (Inv3_init O c)

/-- Along EVERY history every named lease is what its name resolves to. -/
theorem C10_host_index_complete {O : Oracle} {c : Conf} (hf : c.fixR3 = true) (ops : List Op) :
    HostComplete (run O c State.init ops) :=
  (run_inv2_fix hf ops).2 trivial

/-- A restart in ANY reachable state whose file mirrors the
table restores exactly that table (every lease once, same MAC, address, name,
kind and expiry), and the file still mirrors it. -/
theorem C10_restart_restores_table {O : Oracle} {c : Conf} {s : State} (ho : OracleOK O)
    (hf3 : c.fixR3 = true) (hf4 : c.fixR4 = true) (hr : Reachable O c s) (hm : Mirror s) :
    ((restart O c s).leases.map Lease.toDisk).Perm (s.leases.map Lease.toDisk) ∧ Mirror (restart O c s) :=
  restart_restores_fixed hf4 (hr.inv2_inv3 ho hf3).1 (hr.inv2_inv3 ho hf3).2 hm

/-- A restart gives the same hostname/address answers to DNS
as before it (`HostByIP` for every address, `IPByHost` for every name). -/
theorem C10_restart_same_answers {O : Oracle} {c : Conf} {s : State} (ho : OracleOK O)
    (hf3 : c.fixR3 = true) (hf4 : c.fixR4 = true) (hr : Reachable O c s) (hm : Mirror s) :
    (∀ ip, (restart O c s).hostByIP ip = s.hostByIP ip) ∧
    (∀ n, n ≠ [] → (restart O c s).ipByHost n = s.ipByHost n) := by
  have hall := hr.inv2_inv3 ho hf3
  have hres := restart_restores_fixed hf4 hall.1 hall.2 hm
  have hans := answers_eq_of_perm hall.1 (restart_inv2 hall.1.1) hres.1
  exact ⟨hans.1, fun n _ => hans.2 n⟩

/-- Every named lease is answered by `IPByHost` with its address, along every history. -/
theorem C10_dns_answer_by_name_complete {O : Oracle} {c : Conf} (hf : c.fixR3 = true) (ops : List Op)
    {l : Lease} (hl : l ∈ (run O c State.init ops).leases) (hne : l.host ≠ []) :
    (run O c State.init ops).ipByHost l.host = l.ip :=
  ipByHost_complete (run_inv2_fix hf ops) hl hne

/-- The file lists exactly the leases in memory after every
step of EVERY history — restarts included. -/
theorem C10_disk_mirror {O : Oracle} {c : Conf} (ho : OracleOK O) (hf3 : c.fixR3 = true)
    (hf4 : c.fixR4 = true) (ops : List Op) : Mirror (run O c State.init ops) :=
  run_mirror_fixed ho hf3 hf4 ops _ Inv2_init (Inv3_init O c) Mirror_init

/-! ### the bytes of `leases.json`

`encodeDB` / `decodeDB` (`AGH/Model/LeaseDB.lean`) model `json.Marshal` of
`dataLeases` and `json.Unmarshal` + `toLease` byte by byte; on every operation
of every run the real file is compared with `encodeDB` of the model's records
and `decodeDB` of the real bytes with what the real `dbLoad` parsed. -/

/-- The hostname field round-trips: for ANY ASCII hostname (quotes, backslashes,
control characters, `<`, `>`, `&` included) the decoder reads exactly the
hostname back from what the encoder wrote and stops behind the closing quote. -/
theorem C10_leasedb_hostname_roundtrip (h rest : Bytes) (hb : ∀ b ∈ h, b < 128) :
    readString (jsonString h ++ rest) = some (h, rest) := readString_jsonString h rest hb

/-- `decode (encode t) = t` on a table with every kind of record the code
writes: a dynamic lease with an escaped hostname, a static lease (empty
`expires`) with an 8-byte hardware address, an offer with the zero expiry; and
on the empty table. -/
theorem C10_leasedb_roundtrip_witness :
    let t : List DLease :=
      [{ mac := [2, 0, 0, 0, 0, 10], ip := 3232238180, host := [97, 60, 98, 62, 38, 34, 92, 1, 127], static := false, exp := 1010 },
       { mac := [2, 0, 0, 0, 0, 1, 7, 7], ip := 167772165, host := [], static := true, exp := 0 },
       { mac := [171, 0, 0, 0, 0, 1], ip := 167772166, host := [120], static := false, exp := 0 }]
    decodeDB (parseExpAt 946684800) (encodeDB (fmtExpAt 946684800) t) = some t ∧
    decodeDB (parseExpAt 946684800) (encodeDB (fmtExpAt 946684800) []) = some [] := by
  decide +kernel

/-- `validate` accepts a configuration; a reachable table with a reservation,
two acknowledged clients and an outstanding offer. -/
example : validate c0 = true ∧
    (run O0 c0 State.init opsOK).leases.map (fun l => (l.ip, l.static, l.exp)) =
      [(20, true, 0), (10, false, 1060), (11, false, 1060), (12, false, 0)] :=
  ⟨c0_valid, by decide +kernel⟩

/-- `validate` rejects the gateway at the last, the first and an inner pool address, a one-address pool,
a reversed range and a range outside the gateway's subnet. -/
example : validate { c0 with gw := 12 } = false ∧ validate { c0 with gw := 10 } = false ∧
    validate { c0 with gw := 11 } = false ∧ validate { c0 with stop := 10 } = false ∧
    validate { c0 with start := 12, stop := 10 } = false ∧ validate { c0 with stop := 300 } = false ∧
    validate { c0 with gw := 13 } = true ∧ validate { c0 with gw := 9 } = true := by decide +kernel

example : Reachable O0 c0 (run O0 c0 State.init opsOK) := ⟨opsOK, rfl⟩

/-- Mixed address lengths (the history of R5, repaired by a691f53): the 6-byte
client that recycles the expired lease of an 8-byte client is recorded under
its own address, and all hardware addresses of the table stay distinct. -/
example :
    (step O0 c0 (run O0 c0 State.init (opsMixed.take 3)) (.discover mB)).2 = { rc := 1, typ := 2, yi := 10, err := "ok" } ∧
    (run O0 c0 State.init opsMixed).leases.map (fun l => (l.ip, l.mac)) =
      [(10, mB), (11, [2, 0, 0, 0, 0, 2, 7, 7]), (12, [2, 0, 0, 0, 0, 3, 7, 7])] := by
  decide +kernel

/-- The hypotheses of `C10_offer_liveness` hold in a state where every pool
address carries a lease and only expiry frees one (and the offer recycles it). -/
example :
    let s := run O0 c0 State.init (opsOK ++ [.sleep 100])
    (∀ l ∈ s.leases, l.mac ≠ [2, 0, 0, 0, 0, 9]) ∧
    (∃ a, c0.start ≤ a ∧ a ≤ c0.stop ∧ ∀ l ∈ s.leases, l.ip = a → l.static = false ∧ l.exp < s.now) ∧
    nextIP c0 s = none ∧
    (step O0 c0 s (.discover [2, 0, 0, 0, 0, 9])).2 = { rc := 1, typ := 2, yi := 10, err := "ok" } := by
  exact ⟨by decide +kernel, ⟨10, by decide +kernel⟩, by decide +kernel⟩

/-- The hypotheses of `C10_restart_restores_table_partial` hold in a non-trivial state. -/
example :
    let s := run O0 c0 State.init (opsOK.take 5)
    Mirror s ∧ s.leases.length = 3 ∧
    (∀ l ∈ s.leases, l.static = true → inSubnet c0 l.ip = true) ∧
    (∀ l ∈ s.leases, l.static = false → loadHost O0 c0 l.toDisk = l.host) ∧
    (∀ l₁ ∈ s.leases, ∀ l₂ ∈ s.leases, l₁.host = l₂.host → l₁.host ≠ [] → l₁ = l₂) :=
  ⟨Mirror_of_eq (by decide +kernel), by decide +kernel⟩

/-- The tree as it is, on the two witness histories of R3 and R4: R3 — the client stays
unnamed instead of taking the reservation's name, and the restart keeps both
leases; R4 — the offered lease is still unnamed after the restart. -/
example :
    (run O0 c0 State.init opsR3).leases.map (fun l => (l.ip, l.host)) =
      [(20, name10), (10, [])] ∧
    (restart O0 c0
      (run O0 c0 State.init opsR3)).leases.map (fun l => (l.ip, l.host)) =
      [(10, []), (20, name10)] ∧
    (restart O0 c0
      (run O0 c0 State.init opsR4)).leases.map (·.host) = [[]] := by
  decide +kernel

/-- The hypotheses of the restart theorems are satisfiable: the witness oracle is
`OracleOK`, `c0` is the tree as it is, and the busy table is mirrored by its file. -/
example : OracleOK O0 ∧ c0.fixR3 = true ∧ c0.fixR4 = true ∧ Mirror (run O0 c0 State.init opsOK) ∧
    (run O0 c0 State.init opsOK).leases.length = 4 :=
  ⟨⟨fun x n h _ => by simp only [O0, Option.some.injEq] at h ⊢, fun _ => ⟨rfl, rfl⟩⟩, rfl, rfl,
    Mirror_of_eq (by decide +kernel), by decide +kernel⟩

/-- `HostComplete` holds in a non-trivial reachable state (three named leases). -/
example : HostComplete (run O0 c0 State.init (opsOK.take 5)) ∧
    (run O0 c0 State.init (opsOK.take 5)).leases.map (·.host) = [alpha, [98], [99]] := by
  refine ⟨?_, by decide +kernel⟩
  unfold HostComplete
  decide +kernel

/-- `C10_reserved_client_gets_reservation` is not vacuous: the reserved client is offered its reservation. -/
example : (step O0 c0 (run O0 c0 State.init opsOK) (.discover mA)).2 = { rc := 1, typ := 2, yi := 20, err := "ok" } := by
  decide +kernel

/-! ## Translator tie: the order of the lease-table steps (regenerated per run)

`extract/cmd/c10` rewrites `Gen/C10Steps.lean` from the typed syntax of
`internal/dhcpd/v4_unix.go`: for each lease-table function the calls of
package-`dhcpd` callees in source order (`defer:` marks deferred ones,
`notify:<event>` the configuration's callback).  The model's operations
(`Model/DHCP.lean`) perform their table steps in exactly this order; the
invariant proofs (`C10_inv_step`) go through the intermediate tables in that
order, and the persistence clause rests on every mutating entry point storing
the table (`notify:LeaseChangedDBStore`) on EVERY path, also the failing ones. -/

def before (a b : String) (l : List String) : Bool :=
  match l.dropWhile (· != a) with
  | [] => false
  | _ :: rest => rest.contains b

def stepsOf (f : String) : List String := ((Gen.C10.leaseSteps.find? (·.1 == f)).map (·.2)).getD []

/-- The current source performs the lease-table steps in the order the model
assumes. -/
theorem C10_T_lease_step_order :
    Gen.C10.leaseSteps =
      [ ("AddStaticLease", ["normalizeHostname", "updateStaticLease", "notify:LeaseChangedDBStore",
          "notify:LeaseChangedDBStore", "notify:LeaseChangedAddedStatic"]),
        ("UpdateStaticLease", ["defer:notify:LeaseChangedDBStore", "defer:notify:LeaseChangedRemovedStatic",
          "findLease", "validateStaticLease", "rmLease", "addLease"]),
        ("RemoveStaticLease", ["defer:notify:LeaseChangedDBStore", "defer:notify:LeaseChangedRemovedStatic", "rmLease"]),
        ("updateStaticLease", ["rmDynamicLease", "addLease"]),
        ("rmDynamicLease", ["rmLeaseByIndex"]),
        ("addLease", ["offset", "set"]),
        ("rmLease", ["rmLeaseByIndex"]),
        ("reserveLease", ["nextIP", "findExpiredLease", "addLease"]),
        ("commitLease", ["validHostnameForClient"]),
        ("allocateLease", ["reserveLease", "addrAvailable", "blocklistLease"]),
        ("handleDiscover", ["defer:notify:LeaseChangedDBStore", "findLease", "allocateLease"]),
        ("handleDecline", ["defer:notify:LeaseChangedDBStore", "findLeaseForIP", "rmDynamicLease", "allocateLease"]),
        ("handleRelease", ["defer:notify:LeaseChangedDBStore", "rmDynamicLease"]),
        ("ResetLeases", ["newBitSet", "validHostnameForClient", "addLease"]) ] := rfl

/-- What the proofs use of that table, stated on the regenerated facts: a static
add removes the clashing dynamic leases BEFORE it inserts; it stores the table
on the failing path as well as on the success path (two store notifications
after `updateStaticLease`) and announces the new static lease only after the
store; a fresh address is looked for before an expired lease is recycled; every
request handler that may change the table stores it when it returns. -/
theorem C10_T_step_order_consequences :
    before "rmDynamicLease" "addLease" (stepsOf "updateStaticLease") = true ∧
      ((stepsOf "AddStaticLease").dropWhile (· != "updateStaticLease")).count "notify:LeaseChangedDBStore" = 2 ∧
      before "notify:LeaseChangedDBStore" "notify:LeaseChangedAddedStatic" (stepsOf "AddStaticLease") = true ∧
      before "nextIP" "findExpiredLease" (stepsOf "reserveLease") = true ∧
      before "findExpiredLease" "addLease" (stepsOf "reserveLease") = true ∧
      ["handleDiscover", "handleDecline", "handleRelease"].all
        (fun f => (stepsOf f).contains "defer:notify:LeaseChangedDBStore") = true ∧
      before "rmLease" "addLease" (stepsOf "UpdateStaticLease") = true := by
  decide +kernel

end AGH.C10
