/-
C11 — every admin endpoint is behind authentication.

Generic theorems quantify over ALL wrapper chains, handlers and requests.
Per-program theorems quantify over `Gen.routes` / `Gen.regFlows`, the tables
regenerated from the tree by /verif/extract/cmd/c11 on every run; they are
discharged by kernel evaluation (`decide +kernel`, no axioms; the byte-string
comparisons of `C11_gate_path_reviewed` and `C11_patterns_distinct` first go
through the numeric key of `Lemmas/Http.lean`).

"The handler does not run / no side effect" is stated in its strong form: the
answer does not depend on the wrapped handler at all
(`∀ h₁ h₂, run chain h₁ req = run chain h₂ req`), not merely "the answer is
not `ran`".
-/
import AGH.Lemmas.Http
import AGH.Gen.C11Routes
import AGH.Spec.HttpGate
namespace AGH.C11
open AGH AGH.Bytes

/-- `isPublicResource p` holds exactly for `/assets/<s>` and `/login.<s>` with
no '/' in `s`. -/
theorem C11_public_paths (p : Bytes) :
    isPublicResource p = true ↔
      (∃ s, p = pAssets ++ s ∧ slash ∉ s) ∨ (∃ s, p = pLoginDot ++ s ∧ slash ∉ s) := by
  unfold isPublicResource
  rw [Bool.or_eq_true, globLitStar_iff, globLitStar_iff]

/-- No path under `/control/` is public. -/
theorem C11_control_not_public (s : Bytes) : isPublicResource (pControl ++ s) = false := by
  simp [isPublicResource, globLitStar, pControl, pAssets, pLoginDot, List.isPrefixOf]

/-- The code's public set is inside the property's list of public paths. -/
theorem C11_public_within_property (p : Bytes) (h : isPublicResource p = true) :
    specPublicPath p = true := by
  rcases Bool.or_eq_true_iff.mp h with h | h
  · have : isStaticAsset p = true := (Bool.and_eq_true_iff.mp h).1
    simp [specPublicPath, this]
  · have : isLoginPage p = true := h
    simp [specPublicPath, this]

/-- If `optionalAuth` is anywhere in the chain, a user exists and the path is
not public, the handler is entered only for authenticated requests. -/
theorem C11_auth_gate (chain : List Wrapper) (h : Handler) (req : Req)
    (hmem : .optionalAuth ∈ chain) (hu : authRequired req = true)
    (hp : isPublicResource req.path = false) (hr : run chain h req = .ran) :
    authenticated req = true := by
  have hn := (run_ran_answer hr).1 _ hmem
  cases ha : authenticated req with
  | true => rfl
  | false => rw [answer_auth_denied req hu hp ha] at hn; cases hn

/-- Strong form: without valid credentials the answer does not depend on the
handler — it is never applied, so nothing it would do happens. -/
theorem C11_no_side_effect (chain : List Wrapper) (req : Req)
    (hmem : .optionalAuth ∈ chain) (hu : authRequired req = true)
    (hp : isPublicResource req.path = false) (ha : authenticated req = false)
    (h₁ h₂ : Handler) : run chain h₁ req = run chain h₂ req :=
  run_congr_of_answer chain req _ hmem (answer_auth_denied req hu hp ha) h₁ h₂

/-- The exact answer when the gate is the first effective wrapper (only
`postInstall`/`gzip` before it) and the installation is complete: a redirect to
the login page for `/` and `/index.html`, 403 otherwise. -/
theorem C11_denied_response (chain : List Wrapper) (h : Handler) (req : Req)
    (hc : authFirst chain = true) (hu : authRequired req = true) (hf : req.firstRun = false)
    (hp : isPublicResource req.path = false) (ha : authenticated req = false) :
    run chain h req =
      if req.path = pRoot ∨ req.path = pIndex then .redirect (loginTarget req.glMode)
      else .forbiddenAuth := by
  rw [run_eq]
  fun_induction authFirst chain with
  | case1 t ih =>
    rw [List.findSome?_cons, answer_postInstall_installed req hf]
    exact ih hc
  | case2 t ih => exact ih hc
  | case3 => rw [List.findSome?_cons, answer_auth_denied req hu hp ha]; rfl
  | case4 => cases hc

/-- No credential whose name is not the exact name of a configured user is
"correct", whatever the password and whatever `bcrypt` says. -/
theorem C11_basic_needs_existing_user (users : List (Bytes × Bytes))
    (verifies : Bytes → Bytes → Bool) (name pass : Bytes)
    (h : basicClass users verifies (some (name, pass)) = .right) :
    ∃ u ∈ users, u.1 = name ∧ verifies u.2 pass = true := by
  rw [← findUserOK_iff]
  cases hq : findUserOK users verifies name pass with
  | true => rfl
  | false => simp [basicClass, hq] at h

/-- In particular the empty name (`Authorization: Basic Og==`), as long as no
configured user has the empty name; and nothing at all when no user exists. -/
theorem C11_basic_empty_name_rejected (users : List (Bytes × Bytes))
    (verifies : Bytes → Bytes → Bool) (pass : Bytes) (hne : ∀ u ∈ users, u.1 ≠ []) :
    basicClass users verifies (some ([], pass)) = .wrong := by
  have hf : findUserOK users verifies [] pass = false := by
    rw [Bool.eq_false_iff, Ne, findUserOK_iff]
    exact fun ⟨u, hu, hn, _⟩ => hne u hu hn
  simp [basicClass, hf]

/-- End to end for the Basic branch: a request without session cookie and without
gl-inet token that reaches a handler behind the gate on a non-public path carries
the exact name of a configured user and a password that verifies for that user. -/
theorem C11_basic_gate (chain : List Wrapper) (h : Handler) (req : Req)
    (users : List (Bytes × Bytes)) (verifies : Bytes → Bytes → Bool) (cred : Option (Bytes × Bytes))
    (hb : req.basic = basicClass users verifies cred)
    (hmem : .optionalAuth ∈ chain) (hu : authRequired req = true)
    (hp : isPublicResource req.path = false) (hc : req.cookie = .none)
    (hg : glProcessCookie req = false) (hr : run chain h req = .ran) :
    ∃ name pass, cred = some (name, pass) ∧ ∃ u ∈ users, u.1 = name ∧ verifies u.2 pass = true := by
  have ha := C11_auth_gate chain h req hmem hu hp hr
  unfold authenticated at ha
  rw [hg, hc] at ha
  simp only [Bool.false_or, sessionOrBasic, Bool.and_eq_true, beq_iff_eq] at ha
  have hright := ha.1
  rw [hb] at hright
  cases cred with
  | none => simp [basicClass] at hright
  | some c =>
    obtain ⟨name, pass⟩ := c
    exact ⟨name, pass, rfl, C11_basic_needs_existing_user users verifies name pass hright⟩

/-- The gate's own decision is a function of the path, the class of the session
cookie, the class of the basic credentials and "a user exists" — of nothing else
in the request (no method, no `Origin`/`Access-Control-*`, no forwarding
headers): it answers `authDecision …` or, when that is `none`, calls the
wrapped handler. -/
theorem C11_auth_decision_factors (g : Handler) (req : Req) :
    optionalAuthW g req =
      (authDecision req.path req.cookie req.basic (authRequired req) req.glMode
        (glProcessCookie req) req.addrBlocked).getD (g req) :=
  apply_eq .optionalAuth g req

/-- For any chain: two requests that differ only in their other headers (an
arbitrary list of name/value pairs) get the same answer, provided the innermost
handler itself answers them alike.  In particular whether the handler is entered
does not depend on those headers. -/
theorem C11_auth_ignores_other_headers (chain : List Wrapper) (h : Handler) (a b : Req)
    (hs : sameButHeaders a b) (hh : h a = h b) : run chain h a = run chain h b := by
  obtain ⟨l, rfl⟩ := hs.eq_update
  exact run_headers chain h h b l hh

/-- The form used against the implementation: replacing the header list changes
nothing in what the wrappers do. -/
theorem C11_headers_irrelevant (chain : List Wrapper) (req : Req) (hs : List (Bytes × Bytes)) :
    run chain (fun _ => .ran) { req with headers := hs } = run chain (fun _ => .ran) req :=
  run_headers chain _ _ req hs rfl

/-- Behind `ensure m` the handler is entered only with method `m`, and for a
modifying method only with `application/json` (or no body and no content type). -/
theorem C11_method_ctype (m : Bytes) (chain : List Wrapper) (h : Handler) (req : Req)
    (hmem : .ensure m ∈ chain) (hr : run chain h req = .ran) :
    req.method = m ∧ (modifiesData m = true → jsonOrEmpty req = true) := by
  have := ensure_mem_ran hmem hr
  exact ⟨this.1, fun hm => ctypeOK_json req (this.2 hm)⟩

/-- A request that announces a body — any `ContentLength` other than 0, in
particular the unknown length -1 of a chunked (or HTTP/2 length-less) request,
whatever the chunks turn out to hold — enters a handler behind `ensure m` with a
modifying `m` only with `Content-Type: application/json`. -/
theorem C11_body_needs_json (m : Bytes) (chain : List Wrapper) (h : Handler) (req : Req)
    (hmem : .ensure m ∈ chain) (hmod : modifiesData m = true)
    (hlen : req.contentLength ≠ 0) (hr : run chain h req = .ran) :
    req.ctype = sAppJSON := by
  have hc := (ensure_mem_ran hmem hr).2 hmod
  unfold ctypeOK at hc
  rw [if_neg hlen] at hc
  exact beq_iff_eq.mp hc

/-- Behind `preInstall` the handler is entered only during the first run. -/
theorem C11_preinstall_only_first_run (chain : List Wrapper) (h : Handler) (req : Req)
    (hmem : .preInstall ∈ chain) (hr : run chain h req = .ran) : req.firstRun = true := by
  have hn := (run_ran_answer hr).1 _ hmem
  cases hf : req.firstRun with
  | true => rfl
  | false => rw [answer_preInstall_closed req hf] at hn; cases hn

/-- Strong form: after the installation a `preInstall` route answers without
looking at its handler. -/
theorem C11_preinstall_closed_after_install (chain : List Wrapper) (req : Req)
    (hmem : .preInstall ∈ chain) (hf : req.firstRun = false) (h₁ h₂ : Handler) :
    run chain h₁ req = run chain h₂ req :=
  run_congr_of_answer chain req _ hmem (answer_preInstall_closed req hf) h₁ h₂

/-- Why "an administrator account exists" must include "the first run is
over": in the (transient) state `firstRun ∧ usersExist` the wizard's configure
route enters its handler without any credentials.  `handleInstallConfigure`
can leave that state behind when `startMods`/`config.write` fail after
`addUser` succeeded (controlinstall.go:436-470). -/
theorem C11_preinstall_open_on_first_run :
    run [.preInstall, .ensure sPOST] (fun _ => .ran)
      { path := [47], method := sPOST, cookie := .none, basic := .none, ctype := [],
        contentLength := 0, firstRun := true, usersExist := true } = .ran := by
  decide +kernel

/-- Every route registered on the admin mux is either one of the property's
public routes (`/control/login`, the two mobileconfig generators, `/dns-query`,
`/dns-query/`), an install-wizard route (outermost wrapper `preInstall`), or has
`optionalAuth` as its first effective wrapper; and every route declared with a
state-changing method is wrapped in `ensure` for exactly that method. -/
theorem C11_all_routes_gated : Gen.routes.all routeOK = true := by
  decide +kernel

/-- The same fact route by route, `routeOK` unfolded into memberships: the form the theorems below use. -/
theorem C11_route_gated (r : Route) (hr : r ∈ Gen.routes) :
    (allowedPattern r.pattern = true ∨ preInstallFirst r.chain = true ∨
      (.optionalAuth ∈ r.chain ∧ authFirst r.chain = true)) ∧
    (stateChanging r.declared = true → .ensure r.declared ∈ r.chain) := by
  have h := List.all_eq_true.mp C11_all_routes_gated r hr
  unfold routeOK at h
  simp only [Bool.and_eq_true, Bool.or_eq_true, Bool.not_eq_true'] at h
  refine ⟨?_, ?_⟩
  · rcases h.1 with (h1 | h1) | h1
    · exact Or.inl h1
    · exact Or.inr (Or.inl h1)
    · exact Or.inr (Or.inr ⟨authFirst_mem _ h1, h1⟩)
  · intro hs
    rcases h.2 with h2 | h2
    · rw [hs] at h2; cases h2
    · exact List.contains_iff_mem.mp h2

/-- Every value that flows into a location of type `aghhttp.RegisterFunc` is
`home.httpRegister`, `nil`, or another location of that type: no package is
handed a different registration function. -/
theorem C11_register_flows : Gen.regFlows.all flowOK = true := by
  decide +kernel

/-- Every function named on the path from the mux to a registered handler (the
wrappers, the registrar, the gl-inet token check, the session and user lookups
and everything they call, module or library) is one the model was written
against: nothing unreviewed — no extra shortcut, no rewriting of the token
name — sits on the gate path. -/
theorem C11_gate_path_reviewed :
    Gen.gateCallees.all (fun n => reviewedGateCallees.contains n) = true := by
  simp only [contains_eq_any_key byteNum]
  decide +kernel

/-- No two rows of the table have the same pattern (so "the route serving a
pattern" is well defined; the real mux would panic on a duplicate). -/
theorem C11_patterns_distinct : (Gen.routes.map (·.pattern)).Nodup :=
  nodup_of_distinct_keys byteNum (by decide +kernel)

/-! ## Start-up: users in the configuration ⇒ the gate is on -/

/-- Whatever state `data/sessions.db` is in, start-up either stops or goes on with
an auth module (never with `globalContext.auth == nil`). -/
theorem C11_startup_never_without_auth (st : StoreState) (n : Bool) (h : startup st = some n) :
    n = false := by
  unfold startup at h
  split at h
  · injection h with h; exact h.symm
  · cases h

/-- No state of the session store opens the gate: after any start-up that goes
on, a configured user means authentication is required (so every theorem above
that assumes `authRequired` applies). -/
theorem C11_users_exist_gate_on (st : StoreState) (n : Bool) (req : Req)
    (hs : startup st = some n) (hn : req.authNil = n) (hu : req.usersExist = true) :
    authRequired req = true := by
  have := C11_startup_never_without_auth st n hs
  subst this
  simp [authRequired, hn, hu]

/-- Every configured user is kept by `InitAuth`, so after any start-up that goes
on (gl-inet mode off) authentication is required exactly when the configured
list is not empty — whatever the entries' password hashes look like. -/
theorem C11_configured_users_all_kept {α : Type} (cfg : List α) :
    initAuthUsers cfg = cfg ∧
    ∀ (st : StoreState) (n : Bool) (req : Req), startup st = some n → req.authNil = n →
      req.glMode = false → req.usersExist = usersExistAfter cfg →
      (authRequired req = true ↔ cfg ≠ []) := by
  refine ⟨rfl, fun st n req hs hn hg hu => ?_⟩
  have := C11_startup_never_without_auth st n hs
  subst this
  cases cfg <;> simp [authRequired, hn, hg, hu, usersExistAfter, initAuthUsers]

/-- In the code of the tree: `InitAuth` puts its `users` parameter into the module
unchanged and writes the field nowhere else (regenerated def-use fact). -/
theorem C11_initauth_keeps_users :
    Gen.authFacts.any (fun f => f.kind == .usersStoredAsGiven) = true := by
  decide +kernel

/-- The start-up code of the tree (regenerated facts): every assignment to
`globalContext.auth` is the checked one from `initUsers` followed by
`fatalOnError`, or the `nil` of the shutdown path after the web server is
closed; every `return nil, …` of `initUsers` carries an error that cannot be nil,
every other return comes after the nil check.  And the checked assignment is
there. -/
theorem C11_auth_never_nil_after_startup :
    Gen.authFacts.all authFactOK = true ∧
    Gen.authFacts.any (fun f => f.kind == .assignCheckedFatal) = true ∧
    Gen.authFacts.any (fun f => f.kind == .returnNilWithError) = true := by
  decide +kernel

/-- The gate's Basic branch decides by `findUser`'s verdict: on the gate path every
call of `findUser` discards the returned user (`_, ok = …`) and the variable that
receives the verdict is assigned nowhere else (regenerated def-use facts). -/
theorem C11_gate_uses_finduser_verdict :
    Gen.gateUseFacts.all authFactOK = true ∧
    Gen.gateUseFacts.any (fun f => f.kind == .findUserVerdictOnly) = true := by
  decide +kernel

/-- Why it matters: with the auth module missing the gate requires nothing. -/
theorem C11_nil_auth_opens_gate :
    run [.postInstall, .optionalAuth, .gzip, .ensure sGET] (fun _ => .ran)
      { path := [47, 120], method := sGET, cookie := .none, basic := .none, ctype := [],
        contentLength := 0, firstRun := false, usersExist := true, authNil := true } = .ran := by
  decide +kernel

/-! ## gl-inet mode: the router's token file is the credential, by name -/

/-- In gl-inet mode authentication is always required, user or no user. -/
theorem C11_gl_always_required (req : Req) (hn : req.authNil = false) (hg : req.glMode = true) :
    authRequired req = true := by
  simp [authRequired, hg, hn]

/-- The token gate opens only in gl-inet mode, for a request whose `Admin-Token`
cookie is a non-empty value without separator, when the token of exactly that
name is fresh. -/
theorem C11_gl_token_by_name (req : Req) (issued : GLStat) (hfs : nameResolves req issued)
    (hnow : glTimeout < req.now) (h : glProcessCookie req = true) :
    req.glMode = true ∧
    ∃ v, req.glCookie = some v ∧ v ≠ [] ∧ slash ∉ v ∧ tokenFresh req.now issued = true := by
  obtain ⟨hm, v, hv, hp, hf⟩ := glProcess_sub_fresh req hnow h
  refine ⟨hm, v, hv, ?_⟩
  rcases plainName_cases v hp with ⟨hne, hns⟩ | hsl
  · refine ⟨hne, hns, ?_⟩
    rw [← hfs.1 v hv hns]; exact hf
  · subst hsl
    exfalso
    unfold tokenFresh at hf
    cases hs : req.glStat with
    | missing => simp [hs] at hf
    | short => simp [hs] at hf
    | date d => exact hfs.2 hv d hs

/-- The code's notion of an authenticated request is inside the property's. -/
theorem authenticated_within_property (req : Req) (issued : GLStat) (hfs : nameResolves req issued)
    (hnow : glTimeout < req.now) (h : authenticated req = true) :
    specAuthenticated req issued = true := by
  unfold authenticated at h
  unfold specAuthenticated specGLAuthenticated
  rw [Bool.or_eq_true] at h
  rcases h with h | h
  · obtain ⟨hm, v, hv, _, _, hf⟩ := C11_gl_token_by_name req issued hfs hnow h
    simp [hm, hv, hf]
  · unfold sessionOrBasic at h
    cases hc : req.cookie <;> simp [hc] at h ⊢
    simp [h]

/-- A file system as the gate sees it, with NOTHING assumed about its content:
`dir name` is whatever entry the token directory holds under
`gl_token_<name>` (a token, any other file, a directory, nothing); `other v` is
whatever a value WITH separators resolves to (any existing file anywhere, e.g.
through a directory `gl_token_x`). -/
def osLookup (dir other : Bytes → GLStat) (v : Bytes) : GLStat :=
  if slash ∈ v then other v else dir v

/-- The repaired gate, over an arbitrary file system: whatever files and
directories exist, a request is authenticated by the gl-inet cookie only if the
value is a plain name (non-empty, no separator) and the entry of exactly that
name in the token directory is a fresh token.  No hypothesis about values with
separators is needed — the only thing asked of the file system is that a path
ending in a separator is not a readable file. -/
theorem C11_gl_authenticated_plain_fresh (dir other : Bytes → GLStat) (req : Req)
    (hos : ∀ v, req.glCookie = some v → req.glStat = osLookup dir other v)
    (hdirsep : ∀ d, other [slash] ≠ .date d)
    (hnow : glTimeout < req.now) (h : glProcessCookie req = true) :
    req.glMode = true ∧
    ∃ v, req.glCookie = some v ∧ v ≠ [] ∧ slash ∉ v ∧ tokenFresh req.now (dir v) = true := by
  -- such a file system resolves names, to what the directory holds under the cookie's value
  have hfs : nameResolves req (dir (req.glCookie.getD [])) :=
    ⟨fun v hv hns => by rw [hos v hv, hv, osLookup, if_neg hns]; rfl,
     fun hs d => by rw [hos _ hs, osLookup, if_pos (List.mem_singleton.mpr rfl)]; exact hdirsep d⟩
  obtain ⟨hm, v, hv, hne, hns, hf⟩ := C11_gl_token_by_name req _ hfs hnow h
  rw [hv] at hf
  exact ⟨hm, v, hv, hne, hns, hf⟩

/-- A value with a separator in it (`x/../passwd`, `dir/inner`, `/x`, `x/`),
or an empty one, never authenticates, whatever exists in the file system. -/
theorem C11_gl_path_values_rejected (req : Req) (v : Bytes) (hv : req.glCookie = some v)
    (hbad : v = [] ∨ (slash ∈ v ∧ v ≠ [slash])) : glCheckToken req = false := by
  unfold glCheckToken
  rw [hv]
  have : plainName v = false := by
    unfold plainName
    rcases hbad with rfl | ⟨hm, hne⟩
    · rfl
    · simp [hne]; exact fun _ => hm
  simp [this]

/-- Behind the gate, in gl-inet mode, a non-public path reaches its handler only
with a fresh token of exactly the cookie's name, a valid session or correct
basic credentials. -/
theorem C11_gl_gate (chain : List Wrapper) (h : Handler) (req : Req) (issued : GLStat)
    (hfs : nameResolves req issued) (hnow : glTimeout < req.now)
    (hmem : .optionalAuth ∈ chain) (hn : req.authNil = false) (hg : req.glMode = true)
    (hp : isPublicResource req.path = false) (hr : run chain h req = .ran) :
    specAuthenticated req issued = true :=
  authenticated_within_property req issued hfs hnow
    (C11_auth_gate chain h req hmem (C11_gl_always_required req hn hg) hp hr)

/-- A missing, unreadable or too short token file, and a token older than the
timeout, never authenticate (clock past 1970-01-01 01:00). -/
theorem C11_gl_stale_or_missing_denied (req : Req) (hnow : glTimeout < req.now)
    (hst : req.glStat = .missing ∨ req.glStat = .short ∨
      ∃ d, req.glStat = .date d ∧ d + glTimeout < req.now) :
    glProcessCookie req = false := by
  cases hq : glProcessCookie req with
  | false => rfl
  | true =>
    obtain ⟨_, v, _, _, hf⟩ := glProcess_sub_fresh req hnow hq
    rcases hst with h | h | ⟨d, h, hd⟩ <;> rw [h] at hf <;> simp [tokenFresh] at hf
    omega

/-! ## Every route of the regenerated table, every request -/

/-- For every route of the program and every request it serves: once an
account exists (or gl-inet mode is on) and the installation is over, a request to
a non-public path without a valid session cookie, correct basic credentials or,
in gl-inet mode, a fresh token of the cookie's name gets 403 or the login
redirect, and the answer does not depend on the handler. -/
theorem C11_unauthenticated_never_runs (r : Route) (hr : r ∈ Gen.routes) (req : Req)
    (issued : GLStat) (hfs : nameResolves req issued) (hnow : glTimeout < req.now)
    (hs : servedBy r.pattern req.path = true)
    (hn : req.authNil = false)
    (hu : (req.usersExist || req.glMode) = true) (hf : req.firstRun = false)
    (hp : specPublicPath req.path = false) (ha : specAuthenticated req issued = false) :
    (∀ h₁ h₂ : Handler, run r.chain h₁ req = run r.chain h₂ req) ∧
    (∀ h : Handler, run r.chain h req = .forbiddenAuth ∨ run r.chain h req = .forbiddenPre ∨
      run r.chain h req = .redirect (loginTarget req.glMode)) := by
  have hu' : authRequired req = true := by
    unfold authRequired; rw [Bool.or_comm, hn]; simpa using hu
  have hp' : isPublicResource req.path = false := by
    cases hq : isPublicResource req.path with
    | false => rfl
    | true => rw [C11_public_within_property _ hq] at hp; cases hp
  have ha' : authenticated req = false := by
    cases hq : authenticated req with
    | false => rfl
    | true => rw [authenticated_within_property _ issued hfs hnow hq] at ha; cases ha
  rcases (C11_route_gated r hr).1 with h1 | h1 | h1
  · rw [allowed_served_public _ _ h1 hs] at hp; cases hp
  · refine ⟨fun h₁ h₂ => ?_, fun h => Or.inr (Or.inl (preInstallFirst_denied h h1 hf))⟩
    rw [preInstallFirst_denied h₁ h1 hf, preInstallFirst_denied h₂ h1 hf]
  · refine ⟨fun h₁ h₂ => C11_no_side_effect _ req h1.1 hu' hp' ha' h₁ h₂, fun h => ?_⟩
    rw [C11_denied_response _ h req h1.2 hu' hf hp' ha']
    split
    · exact Or.inr (Or.inr rfl)
    · exact Or.inl rfl

/-- For every route declared with a state-changing method, the handler is
entered only with that method and a JSON content type (or no body). -/
theorem C11_state_changing_guarded (r : Route) (hr : r ∈ Gen.routes) (req : Req) (h : Handler)
    (hsc : stateChanging r.declared = true) (hran : run r.chain h req = .ran) :
    req.method = r.declared ∧ jsonOrEmpty req = true := by
  have hmem := (C11_route_gated r hr).2 hsc
  have := C11_method_ctype r.declared r.chain h req hmem hran
  exact ⟨this.1, this.2 (stateChanging_eq r.declared ▸ hsc)⟩

/-- The same for a request with a body of known or unknown length: only
`application/json` gets it into the handler of a state-changing route. -/
theorem C11_state_changing_body_json (r : Route) (hr : r ∈ Gen.routes) (req : Req) (h : Handler)
    (hsc : stateChanging r.declared = true) (hlen : req.contentLength ≠ 0)
    (hran : run r.chain h req = .ran) : req.ctype = sAppJSON :=
  C11_body_needs_json r.declared r.chain h req ((C11_route_gated r hr).2 hsc)
    (stateChanging_eq r.declared ▸ hsc) hlen hran

/-- The model satisfies the spec monitor on every request, for every route of
the regenerated table that can serve it and for the mux's own answers. -/
theorem C11_model_meets_spec (s : Served) (req : Req) (issued : GLStat)
    (hfs : nameResolves req issued) (hnow : glTimeout < req.now) (hn : req.authNil = false)
    (hs : match s with
      | .route r => r ∈ Gen.routes ∧ servedBy r.pattern req.path = true
      | _ => True) :
    specOK req s.declared (serve s req) issued = true := by
  rw [specOK_iff]
  cases s with
  | muxRedirect => simp [serve, allowedDenial]
  | muxNotFound => simp [serve, allowedDenial]
  | route r =>
    obtain ⟨hr, hsv⟩ := hs
    simp only [serve, Served.declared]
    constructor
    · intro hprot
      unfold protectedReq at hprot
      simp only [Bool.and_eq_true, Bool.not_eq_true'] at hprot
      obtain ⟨⟨⟨hu, hf⟩, hp⟩, ha⟩ := hprot
      rcases (C11_unauthenticated_never_runs r hr req issued hfs hnow hsv hn hu hf hp ha).2
        (fun _ => .ran) with h | h | h
      · rw [h]; rfl
      · rw [h]; rfl
      · rw [h]; cases req.glMode <;> rfl
    · intro hran
      have hran' : run r.chain (fun _ => .ran) req = .ran := by
        injection hran
      unfold badStateChange
      simp only
      cases hsc : stateChanging r.declared with
      | false => simp
      | true =>
        have := C11_state_changing_guarded r hr req _ hsc hran'
        simp [this.1, this.2]

/-! ## Non-vacuity: the hypotheses are satisfiable and the gate does open -/

/-- "/control/status" -/
private def pStatus : Bytes := [47, 99, 111, 110, 116, 114, 111, 108, 47, 115, 116, 97, 116, 117, 115]

private def chainGET : List Wrapper := [.postInstall, .optionalAuth, .gzip, .ensure sGET]
private def chainPOST : List Wrapper := [.postInstall, .optionalAuth, .gzip, .ensure sPOST]

private def reqStatus (c : Cookie) (b : Basic) : Req :=
  { path := pStatus, method := sGET, cookie := c, basic := b, ctype := [], contentLength := 0,
    firstRun := false, usersExist := true }

example : run chainGET (fun _ => .ran) (reqStatus .valid .none) = .ran := by decide +kernel
example : run chainGET (fun _ => .ran) (reqStatus .none .right) = .ran := by decide +kernel
example : run chainGET (fun _ => .ran) (reqStatus .none .none) = .forbiddenAuth := by decide +kernel
example : run chainGET (fun _ => .ran) (reqStatus .unknown .none) = .forbiddenAuth := by decide +kernel
example : run chainGET (fun _ => .ran) (reqStatus .expired .none) = .forbiddenAuth := by decide +kernel
example : run chainGET (fun _ => .ran) (reqStatus .none .wrong) = .forbiddenAuth := by decide +kernel
-- correct basic credentials from an address the login rate limiter blocks: not evaluated, 403
example : run chainGET (fun _ => .ran) { reqStatus .none .right with addrBlocked := true }
    = .forbiddenAuth := by decide +kernel
-- quirk of the code: a stale cookie hides correct basic credentials
example : run chainGET (fun _ => .ran) (reqStatus .unknown .right) = .forbiddenAuth := by decide +kernel
-- the hypotheses of C11_unauthenticated_never_runs hold for a concrete route and request
example : (Gen.routes.any fun r =>
    servedBy r.pattern (reqStatus .none .none).path && r.chain == chainGET &&
    run r.chain (fun _ => .ran) (reqStatus .valid .none) == .ran &&
    run r.chain (fun _ => .ran) (reqStatus .none .none) == .forbiddenAuth) = true := by
  decide +kernel
example : specPublicPath (reqStatus .none .none).path = false ∧
    specAuthenticated (reqStatus .none .none) .missing = false ∧
    protectedReq (reqStatus .none .none) .missing = true := by decide +kernel
-- a state-changing route: wrong method 405, a non-JSON content type 415, JSON passes
example : run chainPOST (fun _ => .ran)
    { reqStatus .valid .none with method := sPOST, ctype := sAppJSON, contentLength := 2 } = .ran := by
  decide +kernel
example : run chainPOST (fun _ => .ran) (reqStatus .valid .none) = .methodNotAllowed := by decide +kernel
example : run chainPOST (fun _ => .ran)
    { reqStatus .valid .none with method := sPOST, ctype := [120], contentLength := 2 } = .unsupportedMedia := by
  decide +kernel
-- gl-inet mode: a fresh token of the cookie's name opens the gate; a stale one, a
-- missing one and no cookie at all do not; `/` goes to the router's login page
private def reqGL (c : Option Bytes) (st : GLStat) : Req :=
  { reqStatus .none .none with usersExist := false, glMode := true, glCookie := c, glStat := st,
                               now := 1800000000 }
example : run chainGET (fun _ => .ran) (reqGL (some [116]) (.date 1799999000)) = .ran := by decide +kernel
example : run chainGET (fun _ => .ran) (reqGL (some [116]) (.date 1799990000)) = .forbiddenAuth := by
  decide +kernel
example : run chainGET (fun _ => .ran) (reqGL (some [116]) .missing) = .forbiddenAuth := by decide +kernel
example : run chainGET (fun _ => .ran) (reqGL (some [116]) .short) = .forbiddenAuth := by decide +kernel
example : run chainGET (fun _ => .ran) (reqGL none (.date 1799999000)) = .forbiddenAuth := by decide +kernel
example : run [.postInstall, .optionalAuth, .gzip] (fun _ => .ran)
    { reqGL none .missing with path := pRoot } = .redirect .glRouter := by decide +kernel
-- a value with a separator is rejected even when the OS finds a fresh-looking file there
example : run chainGET (fun _ => .ran)
    (reqGL (some [120, 47, 46, 46, 47, 112]) (.date 1799999000)) = .forbiddenAuth := by decide +kernel
example : run chainGET (fun _ => .ran) (reqGL (some []) (.date 1799999000)) = .forbiddenAuth := by
  decide +kernel
-- the monitor rejects a handler run on a token the OS found under another name
example : specOK (reqGL (some [120, 47, 46, 46, 47, 112]) (.date 1799999000)) (some sGET) (.resp .ran)
    .missing = false := by decide +kernel
example : specOK (reqGL (some [116]) (.date 1799999000)) (some sGET) (.resp .ran)
    (.date 1799999000) = true := by decide +kernel
-- a CORS-preflight-looking request without credentials is denied like any other
private def reqPreflight : Req :=
  { path := pStatus, method := [79, 80, 84, 73, 79, 78, 83], cookie := .none, basic := .none,
    ctype := [], contentLength := 0, firstRun := false, usersExist := true,
    headers := [([79, 114, 105, 103, 105, 110], [120]),
                ([65, 67, 82, 77], [80, 79, 83, 84])] }
example : run chainGET (fun _ => .ran) reqPreflight = .forbiddenAuth := by decide +kernel
example : run [.postInstall, .optionalAuth] (fun _ => .ran) reqPreflight = .forbiddenAuth := by decide +kernel
-- unknown length (chunked), nothing says the body is non-empty: no content type 415, JSON
-- passes, and the monitor rejects a handler run without content type
example : run chainPOST (fun _ => .ran)
    { reqStatus .valid .none with method := sPOST, ctype := [], contentLength := -1 } = .unsupportedMedia := by
  decide +kernel
example : run chainPOST (fun _ => .ran)
    { reqStatus .valid .none with method := sPOST, ctype := sAppJSON, contentLength := -1 } = .ran := by
  decide +kernel
example : specOK { reqStatus .valid .none with method := sPOST, ctype := [], contentLength := -1 }
    (some sPOST) (.resp .ran) = false := by decide +kernel
-- the monitor is not trivially true: it rejects an unauthenticated handler run,
-- a 405 in place of the 403, and a state change with a non-JSON content type
example : specOK (reqStatus .none .none) (some sGET) (.resp .ran) = false := by decide +kernel
example : specOK (reqStatus .none .none) (some sGET) (.resp .methodNotAllowed) = false := by decide +kernel
example : specOK { reqStatus .valid .none with method := sPOST, ctype := [120], contentLength := 2 }
    (some sPOST) (.resp .ran) = false := by decide +kernel
example : specOK (reqStatus .valid .none) (some sGET) (.resp .ran) = true := by decide +kernel

end AGH.C11
