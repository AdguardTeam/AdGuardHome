/-
C07 — query log: every recorded query is returned exactly once, newest first,
with paging, term and status filters meaning what they say; no parameter value
crashes the request.

The lemmas are in the modules of the C07 bullet of DESIGN.md §1.2.  The model
(`AGH/Model/QLog.lean`) follows the tree with the repaired defects F1–F3, F12,
F13 and the C08 repair of `searchMemory`; nothing here is `_partial`.

Vocabulary
* `State`/`step`/`handle`/`search`: the executable model of internal/querylog.
* `Ghost`/`gStep`/`visible`/`specSearch`/`specDump`: the spec (one tagged
  chronological list; what a request must return).
* `logOf s`: the log `rot ++ cur ++ mem`, oldest first.
* `Inv s`: the log is strictly increasing in time — an invariant of every
  history whose clock moves forward (`C07_inv_reachable`); `InvT s last`: that,
  and no record is later than `last`, the time of the latest one submitted.
* `Quiet s`: nothing in flight (no flush goroutine waiting, `flushPending`
  down); `Refines g s`: the spec's log is the model's, entry for entry and
  place for place, under the same configuration.
* `opEntry op`: the entry an operation submits, if any.
* `ValidP p`: `0 ≤ offset`, `1 ≤ limit`, their sum does not overflow — what the
  parser lets through when `limit ≠ 0`.
* `CursorOK s p`: the cursor sent, if any, is the time of a record of the log;
  `Known s t`: `t` is such a time, or older than every record left.
* `pageChain s p fuel ot`: the pages got by sending back the returned cursor,
  starting with cursor `ot` (`withOlder p ot` is `p` with that cursor), for at
  most `fuel` requests, and whether the end was reported.
* `vis s p`: the visible sequence of the model state for parameters `p`
  (`C07_vis_is_spec_visible` equates it with the spec's `visible`).
-/
import AGH.Lemmas.QLogAging
import AGH.Lemmas.QLogJSON
import AGH.Lemmas.QLogStepped
namespace AGH.C07
open AGH AGH.Bytes

/-- MODEL MEETS SPEC, stateful form: for every configuration and every history of
record / shutdown-flush / rotate / time-based rotation / clear / restart /
config change / client-registry change operations and API requests (any query
string), in which the clock moves forward between records and the scan budget
is ≥ 2 or unlimited, the spec monitor accepts the model after EVERY event: the
state dump equals the spec's log with every entry where the spec says, and every
answer is a sound, complete page of the spec's visible sequence. -/
theorem C07_model_meets_spec (c : Conf) (last : Int) (evs : List Event) (h : histOK last evs) :
    runOK (gInit c) (init c) evs = true :=
  runOK_of_histInv evs _ _ last (histInv_init c last) h

/-- Every state reached by a history whose clock moves forward satisfies the
time invariant, has nothing in flight (no flush goroutine waiting, the
`flushPending` flag down), and is, entry for entry and location for location,
the spec's log (refinement). -/
theorem C07_inv_reachable (c : Conf) (ops : List Op) (last : Int)
    (h : histOK last (ops.map .op)) :
    ∃ last', InvT (run (init c) ops) last' ∧ Quiet (run (init c) ops) ∧
      Refines (ops.foldl gStep (gInit c)) (run (init c) ops) :=
  let ⟨last', _, h'⟩ := run_invariants ops _ _ last (histInv_init c last) h
  ⟨last', h'.time, h'.quiet, h'.refines⟩

/-- The flush goroutine that `Add` starts and a clear / shutdown / restart issued
before it runs commute: either order ends in the same state, with nothing in
flight — in particular the `flushPending` flag is down again, so later records
are flushed as usual. -/
theorem C07_flush_race_confluent (s : State) (e : Entry) (t : Then) (hq : Quiet s) :
    step s (.addThen e t) = applyThen (step s (.add e)) t ∧ Quiet (step s (.addThen e t)) := by
  refine ⟨?_, quiet_step s _ hq⟩
  simp only [step, addThen_confluent s e t hq, runTasks_addRaw s e hq]

/-- A flush (shutdown, or the flush `Add` starts) moves the memory entries to
the current file and loses nothing: the log is unchanged. -/
theorem C07_log_preserved_flush (s : State) : logOf (flush s) = logOf s := logOf_flush s

/-- With logging and file logging on and fewer entries in memory than the ring
holds, recording appends exactly the new entry: nothing is dropped, nothing is
duplicated. -/
theorem C07_log_preserved_add (s : State) (e : Entry) (hq : Quiet s) (hen : s.conf.enabled = true)
    (hcap : s.mem.length < ringCap s.conf) : logOf (step s (.add e)) = logOf s ++ [e] := by
  rw [step, runTasks_addRaw s e hq]
  exact logOf_addEntry s e hen hcap

/-- The ring never fills up while file logging is on: every operation preserves
"fewer entries in memory than the ring holds", which is true of the initial
state (so `C07_log_preserved_add` applies to every record of a history). -/
theorem C07_ring_never_full (s : State) (o : Op) (hq : Quiet s)
    (h : s.conf.fileEnabled = true → s.mem.length < ringCap s.conf) :
    (step s o).conf.fileEnabled = true → (step s o).mem.length < ringCap (step s o).conf :=
  ringFree_step s o hq h

/-- Rotation, when there is a current file, removes exactly the entries of the
rotated file; without a current file it changes nothing. -/
theorem C07_log_preserved_rotate (s : State) :
    logOf (rotate s) = if s.cur = [] then logOf s else s.cur ++ s.mem := logOf_rotate s

theorem C07_log_clear (s : State) : logOf (clear s) = [] := by simp [clear, logOf]

/-- A clean restart with file logging on keeps the whole log. -/
theorem C07_log_preserved_restart (s : State) (m : Nat) (f en : Bool) (hf : s.conf.fileEnabled = true) :
    logOf (restart s m f en) = logOf s := logOf_restart s m f en hf

/-- EXACTLY ONCE: in every state reached with a forward-moving clock no two
entries of the log have the same time, and (hence) no entry occurs twice — in
memory, in the current file and in the rotated file together. -/
theorem C07_exactly_once (s : State) (h : Inv s) : (logOf s).Nodup ∧ ((logOf s).map (·.ts)).Nodup := by
  constructor
  · refine List.Pairwise.imp ?_ ((inv_iff s).mp h)
    intro a b hab heq
    subst heq; omega
  · rw [List.Nodup, List.pairwise_map]
    refine List.Pairwise.imp ?_ ((inv_iff s).mp h)
    intro a b hab heq
    omega

/-- Memory-only logging keeps the newest `memSize` (at least one) entries: the
documented window, not the whole history. -/
theorem C07_memonly_window (s : State) (e : Entry) (hq : Quiet s) (hen : s.conf.enabled = true)
    (hf : s.conf.fileEnabled = false) :
    (step s (.add e)).mem = (s.mem ++ [e]).drop ((s.mem ++ [e]).length - ringCap s.conf) ∧
    (step s (.add e)).cur = s.cur ∧ (step s (.add e)).rot = s.rot := by
  simp [step, runTasks_addRaw s e hq, addEntry, hen, hf, push_eq_drop]

/-- NO CRASH: for every state, every scan budget and every query string (every
`limit`, `offset`, `older_than`, `search`, `response_status` text) the handler
answers 400 or 200; it never faults. -/
theorem C07_no_crash (sd : Int) (s : State) (r : Req) (f : Fault) : handle sd s r ≠ .error f := by
  obtain ⟨resp, h⟩ := handle_no_fault sd s r
  rw [h]; intro hh; cases hh

/-- What `parseSearchParams` lets through can never make `search` slice out of
bounds: `0 ≤ offset`, `0 ≤ limit`, and `offset + limit` does not overflow. -/
theorem C07_params_in_range (sd : Int) (r : Req) (p : Params) (h : parseParams sd r = some p) :
    0 ≤ p.limit ∧ 0 ≤ p.offset ∧ p.offset + p.limit ≤ maxInt :=
  parseParams_range sd r p h

/-- Every well-formed request (per the spec's reading of the query string) is
accepted by the parser with exactly that meaning: same cursor, same limit,
same paging mode, and the same entries satisfy it. -/
theorem C07_wellformed_accepted (sd : Int) (r : Req) (a : Ask) (h : ask r = some a) :
    ∃ p, parseParams sd r = some p ∧ p.olderThan = a.olderThan ∧ p.limit = a.limit ∧
      (match a.offset with
       | some o => p.offset = o ∧ p.scan = 0
       | none => p.offset = 0 ∧ p.scan = sd) ∧
      ∀ c e, matchE c p e = satisfies c a e :=
  parse_of_ask sd r a h

/-- The model's visible sequence is the spec's, for a state that refines the
ghost log and parameters meaning what the request asks. -/
theorem C07_vis_is_spec_visible (g : Ghost) (s : State) (a : Ask) (p : Params) (h : Refines g s)
    (hm : ∀ c e, matchE c p e = satisfies c a e) : visible g a = vis s p :=
  visible_eq_vis g s a p h hm

/-- Without filters, without cursor and with nothing ignored, the visible
sequence is the whole log, newest first: memory, then the current file, then
the rotated file. -/
theorem C07_visible_is_whole_log (s : State) (p : Params) (hm : s.conf.memSize ≠ 0)
    (hc : p.criteria = []) (ho : p.olderThan = none)
    (hign : ∀ e ∈ logOf s, ignoredNow s.conf e = false) : vis s p = (logOf s).reverse := by
  have hrev : logRev s = (logOf s).reverse := by
    simp [logRev, memRev, hm, filesRev, logOf]
  unfold vis
  rw [hrev]
  apply List.filter_eq_self.mpr
  intro e he
  have := hign e (List.mem_reverse.mp he)
  simp only [ignoredNow, Bool.or_eq_false_iff] at this
  simp [keepMem, matchE, hc, ho, this.1, this.2]

/-- NEWEST FIRST for every state and all parameters — no hypothesis on the
recorded times, so also when the clock was stepped back between records and
whichever of memory, current file and rotated file contributed: no returned
entry comes before one with a later time (the clause `C07.order` of
`specSearchStepped`, in the form the monitor evaluates). -/
theorem C07_search_newest_first (s : State) (p : Params) (es : List Entry) (o : Option Int)
    (h : search s p = .ok (es, o)) :
    es.Pairwise (fun a b => b.ts ≤ a.ts) ∧ newestFirst (es.map (·.ts)) = true :=
  ⟨search_descLe s p es o h, newestFirst_of_descLe es (search_descLe s p es o h)⟩

/-- A current file WITHOUT A RECORD — absent, or present with zero bytes — is
never rotated by the rotation check, in the model and in the spec: the records
of the rotated file stay where they are. -/
theorem C07_rotcheck_empty_current_keeps (s : State) (g : Ghost) (now : Int) :
    (s.cur = [] → step s (.rotCheck now) = s) ∧
    (countLoc .cur g.log = 0 → gStep g (.rotCheck now) = g) := by
  refine ⟨fun h => by simp [step, rotCheck, h], fun h => ?_⟩
  have hn : g.log.find? (fun x => x.2 = .cur) = none := by
    rw [List.find?_eq_none]
    intro x hx hcur
    have hmem : x ∈ g.log.filter (fun x => x.2 = .cur) := List.mem_filter.mpr ⟨hx, hcur⟩
    unfold countLoc at h
    rw [List.length_eq_zero_iff.mp h] at hmem
    simp at hmem
  simp only [gStep, hn]

/-- SOUNDNESS of every answer: a sub-sequence of the visible sequence (only
entries that satisfy the filters and are not ignored, newest first, none
twice), at most `limit` long. -/
theorem C07_search_sound (s : State) (p : Params) (hi : Inv s) (hv : ValidP p) :
    ∃ D O, search s p = .ok (D, O) ∧ D.Sublist (vis s p) ∧ (D.length : Int) ≤ p.limit :=
  search_sound s p hi hv

/-- OFFSET/LIMIT paging returns exactly the slice `[offset, offset+limit)` of
the visible sequence (the scan is unlimited whenever `offset` is given), so
consecutive slices partition it. -/
theorem C07_search_offset_limit (s : State) (p : Params) (hi : Inv s) (hv : ValidP p)
    (hscan : p.scan ≤ 0) (hc : CursorOK s p) :
    ∃ O, search s p = .ok (((vis s p).drop p.offset.toNat).take p.limit.toNat, O) := by
  obtain ⟨D, O, h, _⟩ := search_sound s p hi hv
  exact ⟨O, search_offset s p hi hv hscan hc h ▸ h⟩

/-- CURSOR paging, one page: at most `limit` entries; if no cursor is returned the
page is the whole visible sequence; if cursor `c` is returned the page is
exactly the visible entries not older than `c` — and `c` is older than the
cursor that was sent (scan budget ≥ 2 or unlimited) and is the time of an entry
of the log (so it can be sent back). -/
theorem C07_cursor_page (s : State) (p : Params) (hi : Inv s) (hv : ValidP p) (hoff : p.offset = 0)
    (hc : CursorOK s p) :
    ∃ D O, search s p = .ok (D, O) ∧ (D.length : Int) ≤ p.limit ∧
      (O = none → D = vis s p) ∧
      (∀ c, O = some c → D = (vis s p).filter (fun e => decide (e.ts ≥ c)) ∧
        (∀ t, p.olderThan = some t → (2 ≤ p.scan ∨ p.scan ≤ 0) → c < t) ∧
        (∃ e ∈ s.rot ++ s.cur ++ s.mem, e.ts = c)) := by
  obtain ⟨D, O, h, _, hlen⟩ := search_sound s p hi hv
  exact ⟨D, O, h, hlen, search_cursor s p hi hv hoff hc h⟩

/-- CURSOR PARTITION: starting without a cursor and sending back the returned
`oldest` each time, the chain of requests ends (an answer without cursor)
within `|log| + 2` requests, and the pages concatenated are exactly the visible
sequence — no gap, no duplicate, newest first — for every page size ≥ 1, every
scan budget ≥ 2 (or unlimited), every filter, wherever the entries sit. -/
theorem C07_cursor_partition (s : State) (p : Params) (hi : Inv s) (hv : ValidP p) (hoff : p.offset = 0)
    (hscan : 2 ≤ p.scan ∨ p.scan ≤ 0) :
    (pageChain s p ((logOf s).length + 2) none).2 = true ∧
    (pageChain s p ((logOf s).length + 2) none).1.flatten = vis s (withOlder p none) := by
  apply pageChain_spec s p hi hv hoff hscan
  · exact cursorOK_none rfl
  · exact Nat.lt_succ_of_le (Nat.le_succ_of_le (remaining_le s none))

/-- CURSOR PARTITION from a returned cursor (the time of a log entry): the remaining
pages are exactly the visible entries older than it.  The first case of `Known`;
`C07_cursor_partition_known` has both. -/
theorem C07_cursor_partition_from (s : State) (p : Params) (hi : Inv s) (hv : ValidP p) (hoff : p.offset = 0)
    (hscan : 2 ≤ p.scan ∨ p.scan ≤ 0) (t : Int) (ht : ∃ e ∈ logOf s, e.ts = t) :
    (pageChain s p ((logOf s).length + 1) (some t)).2 = true ∧
    (pageChain s p ((logOf s).length + 1) (some t)).1.flatten =
      (vis s (withOlder p none)).filter (fun e => decide (e.ts < t)) :=
  pageChain_known s p hi hv hoff hscan t (Or.inl ht)

/-- A cursor stays KNOWN — the time of an entry still in the log, or older than
everything left — across any operation between two pages (record, flush,
rotation ageing out the oldest file at any instant, clear, clean restart,
config change), with file logging on and a forward-moving clock.  (`InvT s last`
and `last` are what `C07_inv_reachable` and `histOK` supply.) -/
theorem C07_cursor_survives (s : State) (last : Int) (op : Op) (t : Int) (hi : InvT s last) (hq : Quiet s)
    (hf : s.conf.fileEnabled = true) (hcap : s.mem.length < ringCap s.conf) (ht : t ≤ last)
    (hclock : ∀ e, opEntry op = some e → last < e.ts) (hk : Known s t) : Known (step s op) t :=
  known_step s op t hi.1 hq hf (fun _ => hcap) (fun e he => Int.lt_of_le_of_lt ht (hclock e he)) hk

/-- CURSOR PARTITION from a known cursor: the remaining pages are exactly the visible
entries of the CURRENT log older than the cursor: among the entries that survive there
is no gap and no duplicate (entries recorded meanwhile are newer than the
cursor and belong to a fresh listing). -/
theorem C07_cursor_partition_known (s : State) (p : Params) (hi : Inv s) (hv : ValidP p) (hoff : p.offset = 0)
    (hscan : 2 ≤ p.scan ∨ p.scan ≤ 0) (t : Int) (hk : Known s t) :
    (pageChain s p ((logOf s).length + 1) (some t)).2 = true ∧
    (pageChain s p ((logOf s).length + 1) (some t)).1.flatten =
      (vis s (withOlder p none)).filter (fun e => decide (e.ts < t)) :=
  pageChain_known s p hi hv hoff hscan t hk

/-- A cursor whose entry has aged out (everything left is newer) gets one empty
page without cursor. -/
theorem C07_aged_cursor_page (s : State) (p : Params) (hi : Inv s) (hv : ValidP p) (t : Int)
    (hot : p.olderThan = some t) (hall : ∀ e ∈ logOf s, t < e.ts) :
    search s p = .ok ([], none) ∧ vis s p = [] :=
  search_aged s p hi hv t hot hall

/-- Consecutive offset/limit slices are adjacent: together they are the longer
slice (no gap, no overlap). -/
theorem C07_offset_pages_adjacent (V : List Entry) (o l l' : Nat) :
    (V.drop o).take l ++ (V.drop (o + l)).take l' = (V.drop o).take (l + l') := by
  rw [List.take_add, List.drop_drop]

/-- The quick pre-match on the raw line over-approximates the full match: no
file record that matches is rejected early. -/
theorem C07_quick_overapprox (c : Conf) (p : Params) (e : Entry) (h : matchE c p e = true) :
    quickE c p e = true := quickE_of_matchE c p e h

/-- Memory and file records are kept by the same test. -/
theorem C07_same_test_memory_and_files (c : Conf) (p : Params) (e : Entry) :
    keepE c p e = keepMem c p e := keepE_eq_keepMem c p e

/-- ROUND TRIP of every string value (names, ClientIDs, upstreams, rule texts):
what the JSON encoder writes between the quotes — with `"` `\` control bytes
`<` `>` `&` escaped — is read back by the decoder as the same bytes. -/
theorem C07_string_roundtrip (s : Bytes) : unescape (escape s) = some s := unescape_escape s

/-- The test of `quickMatch` "the raw value contains a backslash" holds exactly for
the values the model calls `jsonEscaped`. -/
theorem C07_raw_backslash_exact (s : Bytes) : (escape s).contains 92 = jsonEscaped s :=
  escape_contains_backslash s

/-- Without an escape, the raw text `readJSONValue` cuts out of the line IS the
decoded value: quick match and full match see the same host / ClientID. -/
theorem C07_raw_value_unescaped (s rest : Bytes) (h : jsonEscaped s = false) :
    rawValue (escape s ++ 34 :: rest) = s := rawValue_unescaped s rest h

/-- The transcription of `ctFilteringStatusCase` agrees with the documented
meaning of every `response_status` value, for every reason code and flag. -/
theorem C07_status_table (v : Status) (reason : Nat) (isF : Bool) :
    statusMatch v reason isF = statusSat v reason isF := statusMatch_eq_sat v reason isF

/-- Every filtering result lands in exactly the documented statuses: `all` always;
`blocked` is `blocked_services` or a block-list hit; the four `blocked_*` /
`safe_search` classes and `rewritten`, `whitelisted` are pairwise disjoint and
each inside `filtered`; `processed` is exactly "not blocked, not blocked
service, not allow-listed"; nothing is both `whitelisted` and `processed` or
both `blocked` and `processed`. -/
theorem C07_status_partition (reason : Nat) (isF : Bool) :
    statusMatch .all reason isF = true ∧
    (statusMatch .blocked reason isF =
      (statusMatch .blockedService reason isF || (isF && reason == rBlockList))) ∧
    (statusMatch .blockedService reason isF = true → statusMatch .filtered reason isF = true) ∧
    (statusMatch .blockedSafebrowsing reason isF = true → statusMatch .filtered reason isF = true) ∧
    (statusMatch .blockedParental reason isF = true → statusMatch .filtered reason isF = true) ∧
    (statusMatch .safeSearch reason isF = true → statusMatch .filtered reason isF = true) ∧
    (statusMatch .rewritten reason isF = true → statusMatch .filtered reason isF = true) ∧
    (statusMatch .whitelisted reason isF = true → statusMatch .filtered reason isF = true) ∧
    (statusMatch .whitelisted reason isF = true → statusMatch .processed reason isF = false) ∧
    (statusMatch .blocked reason isF = true → statusMatch .processed reason isF = false) ∧
    (statusMatch .processed reason isF = (!(reason == rBlockList || reason == rBlockedService || reason == rAllowList))) := by
  obtain ⟨r, hr, h, hk⟩ := statusMatch_bounded reason isF
  simp only [h, hk rBlockList (by decide), hk rBlockedService (by decide), hk rAllowList (by decide)]
  clear h hk
  revert r isF
  decide +kernel

/-- At most one of the exclusive classes holds for a filtering result. -/
theorem C07_status_exclusive (reason : Nat) (isF : Bool) :
    ([Status.blockedService, .blockedSafebrowsing, .blockedParental, .safeSearch, .rewritten, .whitelisted].filter
      (fun v => statusMatch v reason isF)).length ≤ 1 := by
  obtain ⟨r, hr, h, -⟩ := statusMatch_bounded reason isF
  simp only [h]
  clear h
  revert r isF
  decide +kernel

/-- The table of `response_status` names covers the ten values, each once. -/
theorem C07_status_names_complete :
    statusNames.map (·.2) = [.all, .filtered, .blocked, .blockedService, .blockedSafebrowsing, .blockedParental,
      .whitelisted, .rewritten, .safeSearch, .processed] ∧ (statusNames.map (·.1)).Nodup := by
  decide +kernel

/-- The substring test of the package is exact: `containsFold s t` holds iff the
field contains a substring equal to the term under Unicode simple case folding
— the folded runes of the term occur contiguously in the folded runes of the
field (runes as Go decodes them, invalid bytes as U+FFFD; folding from the
generated unicode.SimpleFold table).  Every rune start of the field is tried,
whatever the UTF-8 lengths of the letters involved (F13 and F-fold repaired). -/
theorem C07_contains_fold_exact (s t : Bytes) :
    containsFold s t = true ↔ ∃ pre post, foldRunes s = pre ++ foldRunes t ++ post :=
  (containsFold_iff s t).trans (exists_congr fun _ => exists_congr fun _ => eq_comm)

/-- The loop before the repair a9f2bbd (finding F-fold): a window of `len(substr)`
BYTES at every rune start, compared with `strings.EqualFold`. -/
def containsFoldWindowN : Nat → Bytes → Bytes → Bool
  | 0, _, _ => false
  | fuel + 1, sub, s =>
    if s = [] then false
    else if s.length < sub.length then false
    else if equalFold (s.take sub.length) sub then true
    else containsFoldWindowN fuel sub (s.drop (decodeFirst s).2)

def containsFoldWindow (s sub : Bytes) : Bool :=
  if sub.length = 0 then true else containsFoldWindowN s.length sub s

/-- The test vectors of the next two statements, evaluated together: nearly all
of the work is walking the generated folding table, and one evaluation shares
the walks (U+FFFD, looked up for both, is found only deep in the table). -/
theorem foldVectors :
    let longS : Bytes := [0xC5, 0xBF]
    let strasseUp : Bytes := [83, 84, 82, 65, 0xE1, 0xBA, 0x9E, 69]
    let strasseLow : Bytes := [115, 116, 114, 97, 0xC3, 0x9F, 101]
    let nikos : Bytes := [0xCE, 0x9D, 0xCE, 0x99, 0xCE, 0x9A, 0xCE, 0x9F, 0xCE, 0xA3]
    ((containsFoldWindow longS [115] = false ∧ containsSpec longS [115] = true) ∧
     (containsFoldWindow strasseUp strasseLow = false ∧ containsFold strasseUp strasseLow = true)) ∧
    (containsFold nikos [0xCE, 0xB9, 0xCE, 0xBA, 0xCE, 0xBF, 0xCF, 0x82] = true ∧
     containsFold nikos [0xCE, 0xB9, 0xCE, 0xBA, 0xCE, 0xBF, 0xCF, 0x84] = false ∧
     equalFold [0xFF] [0xEF, 0xBF, 0xBD] = true) := by
  decide +kernel

/-- Before the repair the substring test was NOT exact: letters equal under case
folding can differ in UTF-8 length.  Field "ſ" (U+017F, 2 bytes), term "s"; field
"STRAẞE" (ẞ = U+1E9E, 3 bytes), term "straße" (ß = 2 bytes). -/
theorem C07_contains_fold_counterexample_before_fix :
    (containsFoldWindow [0xC5, 0xBF] [115] = false ∧ containsSpec [0xC5, 0xBF] [115] = true) ∧
    (containsFoldWindow [83, 84, 82, 65, 0xE1, 0xBA, 0x9E, 69] [115, 116, 114, 97, 0xC3, 0x9F, 101] = false ∧
     containsFold [83, 84, 82, 65, 0xE1, 0xBA, 0x9E, 69] [115, 116, 114, 97, 0xC3, 0x9F, 101] = true) :=
  foldVectors.1

/-- Non-vacuity beyond ASCII: "ΝΙΚΟΣ" contains "ικος" (final sigma) under case
folding, does not contain "ικοτ"; an invalid byte equals U+FFFD. -/
example :
    containsFold [0xCE, 0x9D, 0xCE, 0x99, 0xCE, 0x9A, 0xCE, 0x9F, 0xCE, 0xA3]
                 [0xCE, 0xB9, 0xCE, 0xBA, 0xCE, 0xBF, 0xCF, 0x82] = true ∧
    containsFold [0xCE, 0x9D, 0xCE, 0x99, 0xCE, 0x9A, 0xCE, 0x9F, 0xCE, 0xA3]
                 [0xCE, 0xB9, 0xCE, 0xBA, 0xCE, 0xBF, 0xCF, 0x84] = false ∧
    equalFold [0xFF] [0xEF, 0xBF, 0xBD] = true :=
  foldVectors.2

/-- The package's substring test is the relation `containsSpec` in which the
spec's term criterion `termSat` is written. -/
theorem C07_contains_exact (s sub : Bytes) : containsFold s sub = containsSpec s sub :=
  containsFold_eq_spec s sub

/-- The term criterion looks at domain, its IDNA form, ClientID, client name
and IP — strictly or as a substring — and nothing else. -/
theorem C07_term_exact (c : Conf) (strict : Bool) (term ascii : Bytes) (e : Entry) :
    termMatch strict term ascii e.cid (clientName c e.cid e.ip) e.host e.ip = termSat c strict term ascii e :=
  termMatch_eq_sat c strict term ascii e

section Examples

/-- "192.168.1.5" -/
private def ip1 : Bytes := [49,57,50,46,49,54,56,46,49,46,53]
/-- "192.168.0.0" -/
private def ip1Anon : Bytes := [49,57,50,46,49,54,56,46,48,46,48]
/-- "My Kitchen" -/
private def nameKitchen : Bytes := [77,121,32,75,105,116,99,104,101,110]

private def ex (ts : Int) (host : Bytes) (id : Nat) (reason : Nat := 0) (isF : Bool := false) : Entry :=
  { ts := ts, host := host, cid := [], ip := ip1, ipAnon := ip1Anon, reason := reason, isFiltered := isF, id := id }

private def conf0 : Conf :=
  { enabled := true, fileEnabled := true, memSize := 3, anonymize := false, ivl := 86400000000000, ignored := [],
    clients := [(ip1, { name := nameKitchen, ignore := false })] }

/-- hosts "a.example", "b.example", "c.example" -/
private def hA : Bytes := [97,46,101,120,97,109,112,108,101]
private def hB : Bytes := [98,46,101,120,97,109,112,108,101]
private def hC : Bytes := [99,46,101,120,97,109,112,108,101]

/-- A history crossing all three places: e1,e2,e3 → flushed; rotate; e4,e5,e6 →
flushed; e7,e8 in memory. -/
private def hist : List Op :=
  [.add (ex 1 hA 1), .add (ex 2 hB 2 3 true), .add (ex 3 hC 3), .rotate,
   .add (ex 4 hA 4), .add (ex 5 hB 5 3 true), .add (ex 6 hC 6),
   .add (ex 7 hA 7), .add (ex 8 hC 8)]

private def st : State := run (init conf0) hist

example : (st.rot.map (·.id), st.cur.map (·.id), st.mem.map (·.id)) = ([1, 2, 3], [4, 5, 6], [7, 8]) := by
  decide

private def req (limit offset search status : Bytes) (older : OlderIn := .absent) : Req :=
  { older := older, limitRaw := limit, offsetRaw := offset, searchRaw := search,
    loweredRaw := search, asciiRet := search, asciiErr := false, statusRaw := status }

private def idsOf : Except Fault Resp → Option (List Nat × Option Int)
  | .ok (.ok es o) => some (es.map (·.id), o)
  | _ => none

/-- "3", "2", "kit", "blocked", "-1", "9223372036854775807", "1" -/
private def b3 : Bytes := [51]
private def b2 : Bytes := [50]
private def bKit : Bytes := [107,105,116]
private def bBlocked : Bytes := [98,108,111,99,107,101,100]
private def bMinus1 : Bytes := [45, 49]
private def bMax : Bytes := [57,50,50,51,51,55,50,48,51,54,56,53,52,55,55,53,56,48,55]
private def b1 : Bytes := [49]

/-- cursor paging across memory, current file and rotated file: 3 + 3 + 2, then the end -/
example : idsOf (handle 50000 st (req b3 [] [] [])) = some ([8, 7, 6], some 6) := by decide +kernel
example : idsOf (handle 50000 st (req b3 [] [] [] (.at 6))) = some ([5, 4, 3], some 3) := by decide +kernel
example : idsOf (handle 50000 st (req b3 [] [] [] (.at 3))) = some ([2, 1], some 1) := by decide +kernel
example : idsOf (handle 50000 st (req b3 [] [] [] (.at 1))) = some ([], none) := by decide +kernel
/-- offset/limit, a status filter, the client-name term of F13 ("kit" finds "My Kitchen") -/
example : idsOf (handle 50000 st (req b2 b3 [] [])) = some ([5, 4], some 4) := by decide +kernel
example : idsOf (handle 50000 st (req [] [] [] bBlocked)) = some ([5, 2], some 2) := by decide +kernel
example : (idsOf (handle 50000 st (req [] [] bKit []))).map (·.1.length) = some 8 := by decide +kernel
/-- the clock stepped back between the second and the third record (times 10, 11,
1, 2), everything in the current file, nothing in memory: still newest first -/
private def stBack : State :=
  run (init { conf0 with memSize := 100 }) [.add (ex 10 hA 1), .add (ex 11 hB 2), .add (ex 1 hC 3), .add (ex 2 hA 4), .shutdown]
example : (stBack.mem.map (·.id), stBack.cur.map (·.id)) = ([], [1, 2, 3, 4]) := by decide +kernel
example : idsOf (handle 50000 stBack (req [] [] [] [])) = some ([2, 1, 4, 3], some 1) := by decide +kernel
/-- an empty current file next to a young rotated file: the rotation check keeps the rotated records -/
example : ((step (step st .rotate) (.rotCheck 9)).rot.map (·.id)) = [4, 5, 6] := by decide +kernel
/-- out-of-range numbers are answered 400, not a fault (F1) -/
example : (match handle 50000 st (req bMinus1 [] [] []) with | .ok .bad => true | _ => false) = true := by decide +kernel
example : (match handle 50000 st (req bMax b1 [] []) with | .ok .bad => true | _ => false) = true := by decide +kernel
/-- the hypotheses of the history theorem are satisfiable by this non-trivial history -/
example : histOK 0 ((hist.map .op) ++ [.search 50000 (req b3 [] [] [] (.at 6))]) := by
  simp [hist, histOK, ex]

end Examples

end AGH.C07
