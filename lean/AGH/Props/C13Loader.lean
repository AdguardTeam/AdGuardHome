/-
C13, the clause "…which the current configuration loader accepts whenever the
input was valid under its own schema": theorems about the model of the loader's
validation stage (`AGH/Model/Loader.lean`) against the documented meaning of
the settings (`AGH/Spec/Loader.lean`).  All statements hold for every value of
the validated fields.  Unmarshalling is a library stage (oracle); that a
generated VALID document of each historical version reaches the validation
stage and is accepted by the real `parseConfig` is checked by correspondence.
-/
import AGH.Lemmas.Loader
import AGH.Gen.C13Loader
namespace AGH.C13L

/-- **The model accepts exactly what the documented meaning prescribes.** -/
theorem C13_loader_model_meets_spec (i : LoaderIn) : parseConfig i = .ok ↔ shouldAccept i = true := by
  unfold shouldAccept clash
  simp only [Bool.and_eq_true, Bool.not_eq_true', Bool.not_eq_false', decide_eq_true_eq]
  rw [← tcpRegs_eq, ← udpRegs_eq, ← ucDups_nil_iff, ← ucDups_nil_iff]
  constructor
  · -- the exits of `parseConfig`: not migrated, not unmarshalled, validated with good ciphers (`.ok`), with bad ciphers,
    -- the validation's own error; of `validateConfig`: HTTP bind host, a DNS bind host, TCP clash, UDP clash, `.ok`
    fun_cases parseConfig i with
    | case1 | case2 | case4 => exact nofun
    | case5 _ _ hv => exact fun h => absurd h hv
    | case3 hm hu hv hc =>
      revert hv
      fun_cases validateConfig i with
      | case1 | case2 | case3 | case4 => exact nofun
      | case5 hh hf _ _ _ _ ht hud =>
        exact fun _ _ => ⟨⟨⟨⟨⟨⟨by simpa using hm, by simpa using hu⟩, by simpa using hh⟩,
          (firstInvalid_none _ 0).1 hf⟩, Decidable.not_not.mp ht⟩, Decidable.not_not.mp hud⟩, hc⟩
  · rintro ⟨⟨⟨⟨⟨⟨h1, h2⟩, h3⟩, h4⟩, ht⟩, hu⟩, hc⟩
    rw [parseConfig_eq i ⟨h1, h2, h3, h4⟩]
    simp [ht, hu, hc]

/-- The monitor is never raised on model-agreeing behaviour. -/
theorem C13_loader_monitor_sound (i : LoaderIn) : loaderOK false i (parseConfig i) = true := by
  unfold loaderOK loaderWhy
  by_cases hs : shouldAccept i = true
  · have := (C13_loader_model_meets_spec i).2 hs
    simp [hs, this]
  · have hn : parseConfig i ≠ .ok := fun h => hs ((C13_loader_model_meets_spec i).1 h)
    simp at hs
    simp [hs, hn]

/-- **Disabled listeners never clash**: whatever the ports, if no two ACTIVE listeners
(switched on and with a non-zero port) of one transport share a port, the port check passes. -/
theorem C13_loader_accepts_disabled_ports (i : LoaderIn) (h : upToPorts i) (hc : i.ciphersOK = true)
    (htcp : (activePorts (tcpListeners i)).Nodup) (hudp : (activePorts (udpListeners i)).Nodup) :
    parseConfig i = .ok := by
  rw [parseConfig_eq i h, (ucDups_nil_iff _).2 (tcpRegs_eq i ▸ htcp), (ucDups_nil_iff _).2 (udpRegs_eq i ▸ hudp)]
  simp [hc]

/-- In particular port 0 on any number of listeners is no clash (the seeded defect C13-10). -/
theorem C13_loader_accepts_zero_ports (i : LoaderIn) (h : upToPorts i) (hc : i.ciphersOK = true)
    (hz : i.portHTTPS = 0 ∧ i.portDNSCrypt = 0) (hne : i.httpPort ≠ i.portDoT) (hq : i.dnsPort ≠ i.portDoQ) :
    parseConfig i = .ok := by
  apply C13_loader_accepts_disabled_ports i h hc
  · -- the two listeners on port 0 are not active; of the other two ports each occurs once
    have h0 : activePorts (tcpListeners i) = activePorts [⟨true, i.httpPort⟩, ⟨i.tlsEnabled, i.portDoT⟩] := by
      simp [activePorts, tcpListeners, hz.1, hz.2, List.filter_cons, Listener.active]
    rw [h0]
    exact (activePorts_sublist _).nodup (by simp [hne])
  · exact (activePorts_sublist _).nodup (by simp [udpListeners, hq])

/-- **The port errors report exactly the real clashes**: the TCP error lists, each once and in
ascending order, the ports used by two or more active TCP listeners — and nothing else. -/
theorem C13_loader_rejects_exactly_real_clashes (i : LoaderIn) (h : upToPorts i) (ps : List Nat) :
    parseConfig i = .tcpDup ps ↔
      (ps ≠ [] ∧ ps.Pairwise (· < ·) ∧ ∀ p, p ∈ ps ↔ 1 < (activePorts (tcpListeners i)).count p) := by
  rw [parseConfig_eq i h, ← tcpRegs_eq, ← ucDups_eq_iff]
  by_cases ht : ucDups (tcpRegs i) = []
  · -- no TCP clash: the answer is not a TCP error, and `ps` would have to be empty
    rw [if_neg (not_not_intro ht), ht]
    refine ⟨fun hp => ?_, fun hp => absurd hp.2.symm hp.1⟩
    split at hp
    · cases hp
    · split at hp <;> cases hp
  · rw [if_pos ht, LoadRes.tcpDup.injEq]
    exact ⟨fun hp => ⟨hp ▸ ht, hp⟩, fun hp => hp.2⟩

/-- For UDP (plain DNS and DNS-over-QUIC), when TCP has no clash: a port error is reported exactly
when two active listeners share a port (which ports it lists: `ucDups_eq_iff`, as for TCP). -/
theorem C13_loader_udp_clash (i : LoaderIn) (h : upToPorts i) (htcp : (activePorts (tcpListeners i)).Nodup) :
    (∃ ps, parseConfig i = .udpDup ps) ↔ ¬ (activePorts (udpListeners i)).Nodup := by
  rw [parseConfig_eq i h, (ucDups_nil_iff _).2 (tcpRegs_eq i ▸ htcp), ← udpRegs_eq, ← ucDups_nil_iff]
  by_cases hu : ucDups (udpRegs i) = []
  · simp [hu]; split <;> simp
  · simp [hu]

/-- **`tls.enabled: false` makes the encrypted ports irrelevant.** -/
theorem C13_loader_tls_disabled_ignores_ports (i : LoaderIn) (h : i.tlsEnabled = false) (a b c d : Nat) :
    parseConfig { i with portHTTPS := a, portDoT := b, portDoQ := c, portDNSCrypt := d } = parseConfig i := by
  simp [parseConfig, validateConfig, h]

/-! ### Obligations over the facts regenerated from `internal/home/config.go` -/

/-- Every port that reaches a uniqueness check in `validateConfig` goes through `addPorts`
(the helper that skips the disabled, zero ports), never through `UniqChecker.Add` directly;
and the registrations are the ones the model makes: web and plain-DNS port unconditionally,
the four encrypted ports under `tls.enabled`. -/
theorem C13_gen_loader_ports :
    Gen.C13L.addPortsSkipsZero = true ∧
    (∀ r ∈ Gen.C13L.portRegs, r.1 = 1) ∧
    Gen.C13L.portRegs = [(1, 0, 0, 0), (1, 1, 0, 1), (1, 0, 1, 2), (1, 0, 1, 3), (1, 0, 1, 4), (1, 1, 1, 5)] := by
  decide +kernel

/-- The seeded case: encryption on, HTTPS and DNSCrypt switched off by port 0. -/
example : parseConfig ⟨true, true, true, 3000, [true], 5353, true, 0, 853, 853, 0, true⟩ = .ok := by decide

/-- A real clash is reported: web interface and DoT both on 853. -/
example : parseConfig ⟨true, true, true, 853, [true], 53, true, 443, 853, 853, 0, true⟩ = .tcpDup [853] := by decide

/-- Same port on different transports is fine (DoT and DoQ on 853, web and DNS on 53). -/
example : parseConfig ⟨true, true, true, 53, [true], 53, true, 443, 853, 853, 0, true⟩ = .ok := by decide

end AGH.C13L
