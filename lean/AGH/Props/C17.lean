/-
C17 — local files are read as filter lists only when matching the configured
safe patterns.  Property theorems only (helper lemmas live in AGH/Lemmas).

Proved here, for ALL pattern lists, locations and oracle values:
  * a file is opened only for an absolute location, only at its cleaned path,
    only if a configured pattern matches that path in the DECLARATIVE glob
    semantics (`C17_only_matching`, with `C17_match_sound`: Go's greedy matcher
    accepts nothing the pattern language does not);
  * never with an empty pattern list, never for a non-absolute location;
  * the same at the three entry points (`C17_entry_points`,
    `C17_accept_needs_match`, `C17_validate_agrees`);
  * the cleaned path is the kernel's resolution of the spelling and consists
    of plain components only (`C17_clean_is_resolution`);
  * `*`, `?` never cross a separator (`C17_glob_depth`).
Not proved: completeness of Go's matcher (it is NOT complete: see
`C17_observation_greedy_incomplete`), and absence of the bad-pattern panic
(it is NOT absent: see `C17_observation_lazy_pattern_validation`).
-/
import AGH.Lemmas.SafeFSDepth
import AGH.Lemmas.SafeFSEntry
import AGH.Gen.C17OpenSites
namespace AGH.C17
open AGH AGH.Bytes

/-- Go's `filepath.Match` is sound for the documented pattern language:
if it reports a match, the pattern is well-formed and its AST matches the
whole name (`*`/`?` not crossing `/`). -/
theorem C17_match_sound (pat name : Bytes) (h : goMatch pat name = .ok true) :
    ∃ ts, parseGlob pat = some ts ∧ matchesT ts name = true :=
  goMatch_sound h

/-- The server opens a local file only if the location is absolute, the path
handed to `os.Open` is its cleaned form, and that path matches one of the
configured safe patterns. -/
theorem C17_only_matching (pats : List Bytes) (loc p : Bytes) (h : opens pats loc = some p) :
    isAbs loc = true ∧ p = pathClean loc ∧ pats ≠ [] ∧ ∃ g ∈ pats, globMatches g p = true :=
  opens_spec h

/-- With no patterns configured no local file is read at all. -/
theorem C17_empty_patterns (loc : Bytes) : opens [] loc = none := by
  cases h : opens [] loc with
  | none => rfl
  | some p => exact absurd rfl (opens_spec h).2.2.1

/-- Relative paths and `file:`, `ftp:` … locations (anything not starting
with `/`) are never opened as local files by `reader`: they go to the HTTP
client.  That the client itself cannot serve a local file is not an assumption
about `net/http` made here but the extracted fact `C17_T_client_http_only`
(and is observed on the client built by `home` in `TestVerifC17Home`). -/
theorem C17_nonabs_never_local (pats : List Bytes) (loc : Bytes) (h : isAbs loc = false) :
    reader pats loc = .http ∧ opens pats loc = none := by
  simp [opens, reader, h]

/-- For an absolute spelling `p`: the cleaned path is `/` + the components the
kernel reaches by walking `p` in a symlink-free tree; all of them are plain
names (no empty, `.`, `..`, no separator inside), so walking the cleaned path
changes nothing; and cleaning is idempotent (so `pathMatchesAny`'s "not
absolute" panic is unreachable from `reader`/`validateFilterURL`). -/
theorem C17_clean_is_resolution (p : Bytes) (h : isAbs p = true) :
    pathClean p = slash :: joinWith slash (resolve p) ∧
    comps (pathClean p) = resolve p ∧
    (∀ c ∈ resolve p, plainComp c) ∧
    resolve (pathClean p) = resolve p ∧
    pathClean (pathClean p) = pathClean p :=
  ⟨pathClean_eq_resolve h, comps_pathClean h, resolve_plain p, resolve_pathClean h, pathClean_idem h⟩

/-- `reader` and `validateFilterURL` never reach the "not absolute" panic. -/
theorem C17_no_notabs_panic (pats : List Bytes) (loc : Bytes) (kind : Kind) (urlOK : Bool) :
    reader pats loc ≠ .panic .notAbs ∧ validateFilterURL pats loc kind urlOK ≠ .panic .notAbs := by
  -- each has one exit that panics, with the matcher's error on the cleaned form of an absolute location
  constructor
  · fun_cases reader pats loc with
    | case2 ha p e hm =>
      rintro ⟨⟩
      exact pathMatchesAny_pathClean_ne_notAbs pats (by simpa using ha) hm
    | _ => nofun
  · fun_cases validateFilterURL pats loc kind urlOK with
    | case2 ha p _ e hm =>
      rintro ⟨⟩
      exact pathMatchesAny_pathClean_ne_notAbs pats ha hm
    | _ => nofun

/-- **No spelling escapes**, for every byte string used as a location.  The
URL→path decision of the code is one test: does the string start with `/`
(`filepath.IsAbs` on Unix).  If it does not — relative paths (never resolved
against the working directory), `file://…`, `FILE:`, `ftp://`, `C:\…`,
`\\host\share`, a leading space — nothing is opened locally and the string goes
to the HTTP client.  If it does — including `//host/path`, `/%2e%2e/x` (no
percent-decoding takes place), `/a/../b`, `/a//b/./` — the only path that can
be opened is the lexically cleaned one, which names exactly the file the
kernel reaches from the spelling in a symlink-free tree and has plain
components only, and it must match a configured pattern.  (The property is
about the cleaned absolute PATH: symlinks inside a matching directory are
followed by the kernel and are out of scope, as the property says.) -/
theorem C17_no_spelling_escapes (pats : List Bytes) (loc : Bytes) :
    (isAbs loc = false → reader pats loc = .http ∧ opens pats loc = none) ∧
    (∀ p, opens pats loc = some p →
      isAbs loc = true ∧ p = pathClean loc ∧ comps p = resolve loc ∧
      (∀ c ∈ comps p, plainComp c) ∧ pathClean p = p ∧
      pats ≠ [] ∧ ∃ g ∈ pats, globMatches g p = true) := by
  refine ⟨fun h => C17_nonabs_never_local pats loc h, ?_⟩
  intro p hp
  obtain ⟨h1, h2, h3, h4⟩ := C17_only_matching pats loc p hp
  obtain ⟨_, c2, c3, _, c5⟩ := C17_clean_is_resolution loc h1
  subst h2
  exact ⟨h1, rfl, c2, by rw [c2]; exact c3, c5, h3, h4⟩

/-- `*` and `?` cannot be used to climb into sub-directories: a path matched
by a pattern whose classes do not admit `/` has exactly as many separators as
the pattern has literal ones. -/
theorem C17_glob_depth (g p : Bytes) (ts : List Term) (hp : parseGlob g = some ts)
    (hc : noSlashClass ts = true) (hm : globMatches g p = true) :
    p.count slash = litSlashes ts := by
  unfold globMatches at hm
  rw [hp] at hm
  exact matchesT_depth ts p hc hm

/-- add / set-url validation and the refresh-time check are the same test:
what validation accepts (for an absolute location) is opened at the cleaned
path; what the reader would refuse, validation refuses. -/
theorem C17_validate_agrees (pats : List Bytes) (loc : Bytes) (kind : Kind) (urlOK : Bool)
    (ha : isAbs loc = true) :
    (validateFilterURL pats loc kind urlOK = .ok → reader pats loc = .opened (pathClean loc)) ∧
    (reader pats loc = .noMatch → validateFilterURL pats loc kind urlOK = .errNoMatch ∨
      validateFilterURL pats loc kind urlOK = .errStat) := by
  rw [reader_abs ha, validate_abs ha]
  cases pathMatchesAny pats (pathClean loc) with
  | error e => split <;> simp
  | ok b => cases b <;> split <;> simp

/-- At every entry point (add, set-url, refresh): if afterwards the content
of a local file `p` is in force, then `p` was opened by `reader` under the
configured patterns — hence all of `C17_only_matching` holds for it. -/
theorem C17_entry_points (op : Op) (e : Env) (st : Nat) (c : Cls) (p : Bytes) (u : Bool)
    (h : runOp op e = .done st c (.file p) u) :
    isAbs e.loc = true ∧ p = pathClean e.loc ∧ e.pats ≠ [] ∧
      (∃ g ∈ e.pats, globMatches g p = true) ∧ e.kind = .file := by
  obtain h | h | h | ⟨q, h, ho, hk⟩ := (runOp_done h).1
  · cases h
  · cases h
  · cases h
  · cases h
    obtain ⟨h1, h2, h3, h4⟩ := opens_spec ho
    exact ⟨h1, h2, h3, h4, hk⟩

/-- Enforced when a list is added and when its URL is edited: an absolute
location is accepted (status 200) only if its cleaned form matches one of the
configured patterns — also for a disabled list, where nothing is read. -/
theorem C17_accept_needs_match (op : Op) (e : Env) (c : Cls) (s : Src) (u : Bool)
    (hop : op = .add ∨ op = .setURL) (h : runOp op e = .done 200 c s u) (ha : isAbs e.loc = true) :
    matchesSome e.pats (pathClean e.loc) = true := by
  rcases (runOp_done h).2 rfl with hr | hv
  · rcases hop with rfl | rfl <;> cases hr
  · exact validate_ok_abs hv ha

/-- The model satisfies the monitor that the driver evaluates on the
implementation, for every entry point, configuration, location and oracle. -/
theorem C17_model_meets_spec (op : Op) (e : Env) : specOK op e (runOp op e) = true := by
  unfold specOK specWhy
  cases hr : runOp op e with
  | confErr i => rfl
  | panic p => rfl
  | done st c src u =>
    have hsrc : srcWhy e src = none := by
      -- in force afterwards is nothing, the old content, the server's, or a file that `reader` opened: never `.unknown`
      obtain rfl | rfl | rfl | ⟨p, rfl, ho, _⟩ := (runOp_done hr).1
      · rfl
      · rfl
      · rfl
      · obtain ⟨h1, rfl, h3, h4⟩ := opens_spec ho
        simp [srcWhy, h1, h3, matchesSome_iff.mpr h4]
    simp only [hsrc]
    rw [if_neg, Option.isNone_none]
    rintro ⟨hop, rfl, ha, hn⟩
    rw [C17_accept_needs_match op e c src u hop hr ha] at hn
    cases hn

/-! ### Translator tie: what the Go program does with a filter's URL

`AGH/Gen/C17OpenSites.lean` is regenerated from the typed AST of the current
tree on every run (extract/cmd/c17): every call in the module that hands a
path to the file system, with the provenance of the path (backward data flow
through locals, parameters over all callers, struct fields over all writes,
results of module functions; unknown calls keep the provenance of their
arguments), the structure of the safe-pattern test around the sites a filter
URL reaches, and every value stored into `FilterYAML.URL`.  The theorems below
are obligations over those tables; they are what ties the function `reader` of
the model to "every place where the program opens a file named by a list". -/

/-- The path comes from a stored filter URL or from the URL field of a
filtering API request. -/
def urlFed (s : Gen.Site) : Bool := (s.prov / 4) % 4 != 0

/-- The path comes from the URL of the rule-list implementation that is not
wired into the server (`rulelist.Filter`, which accepts `file:` URLs unchecked). -/
def nextFed (s : Gen.Site) : Bool := (s.prov / 16) % 2 != 0

/-- In the whole module a filter's URL reaches the file system at two calls
only: the `os.Open` in `DNSFilter.reader`, dominated by
`v = filepath.Clean(v); if !pathMatchesAny(d.safeFSPatterns, v) { return err }`,
and the `os.Stat` in `validateFilterURL`, which is followed by the same test
before the function can return nil.  No read, listing, library open, exec or
mutation anywhere else is fed by it. -/
theorem C17_T_url_reaches_fs_only_guarded :
    ∀ s ∈ Gen.sites, urlFed s = true →
      (s.op = 0 ∧ s.role = 1 ∧ s.guard = 1) ∨ (s.op = 1 ∧ s.role = 2 ∧ s.guard = 2) := by
  decide +kernel

/-- There is exactly one call that opens a file named by a filter URL, it is
the one in `reader`, and its path is nothing but the stored URL (cleaned). -/
theorem C17_T_single_open_site :
    (Gen.sites.filter fun s => urlFed s && s.op != 1).length = 1 ∧
    ∃ s ∈ Gen.sites, s.op = 0 ∧ s.role = 1 ∧ s.guard = 1 ∧ s.prov = 4 := by
  decide +kernel

/-- The unchecked `file:` reader of `internal/filtering/rulelist` exists but
nothing outside that package (tests aside) constructs its filters, engines or
storages: it is not reachable in the server. -/
theorem C17_T_next_impl_unwired :
    (∃ s ∈ Gen.sites, nextFed s = true ∧ s.op = 0) ∧ Gen.nextImplRefs = 0 := by
  decide +kernel

/-- Every value ever stored into a filter's URL is a copy of a stored URL, a
compiled-in constant, or the URL of an add / set-url request on which
`validateFilterURL` was called — with an error return — earlier in the same
handler. -/
theorem C17_T_url_writes_validated :
    ∀ w ∈ Gen.urlWrites, w.prov = 4 ∨ w.prov = 32 ∨
      (w.prov = 8 ∧ w.validated = true ∧ (w.role = 3 ∨ w.role = 4)) := by
  decide +kernel

/-- Both HTTP entry points are present and validate before they touch the list. -/
theorem C17_T_both_entry_points_validate :
    (∃ w ∈ Gen.urlWrites, w.role = 3 ∧ w.prov = 8 ∧ w.validated = true) ∧
    (∃ w ∈ Gen.urlWrites, w.role = 4 ∧ w.prov = 8 ∧ w.validated = true) := by
  decide +kernel

/-- The configured safe patterns are stored exactly as configured: the only
store into `DNSFilter.safeFSPatterns` in the module is the append, in
`filtering.New`, of each element of `Config.SafeFSPatterns` after
`filepath.Match` accepted it — no default, nothing added.  (So "no patterns
configured" really is the empty list of `C17_empty_patterns`.) -/
theorem C17_T_patterns_exactly_configured :
    Gen.patternWrites.length = 1 ∧ ∀ w ∈ Gen.patternWrites, w.kind = 1 := by
  decide +kernel

/-- The client that `reader` hands every non-absolute location to speaks http
and https only: the single store into `filtering.Config.HTTPClient` is the
result of a function (`home.httpClient`) that returns a literal
`&http.Client{Transport: &http.Transport{…}}`, and nothing in the module
registers another protocol on a transport (`RegisterProtocol`,
`NewFileTransport`, `NewFileTransportFS`: 0 uses).  This is the fact behind
`C17_nonabs_never_local`: "handed to the HTTP client" means "no local file". -/
theorem C17_T_client_http_only :
    Gen.protocolRegistrations = 0 ∧ Gen.clientWrites.length = 1 ∧ ∀ w ∈ Gen.clientWrites, w.kind = 1 := by
  decide +kernel

/-! ### Observations about the unchanged code (not violations of C17: a crash
or a refusal reads nothing) -/

/-- `filtering.New` validates a pattern with `filepath.Match(p, "test")`, and
`Match` stops at the first chunk that does not match: the malformed pattern
`/a*[` is accepted at start-up, and a later request for the existing path `/a`
makes `pathMatchesAny` panic ("bad pattern"). -/
theorem C17_observation_lazy_pattern_validation :
    confError [[47, 97, 42, 91]] 0 = none ∧
    goMatch [47, 97, 42, 91] [47, 97] = .error .badPattern ∧
    reader [[47, 97, 42, 91]] [47, 97] = .panic .badPattern := by
  decide +kernel

/-- Go's matcher commits to the leftmost match of a chunk, and character
classes (unlike `*`, `?`) may match `/`: the name `[]/x` matches the AST of
`*[/[]*` (star = `[]`, class = `/`, star = `x`), yet `filepath.Match` says
no.  The matcher is sound, not complete; the property needs soundness only. -/
theorem C17_observation_greedy_incomplete :
    globMatches [42, 91, 47, 91, 93, 42] [91, 93, 47, 120] = true ∧
    goMatch [42, 91, 47, 91, 93, 42] [91, 93, 47, 120] = .ok false := by
  decide +kernel

/-! ### Non-vacuity: the hypotheses above are met by concrete, non-trivial cases -/

-- "/s/*.txt" opens "/s/a.txt" when spelled "/s/x/../a.txt"
example : opens [[47, 115, 47, 42, 46, 116, 120, 116]] [47, 115, 47, 120, 47, 46, 46, 47, 97, 46, 116, 120, 116]
    = some [47, 115, 47, 97, 46, 116, 120, 116] := by decide +kernel
-- … but not "/s/../o/a.txt", nor "/s/d/a.txt" (the star does not cross "/")
example : opens [[47, 115, 47, 42, 46, 116, 120, 116]] [47, 115, 47, 46, 46, 47, 111, 47, 97, 46, 116, 120, 116] = none := by
  decide +kernel
example : opens [[47, 115, 47, 42, 46, 116, 120, 116]] [47, 115, 47, 100, 47, 97, 46, 116, 120, 116] = none := by decide +kernel
-- spellings, with the pattern "/s/*": only the last two reach the file system, at the cleaned path
example : reader [[47, 115, 47, 42]] [102, 105, 108, 101, 58, 47, 47, 47, 115, 47, 97] = .http := by decide +kernel          -- file://
example : reader [[47, 115, 47, 42]] [70, 73, 76, 69, 58, 47, 115, 47, 97] = .http := by decide +kernel             -- FILE:
example : reader [[47, 115, 47, 42]] [115, 47, 97] = .http := by decide +kernel                   -- relative
example : reader [[47, 115, 47, 42]] [46, 46, 47, 115, 47, 97] = .http := by decide +kernel
example : reader [[47, 115, 47, 42]] [67, 58, 92, 115, 92, 97] = .http := by decide +kernel               -- Windows style
example : reader [[47, 115, 47, 42]] [32, 47, 115, 47, 97] = .http := by decide +kernel                 -- leading space
example : reader [[47, 115, 47, 42]] [47, 115, 47, 37, 50, 101, 37, 50, 101, 47, 101, 116, 99] = .noMatch := by decide +kernel      -- no percent-decoding
example : reader [[47, 115, 47, 42]] [47, 47, 115, 47, 97] = .opened [47, 115, 47, 97] := by decide +kernel   -- //host/path is a path
example : reader [[47, 115, 47, 42]] [47, 120, 47, 46, 46, 47, 47, 115, 47, 46, 47, 97, 47] = .opened [47, 115, 47, 97] := by decide +kernel
example : reader [[47, 115, 47, 42]] [47, 115, 47, 46, 46, 47, 101, 116, 99, 47, 112, 97, 115, 115, 119, 100] = .noMatch := by decide +kernel

-- an add of an existing matching file succeeds and puts that file in force
example : runOp .add (⟨[[47, 115, 47, 42]], [47, 115, 47, 47, 97], .file, false, false, true⟩ : Env)
    = .done 200 .ok (.file [47, 115, 47, 97]) true := by decide +kernel
-- a pattern with a class that admits "/" really lets a name with one more separator through
example : goMatch [97, 91, 94, 120, 93, 98] [97, 47, 98] = .ok true ∧
    noSlashClass [.lit 97, .cls true [(120, 120)], .lit 98] = false := by decide +kernel
-- the depth theorem applies to "/s/*.txt"
example : parseGlob [47, 115, 47, 42, 46, 116, 120, 116] =
    some [.lit 47, .lit 115, .lit 47, .star, .lit 46, .lit 116, .lit 120, .lit 116] := by decide +kernel

end AGH.C17
