/-
C09 — top-N lists (outside the property's totals, covered here as far as the
counters are concerned).
-/
import AGH.Lemmas.StatsTop
namespace AGH.C09

/-- Any slice `convertMapToSlice(m, max)` may return: the first `max` pairs of
SOME ordering of the map's pairs with descending counts (the Go sort is
unstable, ties fall either way). -/
def IsTop (m : CountMap) (max : Nat) (s : List (Nat × Nat)) : Prop :=
  ∃ sorted, sorted.Perm m ∧ Desc sorted ∧ s = sorted.take max

/-- Before truncation the maps account for every counted query: after any
burst of accepted entries (category 1 … 5) the per-client counts add up to
`nTotal`, the per-domain counts of not-filtered queries to `nResult[1]`, of
blocked ones to `nResult[2..5]`, and the total is the sum of the categories. -/
theorem C09_top_maps_sum (es : List TopEntry) (hes : ∀ e ∈ es, 1 ≤ e.result ∧ e.result ≤ 5) :
    let u := es.foldl TopUnit.add TopUnit.new
    u.clients.total = u.nTotal ∧ u.domains.total = u.nResult 1 ∧
    u.blocked.total = u.nResult 2 + u.nResult 3 + u.nResult 4 + u.nResult 5 ∧
    u.domains.total + u.blocked.total = u.nTotal := by
  have h := topBal_adds es hes topBal_new
  refine ⟨h.clients, h.domains, h.blocked, ?_⟩
  have := h.total
  have := h.domains
  have := h.blocked
  omega

/-- What truncation to `max` names loses, whichever way ties are broken: the
kept slice has `min max (size of the map)` entries; kept and dropped pairs
together are exactly the map; the dropped counts are the difference of the
sums; no dropped count exceeds a kept one; nothing is dropped when the map has
at most `max` names. -/
theorem C09_top_truncation (m : CountMap) (max : Nat) (s : List (Nat × Nat)) (h : IsTop m max s) :
    s.length = min max m.length ∧
    ∃ dropped, (s ++ dropped).Perm m ∧ pairsTotal s + pairsTotal dropped = m.total ∧
      (∀ x ∈ s, ∀ y ∈ dropped, y.2 ≤ x.2) ∧ (m.length ≤ max → dropped = []) := by
  obtain ⟨sorted, hp, hd, rfl⟩ := h
  refine ⟨by rw [List.length_take, hp.length_eq], sorted.drop max, ?_, ?_, desc_take_drop hd max, ?_⟩
  · rw [List.take_append_drop]; exact hp
  · rw [total_take_drop, ← pairsTotal_eq_total]; exact perm_total hp
  · intro hle
    apply List.drop_eq_nil_of_le
    rw [hp.length_eq]; exact hle

/-- The executable `topOf` (what the driver computes) is one of the allowed outcomes. -/
theorem C09_top_model_is_top (m : CountMap) (max : Nat) : IsTop m max (topOf m max) :=
  ⟨sortDesc m, sortDesc_perm m, sortDesc_desc m, rfl⟩

/-- Consequence for a restart inside the hour (serialize, then deserialize):
the reloaded clients map accounts for at most `nTotal` queries, and for all of
them if at most `max` clients were seen; with more, exactly the counts of
the dropped clients are missing from the per-client view (`C09_top_truncation`;
the totals `nTotal`/`nResult` are stored separately and are not affected). -/
theorem C09_top_restart_loses_tail (es : List TopEntry) (hes : ∀ e ∈ es, 1 ≤ e.result ∧ e.result ≤ 5)
    (max : Nat) (s : List (Nat × Nat)) (h : IsTop (es.foldl TopUnit.add TopUnit.new).clients max s) :
    pairsTotal s ≤ (es.foldl TopUnit.add TopUnit.new).nTotal ∧
    ((es.foldl TopUnit.add TopUnit.new).clients.length ≤ max →
      pairsTotal s = (es.foldl TopUnit.add TopUnit.new).nTotal) := by
  obtain ⟨_, dropped, _, hsum, _, hnil⟩ := C09_top_truncation _ max s h
  have hb := (topBal_adds es hes topBal_new).clients
  constructor
  · omega
  · intro hle
    have := hnil hle
    subst this
    simp only [pairsTotal, List.map_nil, List.sum_nil] at hsum
    simp only [pairsTotal]
    omega

/-- The top lists of the API answer.  `topsCollector` adds the per-unit lists
of the window into one map; its counts add up to the sum of the lists' counts,
whatever names repeat across hours.  Hence, for units whose lists are complete
(`IsTop` with at most `max` names, so nothing was cut when they were stored):
the collected clients add up to the sum of the units' `nTotal` — the reported
`num_dns_queries` —, the collected queried domains to the not-filtered queries
and the collected blocked domains to the four blocked categories. -/
theorem C09_top_lists_sum (bursts : List (List TopEntry))
    (hes : ∀ es ∈ bursts, ∀ e ∈ es, 1 ≤ e.result ∧ e.result ≤ 5) :
    let us := bursts.map fun es => es.foldl TopUnit.add TopUnit.new
    (collectTops (us.map (·.clients))).total = (us.map (·.nTotal)).sum ∧
    (collectTops (us.map (·.domains))).total = (us.map (·.nResult 1)).sum ∧
    (collectTops (us.map (·.blocked))).total =
      (us.map fun u => u.nResult 2 + u.nResult 3 + u.nResult 4 + u.nResult 5).sum := by
  have hbal : ∀ u ∈ bursts.map (fun es => es.foldl TopUnit.add TopUnit.new), TopBal u := by
    intro u hu
    obtain ⟨es, hes', rfl⟩ := List.mem_map.mp hu
    exact topBal_adds es (hes es hes') topBal_new
  have key : ∀ (us : List TopUnit) (f : TopUnit → CountMap) (g : TopUnit → Nat),
      (∀ u ∈ us, (f u).total = g u) → (collectTops (us.map f)).total = (us.map g).sum := by
    intro us f g h
    rw [total_collectTops, List.map_map]
    exact congrArg List.sum (List.map_congr_left h)
  exact ⟨key _ _ _ (fun u hu => (hbal u hu).clients), key _ _ _ (fun u hu => (hbal u hu).domains),
    key _ _ _ (fun u hu => (hbal u hu).blocked)⟩

/-- Truncation per hour can hide a heavy name from the window's top list: with
`max = 1`, client 9 is second in two hours (2 queries each, behind clients 1 and
2 with 3 each); per hour only the first is stored, so the merged list knows
clients 1 and 2 with 3 queries and not client 9 with 4.  (With `max = 100` the
same happens to the 101st client of each hour.) -/
theorem C09_top_truncation_hides_heavy_name :
    let h1 : CountMap := [(1, 3), (9, 2)]
    let h2 : CountMap := [(2, 3), (9, 2)]
    topOf h1 1 = [(1, 3)] ∧ topOf h2 1 = [(2, 3)] ∧ (9, 2) ∉ topOf h1 1 ++ topOf h2 1 := by
  decide

example : ∃ es : List TopEntry, (∀ e ∈ es, 1 ≤ e.result ∧ e.result ≤ 5) ∧
    (es.foldl TopUnit.add TopUnit.new).clients.length = 3 ∧ (es.foldl TopUnit.add TopUnit.new).nTotal = 4 :=
  ⟨[⟨1, 7, 1⟩, ⟨2, 7, 2⟩, ⟨5, 8, 3⟩, ⟨1, 7, 1⟩], by decide, by decide, by decide⟩

example : IsTop [(1, 3), (9, 2), (4, 2)] 2 [(1, 3), (4, 2)] :=
  ⟨[(1, 3), (4, 2), (9, 2)], by decide, by simp [Desc], rfl⟩

end AGH.C09
