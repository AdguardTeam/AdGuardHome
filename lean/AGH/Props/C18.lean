/-
C18 — the blocked-services pause schedule follows local wall-clock time.

A zone is ANY function `off : Int → Int` (UTC seconds ↦ offset in seconds): the
theorems hold for every time zone, every transition pattern (23-, 25-, 24.5-hour
days, offsets with seconds), every instant (negative Unix times included) and
every schedule.  After the zone theorems the file goes on to validation, decoding
and the round trip of both serialised forms, JSON numbers by their exact float64
value, requests on a long-lived filter, aliasing, the spec monitors, read-back and
the translator tie.
-/
import AGH.Lemmas.Schedule
import AGH.Lemmas.ScheduleFloat
import AGH.Gen.C18Schedule
namespace AGH.C18
open AGH

/-- `Weekly.Contains` is true exactly when the instant's wall-clock time of day,
on its weekday in the schedule's zone, lies in that day's `[start, end)`. -/
theorem C18_contains_spec (off : Int → Int) (w : Weekly) (t : Instant) :
    contains off w t = true ↔ InEffect off w t := by
  rw [contains_eq_decide, decide_eq_true_iff]

/-- The request path applies the blocked-service rules exactly when the pause
schedule is not in effect (blocked.go:96, filter.go:645). -/
theorem C18_services_applied_iff (off : Int → Int) (w : Weekly) (now : Instant) :
    servicesApplied off w now = true ↔ ¬ InEffect off w now := by
  rw [← C18_contains_spec]
  simp [servicesApplied]

/-- A full-day range covers EVERY instant of that local day — however many
hours the day has in that zone. -/
theorem C18_full_day_covers (off : Int → Int) (w : Weekly) (D : Int) (t : Instant)
    (hns : t.nsec < 1000000000) (hday : localDay off t = D)
    (hfull : w.days.get (dayWeekday D) = ⟨0, maxDayRange⟩) :
    contains off w t = true := by
  rw [C18_contains_spec]
  subst hday
  simp only [InEffect, rangeAt, localWeekday_eq_dayWeekday, hfull, timeOfDay, maxDayRange]
  omega

/-- An empty range (`end ≤ start`, in particular the unset day `0–0`) covers no
instant of that local day. -/
theorem C18_empty_covers_none (off : Int → Int) (w : Weekly) (D : Int) (t : Instant)
    (hday : localDay off t = D)
    (hempty : (w.days.get (dayWeekday D)).stop ≤ (w.days.get (dayWeekday D)).start) :
    contains off w t = false := by
  rw [Bool.eq_false_iff, Ne, C18_contains_spec]
  subst hday
  simp only [InEffect, rangeAt, localWeekday_eq_dayWeekday]
  omega

/-- Only the wall-clock reading matters: two instants, in whatever zones, whose
clocks show the same date and time get the same answer.  (This is what finding
F8 violated: the pre-repair code also depended on how long ago local midnight was.) -/
theorem C18_wallclock_only (off off' : Int → Int) (w : Weekly) (t t' : Instant)
    (hwall : wall off t = wall off' t') (hns : t.nsec = t'.nsec) :
    contains off w t = contains off' w t' := by
  rw [contains_eq_decide, contains_eq_decide, decide_eq_decide]
  simp only [InEffect, rangeAt, localWeekday, localDay, timeOfDay, hwall, hns]

/-- Range edges: with `start < end`, the instant whose clock shows exactly
`start` is inside, the one showing exactly `end` (if that is still the same
local day) is outside. -/
theorem C18_range_edges (off : Int → Int) (w : Weekly) (t : Instant) :
    (timeOfDay off t = (rangeAt off w t).start → (rangeAt off w t).start < (rangeAt off w t).stop →
      contains off w t = true) ∧
    (timeOfDay off t = (rangeAt off w t).stop → contains off w t = false) := by
  constructor
  · intro h1 h2
    rw [C18_contains_spec]
    exact ⟨by omega, by omega⟩
  · intro h1
    rw [Bool.eq_false_iff, Ne, C18_contains_spec]
    intro h
    have := h.2
    omega

/-- For the non-vacuity examples: Europe/Berlin in 2024 (CET +1 h, CEST +2 h from
2024-03-31 01:00 UTC to 2024-10-27 01:00 UTC). -/
def berlin2024 (s : Int) : Int :=
  if s < 1711846800 then 3600 else if s < 1729990800 then 7200 else 3600

/-- "Europe/Berlin" -/
def berlinName : Bytes := [69, 117, 114, 111, 112, 101, 47, 66, 101, 114, 108, 105, 110]

/-- Sunday 09:00–10:00, every other day unset. -/
def sundayMorning : Weekly :=
  ⟨berlinName, ⟨⟨32400000000000, 36000000000000⟩, .zero, .zero, .zero, .zero, .zero, .zero⟩⟩

def sundayFull : Weekly :=
  ⟨berlinName, ⟨⟨0, maxDayRange⟩, .zero, .zero, .zero, .zero, .zero, .zero⟩⟩

-- 2024-03-31 (23-hour day): 09:30 CEST is inside 09:00–10:00, 10:30 CEST is outside.
example : contains berlin2024 sundayMorning ⟨1711870200, 0⟩ = true := by decide +kernel
example : contains berlin2024 sundayMorning ⟨1711873800, 0⟩ = false := by decide +kernel
-- 2024-10-27 (25-hour day): local day 20023 runs from 1729980000 to 1730069999 (90000 s);
-- its first and last second are both on it and both covered by the full-day range.
example : localDay berlin2024 ⟨1729980000, 0⟩ = 20023 ∧ localDay berlin2024 ⟨1730069999, 999999999⟩ = 20023 ∧
    localDay berlin2024 ⟨1729979999, 0⟩ = 20022 ∧ localDay berlin2024 ⟨1730070000, 0⟩ = 20024 := by decide +kernel
example : dayWeekday 20023 = 0 := by decide +kernel
example : contains berlin2024 sundayFull ⟨1729980000, 0⟩ = true :=
  C18_full_day_covers berlin2024 sundayFull 20023 _ (by decide +kernel) (by decide +kernel) (by decide +kernel)
example : contains berlin2024 sundayFull ⟨1730069999, 999999999⟩ = true :=
  C18_full_day_covers berlin2024 sundayFull 20023 _ (by decide +kernel) (by decide +kernel) (by decide +kernel)
-- the hypotheses of `C18_empty_covers_none` are met: the next day is a Monday, unset in `sundayMorning`
example : contains berlin2024 sundayMorning ⟨1730073600, 0⟩ = false :=
  C18_empty_covers_none berlin2024 sundayMorning 20024 _ (by decide +kernel) (by decide +kernel)

/-- Why the pre-repair form was wrong (finding F8): measuring the time ELAPSED
since local midnight (`mid`) instead of reading the clock misplaces every range
after a transition.  On 2024-03-31 in Berlin (midnight = 1711839600) the range
09:00–10:00 missed 09:30 and held at 10:30; on 2024-10-27 (midnight =
1729980000) the full-day range missed 23:30.  The specification says the
opposite in all three cases. -/
theorem C18_elapsed_form_differs :
    (containsElapsed berlin2024 sundayMorning 1711839600 ⟨1711870200, 0⟩ = false ∧
      InEffect berlin2024 sundayMorning ⟨1711870200, 0⟩) ∧
    (containsElapsed berlin2024 sundayMorning 1711839600 ⟨1711873800, 0⟩ = true ∧
      ¬ InEffect berlin2024 sundayMorning ⟨1711873800, 0⟩) ∧
    (containsElapsed berlin2024 sundayFull 1729980000 ⟨1730068200, 0⟩ = false ∧
      InEffect berlin2024 sundayFull ⟨1730068200, 0⟩) := by
  decide +kernel

/-- `(*Weekly).validate` accepts exactly the unset range `0–0` and the
whole-minute ranges with `0 ≤ start < end ≤ 24 h`. -/
theorem C18_validate_iff (r : DayRange) :
    validate r = .ok () ↔
      r = DayRange.zero ∨
      (0 ≤ r.start ∧ r.start < r.stop ∧ r.stop ≤ 86400000000000 ∧
        r.start % 60000000000 = 0 ∧ r.stop % 60000000000 = 0) :=
  validate_ok_iff r

/-- Negative, inverted, longer-than-24h and not-whole-minute ranges are rejected. -/
theorem C18_validate_rejects (r : DayRange) (h : mustReject r = true) : validate r ≠ .ok () := by
  intro hv
  rw [validate_not_mustReject r hv] at h
  exact Bool.false_ne_true h

example : validate ⟨32400000000000, 36000000000000⟩ = .ok () := by rfl
example : validate ⟨0, maxDayRange⟩ = .ok () := by rfl
example : validate ⟨-60000000000, 0⟩ = .error .startNeg := by rfl
example : validate ⟨36000000000000, 32400000000000⟩ = .error .startGeEnd := by rfl
example : validate ⟨0, 86460000000000⟩ = .error .endGtMax := by rfl
example : validate ⟨0, 90000000000⟩ = .error .endNotMinutes := by rfl

/-- A successful decode returns the ranges of the document unchanged, every one
of them valid, in the named zone (`""` is UTC). -/
theorem C18_decode_sound (tzOK : Bytes → Bool) (c : Conf) (w : Weekly) (h : decodeConf tzOK c = .ok w) :
    tzOK c.tz = true ∧ w.loc = locName c.tz ∧ w.days = confDays c ∧ ∀ i, validate (w.days.get i) = .ok () :=
  (decodeConf_ok_iff tzOK c w).mp h

/-- What the decoders produce is a valid schedule (so the encoders only ever see
valid schedules: `EmptyWeekly`/`FullWeekly` are valid too, `C18_constructors_valid`).  `hUTC`:
`time.LoadLocation("UTC")` succeeds whenever `time.LoadLocation("")` does. -/
theorem C18_decode_valid (tzOK : Bytes → Bool) (hUTC : tzOK [] = true → tzOK (utcName) = true)
    (c : Conf) (w : Weekly) (h : decodeConf tzOK c = .ok w) : Valid tzOK w := by
  obtain ⟨h1, h2, _, h4⟩ := C18_decode_sound tzOK c w h
  by_cases he : c.tz = []
  · rw [locName, if_pos he] at h2
    exact ⟨by rw [h2]; decide +kernel, by rw [h2]; exact hUTC (he ▸ h1), h4⟩
  · rw [locName, if_neg he] at h2
    exact ⟨h2 ▸ he, h2 ▸ h1, h4⟩

/-- JSON: every valid schedule encodes, and decoding the tokens gives it back. -/
theorem C18_json_roundtrip (tzOK : Bytes → Bool) (w : Weekly) (hw : Valid tzOK w) :
    ∃ d, encodeJSON w = some d ∧ decodeJSON tzOK d = some (.ok w) :=
  week_roundtrip jsonDurEncode jsonDurDecode jsonDur_codec tzOK w hw

/-- YAML: every valid schedule encodes, and decoding the tokens gives it back. -/
theorem C18_yaml_roundtrip (tzOK : Bytes → Bool) (w : Weekly) (hw : Valid tzOK w) :
    ∃ d, encodeYAML w = some d ∧ decodeYAML tzOK d = some (.ok w) := by
  obtain ⟨d, h1, h2⟩ := week_roundtrip yamlDurEncode yamlDurDecode yamlDur_codec tzOK w hw
  -- `omitempty` after `some` is `toDayConfJSON` (`yamlOmitEmpty_eq`, by unfolding), so the documents are the same
  refine ⟨d, h1, ?_⟩
  simpa only [decodeYAML, decodeConf_yamlAbsentAsZero] using h2

/-- Anything that was decoded (from either format) survives both round trips. -/
theorem C18_roundtrip_after_decode (tzOK : Bytes → Bool)
    (hUTC : tzOK [] = true → tzOK (utcName) = true)
    (c : Conf) (w : Weekly) (h : decodeConf tzOK c = .ok w) :
    (∃ d, encodeJSON w = some d ∧ decodeJSON tzOK d = some (.ok w)) ∧
    (∃ d, encodeYAML w = some d ∧ decodeYAML tzOK d = some (.ok w)) :=
  ⟨C18_json_roundtrip tzOK w (C18_decode_valid tzOK hUTC c w h),
   C18_yaml_roundtrip tzOK w (C18_decode_valid tzOK hUTC c w h)⟩

/-- Duration tokens: JSON milliseconds over the whole modelled domain (negative
values included), YAML `XhYm` strings for every non-negative whole-minute value
below 2^62 ns. -/
theorem C18_duration_tokens_roundtrip (ns : Int) (tok : Bytes) :
    (jsonDurEncode ns = some tok → jsonDurDecode tok = some ns) ∧
    (yamlDurEncode ns = some tok → ns < durModelLimit → parseDur tok = .ok ns) :=
  ⟨jsonDur_roundtrip ns tok, yamlDur_roundtrip ns tok⟩

/-- The fuel of the `time.ParseDuration` model is never exhausted. -/
theorem C18_parseDur_total (tok : Bytes) : parseDur tok ≠ .fuel := parseDur_no_fuel tok

/-- `EmptyWeekly()` and `FullWeekly()` are valid wherever "Local" loads. -/
theorem C18_constructors_valid (tzOK : Bytes → Bool) (h : tzOK (localName) = true) :
    Valid tzOK emptyWeekly ∧ Valid tzOK fullWeekly := by
  refine ⟨⟨by decide +kernel, h, fun i => ?_⟩, ⟨by decide +kernel, h, fun i => ?_⟩⟩
  · simp only [emptyWeekly, Week.get_const]; rfl
  · simp only [fullWeekly, Week.get_const]; rfl

example : Valid (fun _ => true) sundayMorning :=
  ⟨by decide +kernel, rfl, (Week.forall_get _ (fun r => validate r = .ok ())).mpr (by decide +kernel)⟩

/-! ## Serialised numbers judged by their exact value (float64 modelled exactly)

`JSONDuration.UnmarshalJSON` is `int64(ParseFloat(tok) * 1e6)`; `Model/ScheduleFloat.lean`
models binary64 rounding exactly.  The full statements "accepted ⇒ decoded = what is
written" and "not whole minutes ⇒ rejected" are FALSE of the code (finding F24, below);
they are proved under the hypothesis that the written number is a float64.

The theorems of this section are about `jsonDurDecodeF`; the round-trip theorems above
(`C18_json_roundtrip`, `C18_yaml_roundtrip`, `C18_duration_tokens_roundtrip`) are about the
integer-only `jsonDurDecode` / `parseDur` of `Model/Schedule.lean`.  Both model the same Go
functions; that they agree wherever both answer is not proved but tested at run time
(`oldNewAgree` in `Driver/C18.lean`). -/

/-- JSON: accepted ⇒ decoded exactly.  If the number written is itself a float64
(`n·2^j` units of 2^-1074 with `n < 2^53`: every integer below 2^53 ms, and
fractions like .5 .25 .125 of them) and denotes `K < 2^53` whole nanoseconds,
then `JSONDuration.UnmarshalJSON` yields exactly `±K`. -/
theorem C18_json_decode_exact_partial (tok : Bytes) (x : Dec) (n j K : Nat) (r : Int)
    (hx : parseJSONNumber tok = some x)
    (hn : n < 2 ^ 53) (hfloat : x.frac.1 * fUnit = n * 2 ^ j * x.frac.2)
    (hK : K < 2 ^ 53) (hns : x.frac.1 * 1000000 = K * x.frac.2)
    (h : jsonDurDecodeF tok = .ok r) : r = if x.neg then -(K : Int) else (K : Int) := by
  -- of the six exits of `jsonDurDecodeF` only the third answers `.ok`: a small number that `floatMsToNs` converts
  revert h
  fun_cases jsonDurDecodeF tok with
  | case3 y hy _ ns hf =>
    intro h
    cases h
    cases hx.symm.trans hy
    exact floatMsToNs_exact x.neg x.frac.1 x.frac.2 n j K r (Dec.frac_den_pos x) hn hK hfloat hns hf
  | _ => nofun

/-- JSON: a written value that is not a whole number of minutes is rejected —
under the same representability hypotheses: whatever the other end of the range
is, validation fails. -/
theorem C18_json_fraction_rejected_partial (tok : Bytes) (x : Dec) (n j K : Nat) (r : Int)
    (hx : parseJSONNumber tok = some x)
    (hn : n < 2 ^ 53) (hfloat : x.frac.1 * fUnit = n * 2 ^ j * x.frac.2)
    (hK : K < 2 ^ 53) (hns : x.frac.1 * 1000000 = K * x.frac.2)
    (hfrac : K % 60000000000 ≠ 0)
    (h : jsonDurDecodeF tok = .ok r) (other : Int) :
    validate ⟨r, other⟩ ≠ .ok () ∧ validate ⟨other, r⟩ ≠ .ok () := by
  have hr' : r % 60000000000 ≠ 0 := by
    rw [C18_json_decode_exact_partial tok x n j K r hx hn hfloat hK hns h]
    clear hx hn hfloat hK hns h
    split <;> omega
  exact ⟨fun hv => hr' (validate_whole_minutes _ hv).1, fun hv => hr' (validate_whole_minutes _ hv).2⟩

/-- The representability hypothesis cannot be dropped (finding F24): 35 min + 1 ns
written as `2100000.000001` ms decodes to 35 min exactly and passes validation;
`-1e-7` ms (a negative start) decodes to 0. -/
theorem C18_counterexample_json_decode_exact :
    (jsonTokVal (Bytes.ofString "2100000.000001") = .notWhole false 2100000000001000000 1000000 ∧
     jsonDurDecodeF (Bytes.ofString "2100000.000001") = .ok 2100000000000 ∧
     validate ⟨0, 2100000000000⟩ = .ok ()) ∧
    (jsonTokVal (Bytes.ofString "-1e-7") = .notWhole true 1000000 10000000 ∧
     jsonDurDecodeF (Bytes.ofString "-1e-7") = .ok 0) := by
  decide +kernel

-- non-vacuity: 3600000.25 ms = 14400001 · 2^-2 ms is a float64 and denotes 3600000250000 ns: decoded exactly, hence
-- rejected whatever the other end is (this is what seed C18-10 broke)
example (other : Int) : validate ⟨3600000250000, other⟩ ≠ .ok () :=
  (C18_json_fraction_rejected_partial (Bytes.ofString "3600000.25") ⟨false, 360000025, -2⟩ 14400001 1072 3600000250000
    3600000250000 (by decide +kernel) (by decide +kernel) (by decide +kernel) (by decide +kernel)
    (by decide +kernel) (by decide +kernel) (by decide +kernel) other).1

/-! ## Requests on a long-lived filter: no memory across instants or updates -/

/-- Every request is decided by the schedule in force and the wall clock at its
own instant: the list in force is applied exactly when its pause schedule is
not in effect, the client's own list replacing the global one. -/
theorem C18_request_meets_spec (offG offC : Int → Int) (s : ReqState) (clientSite : Bool) (now : Instant) :
    specRequestOK offG offC s clientSite now (requestApplied offG offC s clientSite now) = true := by
  rcases s with ⟨g, c⟩
  cases clientSite <;> cases c <;> simp [specRequestOK, requestApplied, contains_eq_decide]

/-- After ANY history of updates, legacy `set` calls and client changes, the
state is the last installed configuration — nothing else of the history is kept. -/
theorem C18_state_is_last_update (ops : List ReqOp) (s : ReqState) :
    ops.foldl ReqState.step s = ⟨lastGlobal ops s.global, lastClient ops s.client⟩ := by
  induction ops generalizing s with
  | nil => rfl
  | cons op rest ih =>
    rw [List.foldl_cons, ih]
    cases op <;> rfl

/-- For every operation history and every later instant: the request is decided
by the configuration installed LAST and the wall clock NOW. -/
theorem C18_request_after_history (offG offC : Int → Int) (ops : List ReqOp) (clientSite : Bool) (now : Instant) :
    specRequestOK offG offC
      ⟨lastGlobal ops ReqState.init.global, lastClient ops ReqState.init.client⟩ clientSite now
      (requestApplied offG offC (ops.foldl ReqState.step ReqState.init) clientSite now) = true := by
  rw [C18_state_is_last_update]
  exact C18_request_meets_spec offG offC _ clientSite now

-- non-vacuity: a request under a full-week pause, an update to the empty schedule, the same instant again
example :
    let full : SvcConf := ⟨⟨utcName, Week.const ⟨0, maxDayRange⟩⟩, 2⟩
    let empty : SvcConf := ⟨⟨utcName, Week.const .zero⟩, 2⟩
    requestApplied (fun _ => 0) (fun _ => 0) ([ReqOp.update full].foldl ReqState.step ReqState.init) false ⟨1730068200, 0⟩ = (0, 0) ∧
    requestApplied (fun _ => 0) (fun _ => 0) ([ReqOp.update full, ReqOp.update empty].foldl ReqState.step ReqState.init) false ⟨1730068200, 0⟩ = (2, 0) := by
  decide +kernel

/-! ## Values do not share state -/

/-- Whatever operation runs — in particular a decode INTO slot `i` (the target
pre-filled with that value) — every other value created before is what it was.
(Trivial in the model, where values are immutable; the aliasing blocks of the tie
make it bite on the pointers of the Go code.) -/
theorem C18_decode_no_aliasing (slots : List Weekly) (op : AliasOp) (j : Nat) (hj : j < slots.length)
    (hne : some j ≠ op.target) : (aliasStep slots op)[j]? = slots[j]? := by
  -- the exits of `aliasStep`: `newEmpty`, `newFull` and a `clone` of an existing slot append one (1–3); a `clone` of a missing
  -- slot changes nothing (4); a successful decode sets slot `i ≠ j` (5); a failed one changes nothing (6)
  fun_cases aliasStep slots op with
  | case1 => exact List.getElem?_append_left hj
  | case2 => exact List.getElem?_append_left hj
  | case3 k w _ => exact List.getElem?_append_left hj
  | case4 => rfl
  | case5 i w => exact List.getElem?_set_ne fun h => hne (congrArg some h.symm)
  | case6 => rfl

/-- `EmptyWeekly()` is a constant of the model and contains no instant, in any zone,
whatever was decoded before. -/
theorem C18_empty_is_empty (off : Int → Int) (t : Instant) : contains off emptyWeekly t = false := by
  exact C18_empty_covers_none off emptyWeekly _ t rfl
    (by simp only [emptyWeekly, Week.get_const]; exact Int.le_refl 0)

/-- The model passes the aliasing monitor after every operation of every history. -/
theorem C18_alias_meets_spec (slots : List Weekly) (op : AliasOp) (n : Nat) :
    specAlias slots op.target ⟨emptyWeekly.days, List.replicate n false, aliasStep slots op⟩ = none := by
  unfold specAlias
  have h1 : (emptyWeekly.days != Week.const DayRange.zero) = false := by decide +kernel
  have h2 : (List.replicate n false).any id = false := by simp
  have h3 : (List.range slots.length).any
      (fun j => some j != op.target && (aliasStep slots op)[j]? != slots[j]?) = false := by
    rw [List.any_eq_false]
    intro j hj
    have hj' : j < slots.length := List.mem_range.mp hj
    by_cases ht : some j = op.target
    · simp [ht]
    · simp [C18_decode_no_aliasing slots op j hj' ht]
  simp only [h1, h2, h3, Bool.or_self, Bool.false_eq_true, if_false]

/-! ## The model satisfies the spec monitors, for all inputs -/

/-- The monitors `specContainsOK`, `specAppliedOK`, `specValidateOK`, `specDecodeOK` and
`specRequestOK` hold of what the model computes, on every input.  The aliasing monitor
`specAlias` is `C18_alias_meets_spec`; the token-level `specDecodeTokOK`
(`Spec/ScheduleFloat.lean`) is met by no theorem, and the model does not pass it on the
tokens of `C18_counterexample_json_decode_exact` (finding F24). -/
theorem C18_model_meets_spec :
    (∀ (off : Int → Int) (w : Weekly) (t : Instant), specContainsOK off w t (contains off w t) = true) ∧
    (∀ (off : Int → Int) (w : Weekly) (t : Instant), specAppliedOK off w t (servicesApplied off w t) = true) ∧
    (∀ r : DayRange, specValidateOK r (accepted (validate r)) = true) ∧
    (∀ (yaml parseOK : Bool) (tzOK : Bytes → Bool) (c : Conf),
      (tzOK [] = true → tzOK (utcName) = true) →
      specDecodeOK parseOK (tzOK c.tz) c (modelDecode yaml parseOK tzOK c) = true) ∧
    (∀ (offG offC : Int → Int) (ops : List ReqOp) (clientSite : Bool) (now : Instant),
      specRequestOK offG offC (ops.foldl ReqState.step ReqState.init) clientSite now
        (requestApplied offG offC (ops.foldl ReqState.step ReqState.init) clientSite now) = true) := by
  refine ⟨?_, ?_, ?_, ?_, fun offG offC ops cs now => C18_request_meets_spec offG offC _ cs now⟩
  · intro off w t
    simp [specContainsOK, contains_eq_decide]
  · intro off w t
    simp [specAppliedOK, servicesApplied, contains_eq_decide]
  · intro r
    unfold specValidateOK
    cases hv : validate r with
    | ok u =>
      cases u
      simp [accepted, validate_not_mustReject r hv]
    | error e =>
      simp only [accepted, Bool.false_eq_true, if_false, Bool.not_eq_true']
      cases hm : mustAccept r with
      | false => rfl
      | true => rw [mustAccept_validate r hm] at hv; cases hv
  · intro yaml parseOK tzOK c hUTC
    unfold modelDecode
    cases parseOK with
    | false => simp [specDecodeOK]
    | true =>
      simp only [Bool.not_true, Bool.false_eq_true, if_false]
      have hc : decodeConf tzOK (if yaml = true then yamlAbsentAsZero c else c) = decodeConf tzOK c := by
        cases yaml <;> simp [decodeConf_yamlAbsentAsZero]
      rw [hc]
      cases hd : decodeConf tzOK c with
      | error e =>
        -- had every day been acceptable in a loadable zone, decoding would have succeeded
        cases hacc : (tzOK c.tz && (confDays c).toList.all mustAccept) with
        | false => simp [specDecodeOK, hacc]
        | true =>
          rw [Bool.and_eq_true] at hacc
          rw [(decodeConf_ok_iff tzOK c ⟨locName c.tz, confDays c⟩).mpr ⟨hacc.1, rfl, rfl,
            fun i => mustAccept_validate _ ((Week.all_toList _ _).mp hacc.2 i)⟩] at hd
          cases hd
      | ok w =>
        obtain ⟨h1, h2, h3, h4⟩ := C18_decode_sound tzOK c w hd
        obtain ⟨⟨dj, ej, ej'⟩, ⟨dy, ey, ey'⟩⟩ := C18_roundtrip_after_decode tzOK hUTC c w hd
        have hrt : roundTripSame yaml tzOK w = true := by
          cases yaml <;> simp [roundTripSame, ej, ej', ey, ey']
        have hnr : w.days.toList.all (fun r => !mustReject r) = true :=
          (Week.all_toList _ _).mpr fun i => by rw [validate_not_mustReject _ (h4 i)]; rfl
        have hloc : (w.loc == c.tz || (c.tz == [] && w.loc == utcName)) = true := by
          rw [h2, locName]
          by_cases he : c.tz = [] <;> simp [he]
        rw [h3] at hnr
        simp only [specDecodeOK, h1, hrt, hnr, hloc, h3, Bool.and_true, beq_self_eq_true]

/-! ## Read-back of the stored schedule (the `C18.sget` observation) -/

/-- `GET /control/blocked_services/get` after an update reads back exactly the
configuration the update carried — whatever its list of IDs, the empty list
included. -/
theorem C18_update_read_back (s : ReqState) (g : SvcConf) : (s.step (.update g)).global = g := rfl

/-- The stored pause schedule survives every history of ID-list changes (also
to and from the empty list) and client edits: only an update replaces it. -/
theorem C18_schedule_kept_until_update (s : ReqState) (ops : List ReqOp)
    (h : ∀ op ∈ ops, ∀ g, op ≠ .update g) :
    (ops.foldl ReqState.step s).global.sched = s.global.sched := by
  induction ops generalizing s with
  | nil => rfl
  | cons op ops ih =>
    simp only [List.foldl_cons]
    rw [ih (s.step op) (fun o ho => h o (List.mem_cons_of_mem _ ho))]
    cases op with
    | update g => exact absurd rfl (h (.update g) (List.mem_cons_self ..) g)
    | setIDs n => rfl
    | client c => rfl

/-- non-vacuity: a schedule set while no service is blocked is still there after services are added -/
example : ((ReqState.init.step (.update ⟨fullWeekly, 0⟩)).step (.setIDs 2)).global = ⟨fullWeekly, 2⟩ := rfl

/-! ## Translator tie: the decision core as the source states it (regenerated per run)

`extract/cmd/c18` rewrites `Gen/C18Schedule.lean` from the typed syntax of
`internal/schedule/schedule.go`: `dayRange.validate` as a decision table,
`dayRange.contains` as a list of conjuncts, and the skeleton of
`(*Weekly).Contains`.  The tables are INTERPRETED here and proved equal to the
model's functions for every day range and offset, so a changed comparison,
bound or case order in the source breaks a theorem, not just a sample. -/

namespace T

def term (r : DayRange) (off : Int) (s : String) : Option Int :=
  if s = "r.start" then some r.start
  else if s = "r.end" then some r.stop
  else if s = "offset" then some off
  else if s = "0" then some 0
  else if s = "maxDayRange" then some Gen.C18.maxDayRange
  else none

def cmpOp (s : String) : Option (Int → Int → Bool) :=
  if s = "<" then some (fun a b => decide (a < b))
  else if s = "<=" then some (fun a b => decide (a ≤ b))
  else if s = ">" then some (fun a b => decide (a > b))
  else if s = ">=" then some (fun a b => decide (a ≥ b))
  else if s = "==" then some (fun a b => decide (a = b))
  else if s = "!=" then some (fun a b => decide (a ≠ b))
  else none

def evalCmp (r : DayRange) (off : Int) (l op rhs : String) : Option Bool :=
  match term r off l, cmpOp op, term r off rhs with
  | some a, some f, some b => some (f a b)
  | _, _, _ => none

/-- A tagless `switch` whose bodies are `return nil` / `return <error>`: the
first case whose guard holds decides; the result is "returns an error".  A
table without a `default` that falls off the end does not evaluate. -/
def evalSwitch (r : DayRange) : List (String × String × String × Bool) → Option Bool
  | [] => none
  | (l, op, rhs, e) :: rest =>
    if op = "default" then some e
    else if l = "r" ∧ op = "==" ∧ rhs = "dayRange{}" then
      (if r = DayRange.zero then some e else evalSwitch r rest)
    else
      match evalCmp r 0 l op rhs with
      | some true => some e
      | some false => evalSwitch r rest
      | none => none

def evalConj (r : DayRange) (off : Int) : List (String × String × String) → Option Bool
  | [] => some true
  | (l, op, rhs) :: rest =>
    match evalCmp r off l op rhs, evalConj r off rest with
    | some a, some b => some (a && b)
    | _, _ => none

theorem evalSwitch_cons (r : DayRange) (l op rhs : String) (e : Bool)
    (rest : List (String × String × String × Bool)) :
    evalSwitch r ((l, op, rhs, e) :: rest) =
      if op = "default" then some e
      else if l = "r" ∧ op = "==" ∧ rhs = "dayRange{}" then
        (if r = DayRange.zero then some e else evalSwitch r rest)
      else (evalCmp r 0 l op rhs).bind fun b => if b then some e else evalSwitch r rest := by
  rw [evalSwitch]
  cases evalCmp r 0 l op rhs with
  | none => rfl
  | some b => cases b <;> rfl

end T

/-- `dayRange.validate` AS WRITTEN IN THE SOURCE rejects exactly the day ranges
the model's `DayRange.validate` rejects — for every day range. -/
theorem C18_T_validate_table_is_model (r : DayRange) :
    T.evalSwitch r Gen.C18.validateCases =
      some (match r.validate with | .ok _ => false | .error _ => true) := by
  have hm : Gen.C18.maxDayRange = maxDayRange := by decide +kernel
  -- the verdict, pushed through the `if`s of the model, is a cascade of `some true`/`some false`
  simp only [DayRange.validate, apply_ite some,
    apply_ite (fun x : Except VErr Unit => match x with | .ok _ => false | .error _ => true)]
  -- and the table, walked row by row, is the same cascade.  `↓`: a string test is
  -- decided before its branches are looked at (they hold the rest of the table twice)
  simp only [Gen.C18.validateCases, T.evalSwitch_cons, T.evalCmp, T.term, T.cmpOp, hm, String.reduceEq,
    ↓reduceIte, and_self, Option.bind_some, decide_eq_true_eq]

/-- `dayRange.contains` as written is the model's half-open interval test. -/
theorem C18_T_contains_table_is_model (r : DayRange) (off : Int) :
    T.evalConj r off Gen.C18.containsConj = some (r.contains off) := by
  simp [Gen.C18.containsConj, T.evalConj, T.evalCmp, T.term, T.cmpOp, DayRange.contains]

/-- The skeleton of `(*Weekly).Contains` is the model's `contains`: the time is
converted to the schedule's zone FIRST; afterwards only its weekday, clock and
nanosecond are read (no elapsed-time arithmetic, no function of package time:
what finding F8 and seed C01-9 broke); the offset sums hours, minutes and
seconds with the model's units; the day is picked by the converted weekday. -/
theorem C18_T_contains_skeleton :
    Gen.C18.containsConvertsFirst = true ∧
      Gen.C18.timeMethods = ["Weekday", "Clock", "Nanosecond"] ∧
      Gen.C18.timeFuncs = [] ∧
      Gen.C18.offsetUnits = [nsPerHour, nsPerMinute, nsPerSec] ∧
      Gen.C18.dayByLocalWeekday = true ∧
      Gen.C18.maxDayRange = maxDayRange := by
  decide +kernel

/-- non-vacuity: the interpreter distinguishes tables — with `>=` for the end
bound a full day would be rejected -/
example : T.evalSwitch ⟨0, maxDayRange⟩
    [("r.start", ">=", "r.end", true), ("r.end", ">=", "maxDayRange", true), ("", "default", "", false)] =
    some true := by decide +kernel
example : T.evalSwitch ⟨0, maxDayRange⟩ Gen.C18.validateCases = some false :=
  (C18_T_validate_table_is_model _).trans (by decide +kernel)
example : T.evalSwitch ⟨0, 1⟩ [("r.start", "<", "nonsense", true)] = none := by decide +kernel

end AGH.C18
