/-
C09 — statistics totals equal the queries counted inside the retention window.

Setting.  `State`/`step`/`getData` (AGH/Model/Stats.lean) transcribe
internal/stats; `Ghost`/`ghostStep`/`specOK` (AGH/Spec/Stats.lean) are the
property's own record of what was counted when.  A history is any list of
`Op`s (updates of any result code / validity in bursts, hour advances of any
size — with the rollover (`tick`) or with the clock moving on unnoticed
(`advance`: updates, reads, configuration changes, clears and a shutdown can all
happen before the flush sees the new hour) —, clean restarts with any accepted
limit, limit changes through either configuration API, clears, reads) applied
to a fresh start `new [] clock limit enabled`.  The ghost's `dom` flag is the
property's domain: Unix hours `8761 ≤ h < 2^32`, clock never going backwards.
-/
import AGH.Lemmas.StatsSpecOK
import AGH.Lemmas.StatsFixed
import AGH.Lemmas.StatsBalance
namespace AGH.C09

/-- After EVERY history (hence after every step of it) the model's answer to
GET /control/stats satisfies the spec monitor: inside the domain, each of the
five totals lies between the counted queries that stayed inside every window
in force and the counted queries inside the current window; hourly series sum
to the totals and carry each query in the slot of its hour; daily series never
exceed the totals; the read does not fail. -/
theorem C09_model_meets_spec (clock limitMs : Nat) (enabled : Bool) (ops : List Op) (s0 s : State)
    (hnew : new [] clock limitMs enabled = some s0) (hrun : runOps s0 ops = some s) :
    specOK (ghostRun (Ghost.init clock limitMs enabled) ops) (getData s) = true := by
  cases hd : (ghostRun (Ghost.init clock limitMs enabled) ops).dom with
  | false => simp [specOK, hd]
  | true => exact getData_specOK (inv_run ops (inv_init hnew (dom_run hd)) hrun hd)

/-- Conservation.  If no counted query of the current window was ever outside
the window in force (`AllKept`), the reported total and every reported
category are EXACTLY the counted queries whose hour is inside the window —
whatever the rollovers, gaps, restarts and clears before. -/
theorem C09_conservation (clock limitMs : Nat) (enabled : Bool) (ops : List Op) (s0 s : State)
    (hnew : new [] clock limitMs enabled = some s0) (hrun : runOps s0 ops = some s)
    (hdom : (ghostRun (Ghost.init clock limitMs enabled) ops).dom = true)
    (hkept : AllKept (ghostRun (Ghost.init clock limitMs enabled) ops)) :
    ∃ r, getData s = .ok r ∧
      r.numDNSQueries = upper (ghostRun (Ghost.init clock limitMs enabled) ops) .total ∧
      r.numBlockedFiltering = upper (ghostRun (Ghost.init clock limitMs enabled) ops) (.cat 2) ∧
      r.numReplacedSafebrowsing = upper (ghostRun (Ghost.init clock limitMs enabled) ops) (.cat 3) ∧
      r.numReplacedSafesearch = upper (ghostRun (Ghost.init clock limitMs enabled) ops) (.cat 4) ∧
      r.numReplacedParental = upper (ghostRun (Ghost.init clock limitMs enabled) ops) (.cat 5) := by
  have hi := inv_run ops (inv_init hnew (dom_run hdom)) hrun hdom
  obtain ⟨r, hr, ha, _, _⟩ := getData_ok hi
  exact ⟨r, hr, ha.numDNSQueries.trans (total_eq_upper hi hkept .total),
    ha.numBlockedFiltering.trans (total_eq_upper hi hkept (.cat 2)),
    ha.numReplacedSafebrowsing.trans (total_eq_upper hi hkept (.cat 3)),
    ha.numReplacedSafesearch.trans (total_eq_upper hi hkept (.cat 4)),
    ha.numReplacedParental.trans (total_eq_upper hi hkept (.cat 5))⟩

/-- Conservation without a ghost hypothesis: in every history whose operations
leave the retention limit alone (`keepsLimit`: any updates, hour advances with
any gaps, restarts with the same limit, clears, reads, rejected configuration
requests) the totals are exactly the counted queries of the window. -/
theorem C09_conservation_fixed_limit (clock limitMs : Nat) (enabled : Bool) (ops : List Op) (s0 s : State)
    (hnew : new [] clock limitMs enabled = some s0) (hrun : runOps s0 ops = some s)
    (hdom : (ghostRun (Ghost.init clock limitMs enabled) ops).dom = true)
    (hfix : ∀ op ∈ ops, keepsLimit (limitMs / msPerHour) op) :
    ∃ r, getData s = .ok r ∧
      r.numDNSQueries = upper (ghostRun (Ghost.init clock limitMs enabled) ops) .total ∧
      r.numBlockedFiltering = upper (ghostRun (Ghost.init clock limitMs enabled) ops) (.cat 2) ∧
      r.numReplacedSafebrowsing = upper (ghostRun (Ghost.init clock limitMs enabled) ops) (.cat 3) ∧
      r.numReplacedSafesearch = upper (ghostRun (Ghost.init clock limitMs enabled) ops) (.cat 4) ∧
      r.numReplacedParental = upper (ghostRun (Ghost.init clock limitMs enabled) ops) (.cat 5) :=
  C09_conservation clock limitMs enabled ops s0 s hnew hrun hdom
    (ak_run ops rfl (ak_init clock limitMs enabled) hfix hdom).allKept

/-- Series, for EVERY state (reachable or not), every current hour and every
limit — including the ids where `curID - limit + 1` wraps around 2^32: the
read never panics (`loadUnits` length check, the daily slice bounds and every
series index are in range); hourly series have one slot per hour of the limit
and sum to the totals; daily series never exceed the totals. -/
theorem C09_series (s : State) (hid : s.curr.id < U32) (h1 : 1 ≤ s.limitHours) (h2 : s.limitHours < U32) :
    ∃ r, getData s = .ok r ∧
      (r.days = false →
        r.dnsQueries.sum = r.numDNSQueries ∧ r.blockedFiltering.sum = r.numBlockedFiltering ∧
        r.replacedSafebrowsing.sum = r.numReplacedSafebrowsing ∧ r.replacedParental.sum = r.numReplacedParental ∧
        r.dnsQueries.length = s.limitHours) ∧
      (r.days = true →
        r.dnsQueries.sum ≤ r.numDNSQueries ∧ r.blockedFiltering.sum ≤ r.numBlockedFiltering ∧
        r.replacedSafebrowsing.sum ≤ r.numReplacedSafebrowsing ∧ r.replacedParental.sum ≤ r.numReplacedParental ∧
        r.dnsQueries.length = s.limitHours / 24) := by
  obtain ⟨r, hr, ha⟩ := getData_spec s hid h1 h2
  have hlen := unitsOf_length s s.limitHours hid h1 h2
  refine ⟨r, hr, fun hdays => ?_, fun hdays => ?_⟩
  · have hh := of_decide_eq_false (ha.days ▸ hdays)
    exact ⟨(ha.dnsQueries.sum_hourly hh).trans ha.numDNSQueries.symm,
      (ha.blockedFiltering.sum_hourly hh).trans ha.numBlockedFiltering.symm,
      (ha.replacedSafebrowsing.sum_hourly hh).trans ha.numReplacedSafebrowsing.symm,
      (ha.replacedParental.sum_hourly hh).trans ha.numReplacedParental.symm,
      by rw [ha.dnsQueries.hourly hh, List.length_map, hlen]⟩
  · exact ⟨ha.numDNSQueries ▸ ha.dnsQueries.sum_le, ha.numBlockedFiltering ▸ ha.blockedFiltering.sum_le,
      ha.numReplacedSafebrowsing ▸ ha.replacedSafebrowsing.sum_le,
      ha.numReplacedParental ▸ ha.replacedParental.sum_le,
      (ha.dnsQueries.daily _ hlen (hlen ▸ of_decide_eq_true (ha.days ▸ hdays))).1⟩

/-- Hourly series sum to the totals.  For EVERY state, current hour and
retention interval below 192 h (8 days; intervals are any number of
milliseconds from 1 h, `limitHours` is its whole hours): the answer is in
hours, has one slot per hour of the interval, the queries series is the
per-hour value of the units the window consists of (oldest first, the current
unit last), and each of the four series adds up exactly to its total. -/
theorem C09_hourly_sums_to_total (s : State) (hid : s.curr.id < U32) (h1 : 1 ≤ s.limitHours)
    (hh : s.limitHours < 192) :
    ∃ r, getData s = .ok r ∧ r.days = false ∧ r.dnsQueries.length = s.limitHours ∧
      r.dnsQueries = (storedUnits s s.limitHours ++ [s.curr.serialize]).map (·.nTotal) ∧
      r.dnsQueries.sum = r.numDNSQueries ∧ r.blockedFiltering.sum = r.numBlockedFiltering ∧
      r.replacedSafebrowsing.sum = r.numReplacedSafebrowsing ∧ r.replacedParental.sum = r.numReplacedParental := by
  have h2 : s.limitHours < U32 := Nat.lt_trans hh (by decide)
  obtain ⟨r, hr, ha⟩ := getData_spec s hid h1 h2
  have hlen := unitsOf_length s s.limitHours hid h1 h2
  have hhours : ¬ (unitsOf s s.limitHours).length / 24 > 7 := by rw [hlen]; omega
  exact ⟨r, hr, ha.days.trans (decide_eq_false hhours),
    by rw [ha.dnsQueries.hourly hhours, List.length_map, hlen], ha.dnsQueries.hourly hhours,
    (ha.dnsQueries.sum_hourly hhours).trans ha.numDNSQueries.symm,
    (ha.blockedFiltering.sum_hourly hhours).trans ha.numBlockedFiltering.symm,
    (ha.replacedSafebrowsing.sum_hourly hhours).trans ha.numReplacedSafebrowsing.symm,
    (ha.replacedParental.sum_hourly hhours).trans ha.numReplacedParental.symm⟩

/-- Daily series never exceed the totals — and exactly by how much they fall
short.  For EVERY state, current hour and interval of 192 h or more: the answer
is in days with `limitHours / 24` slots; the series are filled from the
day-aligned tail of the window (its last `countHours` hours: whole days plus
the hours of the current day so far), position `p` of the tail going to day
`p / 24` (stated slot by slot for the queries series); the head of `skipped`
oldest hours (fewer than 48) is in the totals but in no day.  So
`sum(series) + (what was counted in the skipped head) = total`,
with equality of series and total iff nothing was counted in those hours. -/
theorem C09_daily_le_total (s : State) (hid : s.curr.id < U32) (h2 : s.limitHours < U32)
    (hd : 192 ≤ s.limitHours) :
    ∃ r, getData s = .ok r ∧ r.days = true ∧ r.dnsQueries.length = s.limitHours / 24 ∧
      (let units := storedUnits s s.limitHours ++ [s.curr.serialize]
       let skipped := s.limitHours - countHours s.curr.id (s.limitHours / 24)
       skipped < 48 ∧
       r.dnsQueries.sum + sumBy (·.nTotal) (units.take skipped) = r.numDNSQueries ∧
       r.blockedFiltering.sum + sumBy (·.nResult 2) (units.take skipped) = r.numBlockedFiltering ∧
       r.replacedSafebrowsing.sum + sumBy (·.nResult 3) (units.take skipped) = r.numReplacedSafebrowsing ∧
       r.replacedParental.sum + sumBy (·.nResult 5) (units.take skipped) = r.numReplacedParental ∧
       ∀ j, r.dnsQueries.getD j 0 = slotSum (·.nTotal) (· / 24) (units.drop skipped) 0 j) := by
  have h1 : 1 ≤ s.limitHours := by omega
  obtain ⟨r, hr, ha⟩ := getData_spec s hid h1 h2
  have hlen := unitsOf_length s s.limitHours hid h1 h2
  have hdays : s.limitHours / 24 > 7 := by omega
  obtain ⟨lq, xq, gq⟩ := ha.dnsQueries.daily _ hlen hdays
  refine ⟨r, hr, ha.days.trans (decide_eq_true (hlen.symm ▸ hdays)), lq,
    countHours_skipped s.curr.id s.limitHours (by omega), xq.trans ha.numDNSQueries.symm,
    ((ha.blockedFiltering.daily _ hlen hdays).2.1).trans ha.numBlockedFiltering.symm,
    ((ha.replacedSafebrowsing.daily _ hlen hdays).2.1).trans ha.numReplacedSafebrowsing.symm,
    ((ha.replacedParental.daily _ hlen hdays).2.1).trans ha.numReplacedParental.symm, gq⟩

/-- The time unit of the answer depends on the interval only: days from 192 h
(8 × 24) on, hours below — so 7 days are shown as 168 hourly slots, 30 days as
30 daily ones. -/
theorem C09_time_units (s : State) (hid : s.curr.id < U32) (h1 : 1 ≤ s.limitHours) (h2 : s.limitHours < U32) :
    ∃ r, getData s = .ok r ∧ r.days = decide (192 ≤ s.limitHours) := by
  obtain ⟨r, hr, ha⟩ := getData_spec s hid h1 h2
  refine ⟨r, hr, ?_⟩
  rw [ha.days, unitsOf_length s s.limitHours hid h1 h2]
  exact decide_eq_decide.mpr (by omega)

/-- A clean restart in the same hour with the same limit in hours (Close, then
New on the same file) brings back the current unit with all its counters and
changes nothing that GET /control/stats reports — for every state of the
domain, reachable or not. -/
theorem C09_restart_same_hour (s s' : State) (ms : Nat) (en : Bool)
    (hlo : minHour ≤ s.curr.id) (hhi : s.curr.id < U32) (hl : ms / msPerHour = s.limitHours)
    (hr : restart s s.curr.id ms en = some s') :
    s'.curr = s.curr ∧ getData s' = getData s := by
  have hs := restart_spec hlo hhi hr
  have hrange := validIvl_range hs.ivl
  simp only [minHour] at hlo
  have hcur' : s'.curr = s.curr := by
    rw [hs.curr, hs.get _ (Nat.le_trans (Nat.sub_le _ _) (Nat.sub_le _ _)), if_pos rfl]
    rfl
  have hl' : s'.limitHours = s.limitHours := by rw [State.limitHours, hs.limit, hl]
  have h1 : 1 ≤ s.limitHours := hl ▸ hrange.1
  have h2 : s.limitHours < U32 := hl ▸ Nat.lt_of_le_of_lt hrange.2 (by decide)
  refine ⟨hcur', ?_⟩
  rw [getData_eq s' (hcur' ▸ hhi) (hl' ▸ h1) (hl' ▸ h2), getData_eq s hhi h1 h2, hl', hcur']
  refine congrArg (dataFromUnits · s.curr.id) (unitsOf_congr s' s _ (congrArg (·.id) hcur') (hcur' ▸ hhi) h1
    (by rw [hcur']; omega) fun h hge _ => hs.unitAt ?_)
  rw [hcur'] at hge
  omega

/-- The parts of a restart.  `Close` stores the in-memory unit under THE UNIT'S
hour, whatever hour the clock shows at shutdown (the once-a-second flush may
not have rotated it yet), and touches no other bucket; a restart is `Close`,
time passing, `New` at the hour the clock shows then. -/
theorem C09_close_keeps_own_hour (s : State) (h : Nat) :
    (closeOp (advance s h)).db.get s.curr.id = some s.curr.serialize ∧
    (∀ k, k ≠ s.curr.id → (closeOp (advance s h)).db.get k = s.db.get k) ∧
    ∀ id l en, openOp (advance (closeOp (advance s h)) id) l en = restart s id l en := by
  refine ⟨?_, ?_, fun _ _ _ => rfl⟩
  · simp [closeOp, advance, close, DB.get_put]
  · intro k hk
    have : ¬ s.curr.id = k := fun x => hk x.symm
    simp [closeOp, advance, close, DB.get_put, this]

/-- `New` reads the clock once: the opened state depends on the clock only
through that one hour value (the hour it prunes by, loads the stored unit of,
and gives the current unit). -/
theorem C09_open_single_clock_read (s1 s2 : State) (l : Nat) (en : Bool)
    (hdb : s1.db = s2.db) (hclock : s1.clock = s2.clock) : openOp s1 l en = openOp s2 l en := by
  simp only [openOp, hdb, hclock]

/-- A clean restart at a later hour keeps the previous current unit
addressable under its own hour as long as that hour is not older than the new
window (and one hour of slack). -/
theorem C09_restart_later (s s' : State) (id ms : Nat) (en : Bool)
    (hlo : minHour ≤ id) (hhi : id < U32) (hlater : s.curr.id < id)
    (hwin : id ≤ s.curr.id + ms / msPerHour + 1)
    (hr : restart s id ms en = some s') :
    s'.db.get s.curr.id = some s.curr.serialize ∧ s'.curr.id = id := by
  have hs := restart_spec hlo hhi hr
  exact ⟨by rw [hs.get _ (by omega), if_pos rfl], hs.curr_id⟩

/-- Queries older than the window are not reported: if every counted query's
hour is outside the current window, all five totals are zero. -/
theorem C09_old_not_reported (clock limitMs : Nat) (enabled : Bool) (ops : List Op) (s0 s : State)
    (hnew : new [] clock limitMs enabled = some s0) (hrun : runOps s0 ops = some s)
    (hdom : (ghostRun (Ghost.init clock limitMs enabled) ops).dom = true)
    (hold : ∀ e ∈ (ghostRun (Ghost.init clock limitMs enabled) ops).evs,
      inWindow (ghostRun (Ghost.init clock limitMs enabled) ops).now
        (ghostRun (Ghost.init clock limitMs enabled) ops).limit e.hour = false) :
    ∃ r, getData s = .ok r ∧ r.numDNSQueries = 0 ∧ r.numBlockedFiltering = 0 ∧
      r.numReplacedSafebrowsing = 0 ∧ r.numReplacedSafesearch = 0 ∧ r.numReplacedParental = 0 := by
  have hk : AllKept (ghostRun (Ghost.init clock limitMs enabled) ops) := by
    intro e he hw; rw [hold e he] at hw; cases hw
  obtain ⟨r, hr, t1, t2, t3, t4, t5⟩ := C09_conservation clock limitMs enabled ops s0 s hnew hrun hdom hk
  have hz : ∀ sel : Sel, upper (ghostRun (Ghost.init clock limitMs enabled) ops) sel = 0 := by
    intro sel
    unfold upper
    apply cnt_false
    intro e he
    simp [hold e he]
  exact ⟨r, hr, by rw [t1, hz], by rw [t2, hz], by rw [t3, hz], by rw [t4, hz], by rw [t5, hz]⟩

/-- An update the property does not count (statistics disabled, result code 0
or ≥ 6, empty domain or client, or the negative result code on which
`Update` panics) changes nothing; a counted burst of `n` adds exactly `n` to
the total and to its one category of the current unit. -/
theorem C09_update_once (s : State) (e : Entry) (n : Nat) (hl : s.limit ≠ 0) :
    ((s.enabled && decide (1 ≤ e.result) && decide (e.result ≤ 5) && !e.domainEmpty && !e.clientEmpty) = false →
      (updateN s e n).1 = s) ∧
    ((s.enabled && decide (1 ≤ e.result) && decide (e.result ≤ 5) && !e.domainEmpty && !e.clientEmpty) = true →
      (updateN s e n).2 = 0 ∧ (updateN s e n).1.curr.nTotal = s.curr.nTotal + n ∧
      (updateN s e n).1.db = s.db ∧ (updateN s e n).1.curr.id = s.curr.id ∧
      ∀ c, (updateN s e n).1.curr.nResult c = s.curr.nResult c + (if c = e.result.toNat then n else 0)) := by
  refine ⟨updateN_not_counted s e n, fun h => ?_⟩
  rw [updateN_counted s e n hl h]
  exact ⟨rfl, rfl, rfl, rfl, fun c => by by_cases hc : c = e.result.toNat <;> simp [MemUnit.count, hc]⟩

/-- Exactly one result category per counted query, for EVERY history (inside
the domain or not): in the current unit the total is the sum of the five
categories, and the four category totals the API reports never add up to more
than the reported total. -/
theorem C09_one_category (clock limitMs : Nat) (enabled : Bool) (ops : List Op) (s0 s : State)
    (hnew : new [] clock limitMs enabled = some s0) (hrun : runOps s0 ops = some s)
    (hid : s.curr.id < U32) (h1 : 1 ≤ s.limitHours) (h2 : s.limitHours < U32) :
    s.curr.nTotal = s.curr.nResult 1 + s.curr.nResult 2 + s.curr.nResult 3 + s.curr.nResult 4 + s.curr.nResult 5 ∧
    ∃ r, getData s = .ok r ∧
      r.numBlockedFiltering + r.numReplacedSafebrowsing + r.numReplacedSafesearch + r.numReplacedParental
        ≤ r.numDNSQueries := by
  have hb : BalState s := bal_run ops (bal_new (fun x hx => by simp at hx) hnew) hrun
  obtain ⟨r, hr, ha⟩ := getData_spec s hid h1 h2
  refine ⟨hb.1, r, hr, ?_⟩
  rw [ha.numDNSQueries, ha.numBlockedFiltering, ha.numReplacedSafebrowsing, ha.numReplacedSafesearch,
    ha.numReplacedParental, sum_bal _ (bal_units hb s.limitHours)]
  omega

/-- Outside the domain: why `minHour` is needed.  `New` computes `id - limit - 1`
on uint32.  In an hour of 1970 the result wraps, `deleteOldUnits` deletes every
bucket — including the one `Close` has just written — and a clean restart in
the same hour loses the current counters.
The model transcribes this; the property's domain excludes it. -/
theorem C09_outside_domain_restart_wipes :
    ∃ s : State, s.curr.nTotal = 3 ∧
      (restart s s.curr.id (24 * msPerHour) true).map (·.curr.nTotal) = some 0 :=
  ⟨⟨[], ⟨5, 3, fun i => if i = 1 then 3 else 0⟩, 24 * msPerHour, true, 5⟩, rfl, by decide⟩

/-- The lower end of the domain is not an artefact of the proof: 8761 is the
first hour at which EVERY accepted interval is safe.  One hour earlier, with the
longest interval (365 d), `New` computes `id - limit - 1 = 2^32 - 1`, deletes
every bucket and a clean restart in the same hour loses the current counters
(at 8761 it keeps them: `C09_restart_same_hour`). -/
theorem C09_lower_horizon_tight :
    ∃ s : State, s.curr.id = 8760 ∧ s.curr.nTotal = 3 ∧ validIvl s.limit = true ∧
      (restart s s.curr.id s.limit true).map (·.curr.nTotal) = some 0 :=
  ⟨⟨[], ⟨8760, 3, fun i => if i = 1 then 3 else 0⟩, 8760 * msPerHour, true, 8760⟩, rfl, rfl, by decide, by decide⟩

/-- Inside the domain every hour the module or the clock is at lies in
`[8761, 2^32)`, the module is never ahead of the clock, and the current unit is
the unit of the module's hour.  The upper end is the `uint32` horizon of unit
ids (hour 2^32 - 1 is in the year 491 936): up to and including it nothing
changes; the generator cannot produce a later hour, it would wrap to 0, which
is a clock going backwards (next theorem). -/
theorem C09_hour_horizon (clock limitMs : Nat) (enabled : Bool) (ops : List Op) (s0 s : State)
    (hnew : new [] clock limitMs enabled = some s0) (hrun : runOps s0 ops = some s)
    (hdom : (ghostRun (Ghost.init clock limitMs enabled) ops).dom = true) :
    let g := ghostRun (Ghost.init clock limitMs enabled) ops
    minHour ≤ g.now ∧ g.now ≤ g.clock ∧ g.clock < U32 ∧ s.curr.id = g.now ∧ s.clock = g.clock := by
  have hi := inv_run ops (inv_init hnew (dom_run hdom)) hrun hdom
  exact ⟨hi.lo, hi.nowClock, hi.chi, hi.cur, hi.clock⟩

/-- What the code does when the clock goes BACK (manual clock change; Unix hours
have no DST): the flush rotates on `ptr.id != id`, so it starts a fresh unit
for the earlier hour although a bucket of that hour is already stored; the
stored bucket is shadowed and, at the next rotation, overwritten.  Here: 3
queries in hour 500000, rollover to 500001, clock back to 500000, 1 query,
forward again — the window holds 4 counted queries, 1 is reported.  Such
histories are outside the domain (`dom = false`).  What survives for EVERY
history, whatever the clock does, is `C09_one_category` (each counted query is
in the total once and in exactly one category) and `C09_series`. -/
theorem C09_counterexample_clock_back :
    let ops : List Op := [.upd ⟨2, false, false⟩ 3, .tick 500001, .tick 500000, .upd ⟨2, false, false⟩ 1, .tick 500001]
    let g := ghostRun (Ghost.init 500000 (24 * msPerHour) true) ops
    g.dom = false ∧ upper g .total = 4 ∧
    ∃ s0 s, new [] 500000 (24 * msPerHour) true = some s0 ∧ runOps s0 ops = some s ∧
      (getData s).toOption.map (·.numDNSQueries) = some 1 := by
  refine ⟨by decide +kernel, by decide +kernel, _, _, rfl, rfl, by decide +kernel⟩

/-- A concrete in-domain history with a fixed limit of 24 h: 3 blocked + 2
plain queries at hour 500000, rollover, 4 safe-search queries, a gap of 30 h
(everything so far leaves the window), 1 parental query, restart in the same
hour.  The domain flag holds, every op keeps the limit, and the run exists. -/
def exHistory : List Op :=
  [.upd ⟨2, false, false⟩ 3, .upd ⟨1, false, false⟩ 2, .tick 500001, .upd ⟨4, false, false⟩ 4,
   .read, .tick 500031, .upd ⟨5, false, false⟩ 1, .restart 500031 (24 * msPerHour) true]

example : (ghostRun (Ghost.init 500000 (24 * msPerHour) true) exHistory).dom = true := by decide

example : ∀ op ∈ exHistory, keepsLimit (24 * msPerHour / msPerHour) op := by
  intro op hop
  simp only [exHistory, List.mem_cons, List.not_mem_nil, or_false] at hop
  rcases hop with h | h | h | h | h | h | h | h <;> subst h <;> simp [keepsLimit, msPerHour]

example : ∃ s0 s, new [] 500000 (24 * msPerHour) true = some s0 ∧ runOps s0 exHistory = some s ∧
    s.curr.nTotal = 1 ∧ s.db.length = 1 := by
  refine ⟨_, _, rfl, rfl, ?_, ?_⟩ <;> decide +kernel

/-- The missed-rollover shutdown: 3 queries in hour 500000, the clock moves 30 h
on without a flush, more queries are counted (still in the unit of hour 500000),
shutdown, start.  Inside the domain; after the restart nothing is inside the
24 h window any more. -/
def exLag : List Op :=
  [.upd ⟨2, false, false⟩ 3, .advance 500030, .upd ⟨1, false, false⟩ 2, .read, .restart 500030 (24 * msPerHour) true]

example : (ghostRun (Ghost.init 500000 (24 * msPerHour) true) exLag).dom = true ∧
    upper (ghostRun (Ghost.init 500000 (24 * msPerHour) true) (exLag.take 4)) .total = 5 ∧
    upper (ghostRun (Ghost.init 500000 (24 * msPerHour) true) exLag) .total = 0 := by decide

example : ∃ s0 s, new [] 500000 (24 * msPerHour) true = some s0 ∧ runOps s0 exLag = some s ∧
    s.curr.id = 500030 ∧ s.curr.nTotal = 0 ∧ (s.db.get 500000).map (·.nTotal) = none := by
  refine ⟨_, _, rfl, rfl, ?_, ?_, ?_⟩ <;> decide +kernel

/-- `upper` is a genuine count: after the first four ops of `exHistory` the
window holds 9 queries, 3 of them blocked; after the gap only the last one. -/
example : upper (ghostRun (Ghost.init 500000 (24 * msPerHour) true) (exHistory.take 4)) .total = 9 ∧
    upper (ghostRun (Ghost.init 500000 (24 * msPerHour) true) (exHistory.take 4)) (.cat 2) = 3 ∧
    upper (ghostRun (Ghost.init 500000 (24 * msPerHour) true) exHistory) .total = 1 := by decide

/-- `AllKept` can fail (so `C09_conservation` is not `C09_model_meets_spec` in
disguise): shrink the limit to 1 h, grow it back — the older queries are inside
the window again but were outside in between. -/
example : ¬ AllKept (ghostRun (Ghost.init 500000 (24 * msPerHour) true)
    [.upd ⟨1, false, false⟩ 2, .tick 500003, .putConf msPerHour true, .putConf (24 * msPerHour) true]) := by
  unfold AllKept
  decide +kernel

end AGH.C09
