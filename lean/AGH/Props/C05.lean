/-
C05 — reconfiguring the live server never races with, crashes or stalls DNS
serving.

What is proved here, and of what:

* GENERIC, full strength (every program, any number of goroutines, every
  interleaving of the abstract machine of `AGH.Model.Locks`, which has Go's
  Mutex/RWMutex blocking rules including the pending-writer rule):
    `C05_lockset_sound`   lockset discipline  ⇒ no reachable data race
    `C05_order_sound`     ranked lock order   ⇒ no reachable deadlock
    `C05_no_wait_cycle`   ranked lock order   ⇒ no wait-for cycle in any reachable state
    `C05_order_sound_gated`, `C05_no_wait_cycle_gated`  the same with GATE locks: a lock
                          that is only taken under its gate (bbolt's single-writer lock of the
                          statistics database under `StatsCtx.confMu`) may be taken out of rank
                          order by a goroutine that holds the gate exclusively; leaf holds
                          (released at once) may omit the gate
    `C05_model_meets_spec` the executable runner used by the driver satisfies the
                          schedule monitor for every program and schedule.
* PER PROGRAM (tables regenerated from the Go source by /verif/extract/cmd/c05,
  re-checked by `decide +kernel` on every run):
    `C05_program_disciplined_partial`, `C05_program_ranked`, `C05_program_gated` and their
    consequences `C05_program_race_free_partial`,
    `C05_program_deadlock_free` for every set of goroutines that
    conforms to the tables (the explicit statement of what the extractor is
    trusted for).

The lock-order statements are FULL: R4, R5 and R11 are repaired in the tree
(`C05_program_lock_order`, `C05_program_deadlock_free`; the counterexample on the
edges of the tree before the repairs is `C05_counterexample_lock_order_before_fix`).
The full access statement
    theorem C05_program_disciplined : accesses.all (rowOK guards) = true
is FALSE: `C05_counterexample_known_rows` proves the negation on the 20
rows of the one finding left (R7 rest: request-path reads of Server fields that
only Reconfigure > Prepare rewrites; listed in known_findings.txt under the
reason class `static:known-rows:R7:…`, printed on every run).  The `_partial`
theorems cover the goroutines that never execute one of those sites.

Not covered by any theorem (named in DESIGN §2 C05): panics from logic,
well-formedness and latency of responses, channel protocols, atomics,
scheduler fairness; these are only observed by the stress harness (`specRun`).
-/
import AGH.Lemmas.LocksExamples
import AGH.Lemmas.LocksGateExamples
import AGH.Lemmas.LocksChan
import AGH.Gen.C05Locks
namespace AGH.C05
open AGH.Gen.C05

/-- Eraser discipline is sufficient: if along every goroutine each read of `x`
happens with `guard x` held (in any mode) and each write with `guard x` held
exclusively, no interleaving reaches a state where two goroutines are about to
access the same variable, one of them writing. -/
theorem C05_lockset_sound (guard : Var → Lock) (p : Prog) (h : progDisc guard p = true) :
    ∀ s, Reach (init p) s → ¬ Race s :=
  lockset_sound guard p h

/-- Ranked lock order is sufficient: if every goroutine acquires a lock only
while all locks it holds have a smaller rank, releases only what it holds and
ends holding nothing, then no interleaving — including every placement of a
pending writer's announcement — reaches a state in which some goroutine has
work left and none can move. -/
theorem C05_order_sound (rank : Lock → Nat) (p : Prog) (h : progRanked rank p = true) :
    ∀ s, Reach (init p) s → ¬ Deadlock s :=
  order_sound rank p h

/-- … and no reachable state contains a wait-for cycle. -/
theorem C05_no_wait_cycle (rank : Lock → Nat) (p : Prog) (h : progRanked rank p = true) :
    ∀ s, Reach (init p) s → ∀ i, ¬ WaitChain s i i :=
  no_wait_cycle rank p h

/-- Ranked lock order with gate locks is sufficient for deadlock freedom: a
lock whose every (non-leaf) acquisition is made under its gate may be acquired
out of rank order by a goroutine that holds the gate exclusively. -/
theorem C05_order_sound_gated (rank : Lock → Nat) (gate : Lock → Option Lock) (p : Prog)
    (h : progRankedG rank gate p = true) : ∀ s, Reach (init p) s → ¬ Deadlock s :=
  order_sound_gated rank gate p h

/-- … and for the absence of wait-for cycles. -/
theorem C05_no_wait_cycle_gated (rank : Lock → Nat) (gate : Lock → Option Lock) (p : Prog)
    (h : progRankedG rank gate p = true) : ∀ s, Reach (init p) s → ∀ i, ¬ WaitChain s i i :=
  no_wait_cycle_gated rank gate p h

/-- Without gates the gated discipline is the plain ranked lock order. -/
theorem C05_gated_generalises (rank : Lock → Nat) (p : Prog) :
    progRankedG rank (fun _ => none) p = progRanked rank p :=
  progRankedG_none rank p

/-- The executable runner (the driver's model) only visits reachable states. -/
theorem C05_exec_reachable (p : Prog) (sched : List Nat) :
    ∀ s ∈ statesFrom (init p) sched, Reach (init p) s :=
  statesFrom_reach (init p) (init p) Reach.refl sched

/-- The Bool monitors evaluated by the driver decide the Props of the theorems. -/
theorem C05_monitors_exact (s : State) :
    (raceB s = true ↔ Race s) ∧ (deadlockB s = true ↔ Deadlock s) :=
  ⟨raceB_iff s, deadlockB_iff s⟩

/-- The model meets the spec, for ALL programs and schedules: on the trajectory
of its own grant decisions a disciplined program never passes through a race
state and a ranked program never through a deadlock; and its prediction for a
stress run satisfies the run monitor. -/
theorem C05_model_meets_spec :
    (∀ (guard : Var → Lock) (rank : Lock → Nat) (p : Prog) (sched : List Nat),
      specSched guard rank p sched (modelSched p sched) = true) ∧
    specRun modelRun = true :=
  ⟨model_meets_specSched, by decide +kernel⟩

/-- The run monitor is exactly the property text: it accepts an observation iff
it reports no race, no panic, no deadlock and no malformed response. -/
theorem C05_specRun_iff (o : RunObs) :
    specRun o = true ↔ o.races = 0 ∧ o.panics = 0 ∧ o.deadlocks = 0 ∧ o.malformed = 0 ∧
      o.untabled = 0 := by
  simp [specRun, and_assoc]

/-- Obligation 1 (regenerated table): every access row that is not a reported
finding holds the guard of its field, exclusively at a write. -/
theorem C05_program_disciplined_partial : tableDisciplined guards accesses = true := by
  simp only [tableDisciplined, rowOK, lookup_eq_lookupK]
  decide +kernel

/-- Obligation 2 (regenerated table): every lock-order edge that is not a
reported finding goes up in the generated rank certificate. -/
theorem C05_program_ranked : edgesRanked ranks edges = true := by
  simp only [edgesRanked, rankOf, lookup_eq_lookupK]
  decide +kernel

/-- Every goroutine set whose accesses come from non-finding sites of the table,
with the locks the table lists really held there, is free of data races on the
guarded fields, under every interleaving. -/
theorem C05_program_race_free_partial (p : List (List LEvent))
    (hc : ∀ t ∈ p, conformsAcc accesses [] t = true) :
    ∀ s, Reach (init (p.map eraseLabels)) s → ¬ Race s :=
  race_free_of_conforms C05_program_disciplined_partial p hc

/-- Obligation 3 (regenerated table): every acquisition site of a gated lock
(bbolt's writer lock of the statistics database) that is not a reported finding
holds the gate, or is a leaf hold.  THIS is the obligation that fails when a
reader takes the bbolt lock without `confMu`. -/
theorem C05_program_gated : acqsGated gates acqs = true := by
  decide +kernel

/-- Obligation 4 (regenerated table): every potentially blocking channel
operation made while a lock is possibly held is justified by structural facts
the extractor re-checked (see `ChanOpRow`).  Channels are outside the lock
machine: this is a table obligation, not a consequence of the generic
theorems; it is what fails when the send on `filtersInitializerChan` leaves the
critical section of `filtersInitializerLock` that drains the channel. -/
theorem C05_program_no_blocking_under_lock : chanOpsJustified chanOps = true := by
  decide +kernel

/-- The discipline behind the `drained_under` rows of obligation 4: on a channel
of capacity ≥ 1, if every send is preceded since the last send by a drain (what
the extractor checks structurally, the pairs of different senders being
serialised by the lock named in the row), no send ever finds the buffer full,
whatever the receivers do — the sender cannot block on the channel while it
holds its locks. -/
theorem C05_drained_send_never_blocks (cap : Nat) (hcap : 1 ≤ cap) (tr : List ChanStep)
    (len : Nat) (hlen : len ≤ cap) (hok : sendOK false tr = true) :
    (chanRun cap len tr).isSome = true :=
  drained_send_never_blocks cap hcap tr len hok

/-- Obligation 5 (regenerated table): every check-then-act pattern across two
critical sections of the same lock (see `CtaRow`) is in the reviewed baseline.
A table obligation, like obligation 4: values are outside the lock machine. -/
theorem C05_program_check_then_act_reviewed : ctaReviewed ctaRows = true := by
  decide +kernel

/-- Obligation 6 (regenerated table): no object is written through a local
variable after it was stored into a guarded field and the guarding hold ended,
except in reviewed places (none in the current tree).  A table obligation. -/
theorem C05_program_no_write_after_publish : pubReviewed pubRows = true := by
  decide +kernel

/-- Obligation 7 (regenerated table): no method of a lock-owning type that takes
the guard of a field itself returns a pointer, slice or map that still aliases
the object kept in that field (instead of a clone), except in the reviewed
places of guards.json `guarded_escape`.  A table obligation. -/
theorem C05_program_no_guarded_escape_reviewed : escReviewed escRows = true := by
  decide +kernel

/-- R4, R5 and R11 are repaired in the tree: NO lock-order edge and NO
acquisition of a gated lock is excluded, the exclusion lists are empty (this
theorem stops checking, and has to be restated, if a finding is ever listed). -/
theorem C05_program_no_excluded_order_facts :
    knownEdges = [] ∧ knownCycle = [] ∧ acqs.all (fun a => !a.known) = true := by
  decide +kernel

/-- The FULL lock-order statement, over every extracted edge: a rank function
exists under which every nested, possibly blocking acquisition of the program
goes up.  (False before the fixes: `C05_counterexample_lock_order_before_fix`.) -/
theorem C05_program_lock_order :
    ∃ rank : Nat → Nat, ∀ e ∈ edges ++ knownEdges, rank e.1 < rank e.2 := by
  refine ⟨rankOf ranks, ?_⟩
  have hk : knownEdges = [] := C05_program_no_excluded_order_facts.1
  have hr := C05_program_ranked
  simp only [edgesRanked, List.all_eq_true, decide_eq_true_eq] at hr
  intro e he
  rw [hk, List.append_nil] at he
  exact hr e he

/-- Every goroutine set whose blocking nested acquisitions are edges of the
table and whose acquisitions of gated locks come from sites of the table, with
balanced releases, is free of deadlocks and wait-for cycles under every
interleaving.  No finding is excluded (see above), so this is the full
statement; the hypothesis is the extractor-soundness assumption, which the
instrumented `sync` of the stress runs checks on what they exercise. -/
theorem C05_program_deadlock_free (p : List (List LEvent))
    (hc : ∀ t ∈ p, conformsOrdG edges gates acqs [] t = true) :
    ∀ s, Reach (init (p.map eraseLabels)) s → ¬ Deadlock s ∧ ∀ i, ¬ WaitChain s i i :=
  deadlock_free_of_conforms C05_program_ranked C05_program_gated p hc

/-! ### the reported findings are real violations of the disciplines -/

/-- Every row marked as a reported finding does violate the discipline (so the
marking cannot be used to excuse a disciplined access, and the full statement
`accesses.all (rowOK guards)` fails exactly on these rows). -/
theorem C05_counterexample_known_rows :
    accesses.all (fun a => !a.known || !rowOK guards a) = true := by
  simp only [rowOK, lookup_eq_lookupK]
  decide +kernel

/-- Dropping the gate is not harmless: a reader that takes the gated lock without
the gate and then a lock the flusher holds is a reachable deadlock of the
machine (the pattern of finding R11 and of the seeded stats change). -/
theorem C05_counterexample_ungated_reader :
    ∃ s, Reach (init exUngated) s ∧ Deadlock s :=
  exUngated_deadlock

/-- The edges the extractor found in the tree BEFORE the fixes (c4d7229 R4,
863506e R5): the re-entrant read lock
`dnsforward.Server.serverLock -> dnsforward.Server.serverLock` (R4; class 12 of
the table of that tree) and the inversion `home.tlsManager.mu (29) <->
home.configuration.RWMutex (26)` (R5). -/
def edgesBeforeFix : List (Nat × Nat) := [(12, 12), (29, 26), (26, 29)]

/-- The lock order of the tree before the fixes was cyclic: its edges admit no
rank function.  (Reverting either commit makes `C05_program_ranked` fail on the
regenerated table.) -/
theorem C05_counterexample_lock_order_before_fix :
    ∀ rank : Nat → Nat, ¬ (∀ e ∈ edgesBeforeFix, rank e.1 < rank e.2) :=
  no_rank_of_cycle edgesBeforeFix [12] (by decide +kernel)

/-- A cyclic lock order is not harmless: the recursive read-lock pattern of
finding R4 (repaired) (a goroutine re-acquires a read lock it already holds while a writer
is pending) is a reachable deadlock of the machine. -/
theorem C05_counterexample_recursive_rlock :
    ∃ s, Reach (init exRecursiveRead) s ∧ Deadlock s :=
  exRecursiveRead_deadlock

/-- The hypotheses of the generic theorems are satisfiable by a program in
which two goroutines really contend for a lock and write the same variable. -/
example : progDisc (fun _ => 0) exGood = true ∧ progRanked (fun l => l) exGood = true := by decide +kernel

/-- The tables are not empty, contain writes, shared and exclusive holds. -/
example : accesses.length > 0 ∧ accesses.any (·.write) = true ∧
    accesses.any (fun a => !a.heldShared.isEmpty) = true ∧
    accesses.any (fun a => !a.heldExcl.isEmpty) = true ∧ edges.length > 0 := by decide +kernel

/-- A goroutine that conforms to the regenerated lock-order table: it nests the
two locks of the first edge. -/
example : (match edges.find? (fun e => (lookup gates e.1).isNone && (lookup gates e.2).isNone) with
    | some (a, b) => conformsOrdG edges gates acqs []
        [(.acq a .excl, 0), (.acq b .excl, 0), (.rel b .excl, 0), (.rel a .excl, 0)]
    | none => true) = true := by
  decide +kernel

/-- The gate table is in use: some acquisition row holds its gate, and the
gated discipline is satisfiable where the plain one is not. -/
example : acqs.any (fun a => !a.known && !a.leaf) = true ∧
    progRankedG exGateRank exGate exGated = true ∧ (∀ rank, progRanked rank exGated = false) :=
  ⟨by decide +kernel, by decide +kernel, exGated_not_ranked⟩

/-- A labelled goroutine that conforms to the regenerated access table: it
performs the access of the first disciplined row with the row's locks held. -/
example : (match accesses.find? (fun a => !a.known) with
    | some a =>
      let pre : List LEvent := (a.heldShared.map fun l => (Event.acq l .shared, a.site)) ++
        (a.heldExcl.map fun l => (Event.acq l .excl, a.site))
      conformsAcc accesses [] (pre ++ [((if a.write then Event.wr a.field else Event.rd a.field), a.site)])
    | none => true) = true := by
  decide +kernel

end AGH.C05
