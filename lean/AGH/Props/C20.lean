/-
C20 — query-log files read backwards completely; timestamp seeks land on the entry.

All theorems are about the executable model `AGH/Model/QLogFile.lean` (the very
definitions the driver runs against the Go code), for EVERY parameter pair with
`16 KiB ≤ maxEntry ≤ bufSize` (the Go constants 16 KiB / 1.6 MB are one
instance, `C20_goParams_ok`), every line file, every reader state.
-/
import AGH.Lemmas.QLogCompose
import AGH.Lemmas.QLogSim
import AGH.Lemmas.QLogTS
import AGH.Gen.C20Consts
namespace AGH.C20
open AGH

/-- The constants of the unchanged tree satisfy the hypotheses on `P`. -/
theorem C20_goParams_ok : entryLimit ≤ goParams.maxEntry ∧ goParams.maxEntry ≤ goParams.bufSize := by
  decide

/-- **Reverse reading.**  For any file whose lines are non-empty, newline-free and
shorter than the 16 KiB limit — whatever its size, wherever the 1.6 MB windows
fall — `SeekStart` followed by `n` calls of `ReadNext` returns the last `n`
lines in reverse order, each exactly once, and reports `io.EOF` exactly when
`n` exceeds the number of lines.  (`n = lines.length + 1`: the whole file,
then EOF.) -/
theorem C20_readall (P : Params) (hP1 : entryLimit ≤ P.maxEntry) (hP2 : P.maxEntry ≤ P.bufSize)
    (lines : List Bytes) (hok : ∀ l ∈ lines, lineOK l = true) (q : QState) (n : Nat) :
    ∃ q' rs, fReadMany P (fileOfLines lines) n (seekStart (fileOfLines lines) q) [] =
        (q', rs, if n > lines.length then some Err.eof else none) ∧
      rs.map (fun r => (fileOfLines lines).slice r.1 r.2) = lines.reverse.take n := by
  obtain ⟨q', rs, h1, h2⟩ := fReadMany_from P lines hP1 hP2 hok n _ _ (filePos_seekStart P lines q)
  exact ⟨q', rs, by simpa using h1, by simpa using h2⟩

/-- **Seek to a stored timestamp.**  In a line file with strictly increasing
non-zero timestamps (below 2⁶³ bytes, as every Go file is), seeking the
timestamp of entry `i` succeeds — the depth guard, the same-line guard and the
end-of-file guard never fire; it takes `d+1` probes with `2^d ≤ size` (at most
⌊log₂ size⌋+1 ≤ 63) — and the following `n` reads return entries `i, i-1, …`
(then `io.EOF`). -/
theorem C20_seek_found (P : Params) (hP1 : entryLimit ≤ P.maxEntry) (hP2 : P.maxEntry ≤ P.bufSize)
    (tsOf : Bytes → Int) (lines : List Bytes) (ctx : SeekCtx tsOf lines)
    (hsize : (render lines).length < 2 ^ 63) (i : Nat) (hi : i < lines.length) (q : QState) (n : Nat) :
    ∃ q1 pos d, seekTS P (fileOfLines lines) tsOf q (tsOf lines[i]) = (q1, .ok (pos, d)) ∧
      2 ^ d ≤ (render lines).length ∧
      ∃ q' rs, fReadMany P (fileOfLines lines) n q1 [] =
          (q', rs, if n > i + 1 then some Err.eof else none) ∧
        rs.map (fun r => (fileOfLines lines).slice r.1 r.2) = ((lines.take (i + 1)).reverse).take n := by
  obtain ⟨d, hd, hseek⟩ := seekTS_found P tsOf _ lines hP1 ctx hsize i hi rfl q
  exact ⟨_, _, d, hseek, hd, fReadMany_from P lines hP1 hP2 ctx.ok n _ _ (filePos_seek P lines i hi q)⟩

/-- **Seek to an absent timestamp.**  It terminates (the model is total) with
`tooEarly` when the timestamp precedes every entry (also for the empty file),
`tooLate` when it follows every entry, `notFound` otherwise — never by the
depth guard — and the position is untouched, so subsequent reads continue
exactly where they were. -/
theorem C20_seek_absent (P : Params) (hP1 : entryLimit ≤ P.maxEntry)
    (tsOf : Bytes → Int) (lines : List Bytes) (ctx : SeekCtx tsOf lines)
    (hsize : (render lines).length < 2 ^ 63) (target : Int)
    (habs : ∀ l ∈ lines, tsOf l ≠ target) (q : QState) :
    seekTS P (fileOfLines lines) tsOf q target =
      ({ q with hasBuf := false },
       .error (if ∀ l ∈ lines, target < tsOf l then Err.tooEarly
               else if ∀ l ∈ lines, tsOf l < target then Err.tooLate else Err.notFound)) :=
  seekTS_absent P tsOf target lines hP1 ctx.le hsize habs q

/-- …and reads after a failed seek continue where they were: with `c` lines left
before, the next `n` reads return lines `c-1, c-2, …`. -/
theorem C20_seek_absent_then_read (P : Params) (hP1 : entryLimit ≤ P.maxEntry) (hP2 : P.maxEntry ≤ P.bufSize)
    (tsOf : Bytes → Int) (lines : List Bytes) (ctx : SeekCtx tsOf lines)
    (hsize : (render lines).length < 2 ^ 63) (target : Int)
    (habs : ∀ l ∈ lines, tsOf l ≠ target) (q : QState) (c : Nat) (hq : FilePos P lines c q) (n : Nat) :
    ∃ q' rs, fReadMany P (fileOfLines lines) n (seekTS P (fileOfLines lines) tsOf q target).1 [] =
        (q', rs, if n > c then some Err.eof else none) ∧
      rs.map (fun r => (fileOfLines lines).slice r.1 r.2) = ((lines.take c).reverse).take n := by
  rw [seekTS_absent P tsOf target lines hP1 ctx.le hsize habs q]
  exact fReadMany_from P lines hP1 hP2 ctx.ok n c _ (filePos_sameBuf P hq rfl (Or.inr rfl))

/-- **The model meets the spec, for every operation history.**  For any number of
files (none, rotated, current, …), each below 2⁶³ bytes, WHATEVER their
content (files outside the property's domain carry no promise), and every
finite history of `SeekStart` / `n × ReadNext` / `seekTS` at reader level and
at file level in any interleaving: the monitor that the driver runs on the
implementation's observations accepts every step of the model.  Proved by a
simulation (`Sim`) between the monitor's promise — the exact sequence of
lines still to be returned — and the reader's byte position and buffer.
(No file at all: `SeekStart`/`seekTS` succeed, every read is `io.EOF`.) -/
theorem C20_model_meets_spec (P : Params) (hP1 : entryLimit ≤ P.maxEntry) (hP2 : P.maxEntry ≤ P.bufSize)
    (tsOf : Bytes → Int) (ds : List FileDesc)
    (hsmall : ∀ d ∈ ds, (render d.lines).length < 2 ^ 63) (ops : List Op) :
    monitorRun P (ds.map fileOfDesc) tsOf (mkCtx tsOf ds) (rInit ds.length) (specInit ds.length) ops = true :=
  monitorRun_of_sim P tsOf ds hP1 hP2 hsmall ops _ _ (sim_init P ds) (fun h => by subst h; rfl)

/-- **Rotated + current (any number of files), reading.**
After `SeekStart`, `n` reads of the multi-file
reader return the newest file's lines last-to-first, then the older file's
(crossing the boundary, also through empty files), each exactly once, and
`io.EOF` exactly when `n` exceeds the total. -/
theorem C20_two_files_readall (P : Params) (hP1 : entryLimit ≤ P.maxEntry) (hP2 : P.maxEntry ≤ P.bufSize)
    (ds : List FileDesc) (hne : ds ≠ []) (hrd : ∀ d ∈ ds, readable d = true)
    (r : RState) (hlen : r.files.length = ds.length) (n : Nat) :
    ∃ r' xs, rReadMany P (ds.map fileOfDesc) n (rSeekStart (ds.map fileOfDesc) r) [] =
        (r', xs, if n > (allRev ds).length then some Err.eof else none) ∧
      xs.map (fun x => ((ds.map fileOfDesc).getD x.1 noFile).slice x.2.1 x.2.2) = (allRev ds).take n := by
  obtain ⟨r', xs, h1, h2, _⟩ :=
    rReadMany_spec P ds hP1 hP2 hrd n _ _ (rSeekStart_rrem P ds r hlen hrd (fun h => absurd h hne))
  exact ⟨r', xs, h1, h2⟩

/-- **Rotated + current (any number of files), seeking.**
With timestamps strictly increasing across the
files, seeking the timestamp of entry `k` of file `j` makes every newer file
report too-early (also an empty one), finds the entry in file `j`, and the
following `n` reads return that entry, the older entries of file `j`, then the
older files — `fromEntry ds j k`. -/
theorem C20_two_files (P : Params) (hP1 : entryLimit ≤ P.maxEntry) (hP2 : P.maxEntry ≤ P.bufSize)
    (tsOf : Bytes → Int) (ds : List FileDesc) (g : GlobalCtx tsOf ds)
    (j k : Nat) (d : FileDesc) (hd : ds[j]? = some d) (hk : k < d.lines.length)
    (r : RState) (hlen : r.files.length = ds.length) (n : Nat) :
    ∃ r1, rSeekTS P (ds.map fileOfDesc) tsOf r (tsOf d.lines[k]) = (r1, .ok ()) ∧
      ∃ r' xs, rReadMany P (ds.map fileOfDesc) n r1 [] =
          (r', xs, if n > (fromEntry ds j k).length then some Err.eof else none) ∧
        xs.map (fun x => ((ds.map fileOfDesc).getD x.1 noFile).slice x.2.1 x.2.2) =
          (fromEntry ds j k).take n := by
  have hj : j < ds.length := (List.getElem?_eq_some_iff.1 hd).1
  obtain ⟨r1, h1, h2⟩ := (rSeekTS_lineSeek P tsOf _ ds hP1 hP2 g.filesCtx r hlen
    (fun h => by subst h; cases hd)).1 _
      (lineSeek_found tsOf _ ds g j k d hd hk rfl ds.length hj (Nat.le_refl _))
  exact ⟨r1, h1, h2 n⟩

/-- **Rotated + current (any number of files), absent timestamp.**
Either `not found` is reported and no
position moved (only buffers were dropped), or some non-empty file lies wholly
before the timestamp and the reader starts over at the newest entry — it
never stops anywhere else. -/
theorem C20_two_files_absent (P : Params) (hP1 : entryLimit ≤ P.maxEntry)
    (tsOf : Bytes → Int) (ds : List FileDesc) (g : GlobalCtx tsOf ds) (hne : ds ≠ [])
    (target : Int) (habs : ∀ d ∈ ds, ∀ l ∈ d.lines, tsOf l ≠ target)
    (r : RState) (hlen : r.files.length = ds.length) :
    (∃ r', rSeekTS P (ds.map fileOfDesc) tsOf r target = (r', .error .notFound) ∧ SameUpToBuf r r') ∨
    (∃ r', rSeekTS P (ds.map fileOfDesc) tsOf r target = (r', .ok ()) ∧ RPos P ds r' (allRev ds) ∧
      ∃ d ∈ ds, d.lines ≠ [] ∧ ∀ l ∈ d.lines, tsOf l < target) := by
  have hseek := rSeekTS_seeksTo P tsOf target ds hP1 g.filesCtx r hlen (fun h => absurd h hne)
  rcases lineSeek_absent tsOf target ds habs ds.length (Nat.le_refl _) with hn | ⟨hsome, hw⟩
  · rw [hn] at hseek
    exact Or.inl hseek
  · rw [hsome] at hseek
    obtain ⟨r', h1, h2⟩ := hseek
    exact Or.inr ⟨r', h1, h2.1, hw.resolve_left hne⟩


/-! ### C20 implements the abstract reader the C07 model assumes -/

/-- **Refinement, reading (`older_than` absent).**  For every pair of files whose
entries `e` are stored as lines `enc e` of the property's kind, C07's
`seekRecord … none` (= `filesRev rot cur`, i.e. `rot ++ cur` reversed) is
exactly what `SeekStart` followed by `ReadNext`s of the byte-level reader
returns: `n` reads give the first `n` of those lines, `io.EOF` exactly after
the last.  An empty file may or may not exist (`exR`, `exC`). -/
theorem C20_refines_line_reader_readall (P : Params) (hP1 : entryLimit ≤ P.maxEntry)
    (hP2 : P.maxEntry ≤ P.bufSize) (enc : C07.Entry → Bytes) (tsOf : Bytes → Int)
    (exR exC : Bool) (rot cur : List C07.Entry)
    (hR : rot ≠ [] → exR = true) (hC : cur ≠ [] → exC = true)
    (eR : Enc enc tsOf rot) (eC : Enc enc tsOf cur) (r : RState)
    (hlen : r.files.length = (descsOf enc exR exC rot cur).length)
    (h0 : descsOf enc exR exC rot cur = [] → r.curN = 0) (n : Nat) :
    ∃ r' xs, rReadMany P ((descsOf enc exR exC rot cur).map fileOfDesc) n
        (rSeekStart ((descsOf enc exR exC rot cur).map fileOfDesc) r) [] =
        (r', xs, if n > (rot ++ cur).length then some Err.eof else none) ∧
      xs.map (fun x => (((descsOf enc exR exC rot cur).map fileOfDesc).getD x.1 noFile).slice x.2.1 x.2.2) =
        (((rot ++ cur).reverse).map enc).take n := by
  have g := filesCtx_descsOf enc tsOf exR exC rot cur eR eC
  have hp := rSeekStart_rrem P _ r hlen g.rd h0
  rw [allRev_descsOf enc exR exC rot cur hR hC] at hp
  obtain ⟨r', xs, h1, h2, _⟩ := rReadMany_spec P _ hP1 hP2 g.rd n _ _ hp
  refine ⟨r', xs, ?_, ?_⟩
  · simpa [C07.filesRev, Nat.add_comm] using h1
  · simpa [C07.filesRev] using h2

/-- **Refinement, seeking (`older_than = t`).**  Whenever C07's `seekRecord` says the
following reads return `rem` (found: that entry and everything older, across
the file boundary; too late for a file: everything from the newest entry —
the F12-repaired `seekRecord` skips nothing), the byte-level `seekTS` succeeds
and `n` reads return exactly the first `n` lines of `rem`, `io.EOF` after the
last; whenever C07 says "error", the byte-level reader reports `not found` and
no position has moved.  Excluded: both files empty while an empty file exists
(`C20_refines_line_reader_mismatch_empty`). -/
theorem C20_refines_line_reader_seek (P : Params) (hP1 : entryLimit ≤ P.maxEntry)
    (hP2 : P.maxEntry ≤ P.bufSize) (enc : C07.Entry → Bytes) (tsOf : Bytes → Int)
    (exR exC : Bool) (rot cur : List C07.Entry)
    (hR : rot ≠ [] → exR = true) (hC : cur ≠ [] → exC = true)
    (eR : Enc enc tsOf rot) (eC : Enc enc tsOf cur)
    (hex : ¬ (rot = [] ∧ cur = [] ∧ (exR || exC) = true))
    (o : Option Int) (r : RState)
    (hlen : r.files.length = (descsOf enc exR exC rot cur).length)
    (h0 : descsOf enc exR exC rot cur = [] → r.curN = 0) :
    (∀ rem, C07.seekRecord rot cur o = some rem →
      ∃ r1, rSeekRecord P ((descsOf enc exR exC rot cur).map fileOfDesc) tsOf r o = (r1, .ok ()) ∧
        ∀ n, ∃ r' xs, rReadMany P ((descsOf enc exR exC rot cur).map fileOfDesc) n r1 [] =
            (r', xs, if n > rem.length then some Err.eof else none) ∧
          xs.map (fun x => (((descsOf enc exR exC rot cur).map fileOfDesc).getD x.1 noFile).slice
            x.2.1 x.2.2) = (rem.map enc).take n) ∧
    (C07.seekRecord rot cur o = none →
      ∃ r', rSeekRecord P ((descsOf enc exR exC rot cur).map fileOfDesc) tsOf r o =
          (r', .error .notFound) ∧ SameUpToBuf r r') := by
  have g := filesCtx_descsOf enc tsOf exR exC rot cur eR eC
  have hseek := rSeekRecord_refines enc tsOf P hP1 exR exC rot cur hR hC eR eC hex o r hlen h0
  refine ⟨fun rem hrem => ?_, fun hn => ?_⟩
  · rw [hrem] at hseek
    obtain ⟨r1, h3, h4⟩ := hseek
    refine ⟨r1, h3, fun n => ?_⟩
    obtain ⟨r', xs, h6, h7, _⟩ := rReadMany_spec P _ hP1 hP2 g.rd n r1 _ h4
    exact ⟨r', xs, by simpa using h6, h7⟩
  · rw [hn] at hseek
    exact hseek

/-- **Refinement, `searchFiles`.**  C07's `searchFiles` (its list-level `seekRecord` +
`readEntries`) is `readEntries` run over the decoded lines that the byte-level
reader returns when read until `io.EOF` after the byte-level `seekRecord` —
and `([], none)` when the byte-level `seekRecord` fails.  `dec` is a left
inverse of `enc` (`decodeLogEntry` after `json.Encode`). -/
theorem C20_refines_line_reader_search (P : Params) (hP1 : entryLimit ≤ P.maxEntry)
    (hP2 : P.maxEntry ≤ P.bufSize) (enc : C07.Entry → Bytes) (dec : Bytes → C07.Entry)
    (tsOf : Bytes → Int) (exR exC : Bool) (s : C07.State) (p : C07.Params)
    (hR : s.rot ≠ [] → exR = true) (hC : s.cur ≠ [] → exC = true)
    (eR : Enc enc tsOf s.rot) (eC : Enc enc tsOf s.cur)
    (hdec : ∀ e, dec (enc e) = e)
    (hex : ¬ (s.rot = [] ∧ s.cur = [] ∧ (exR || exC) = true)) (r : RState)
    (hlen : r.files.length = (descsOf enc exR exC s.rot s.cur).length)
    (h0 : descsOf enc exR exC s.rot s.cur = [] → r.curN = 0) :
    match rSeekRecord P ((descsOf enc exR exC s.rot s.cur).map fileOfDesc) tsOf r p.olderThan with
    | (_, .error _) => C07.searchFiles s p = ([], none)
    | (r1, .ok _) =>
      ∀ n r' xs, rReadMany P ((descsOf enc exR exC s.rot s.cur).map fileOfDesc) n r1 [] =
          (r', xs, some Err.eof) →
        C07.searchFiles s p =
          C07.readEntries (C07.keepE s.conf p) p.scan (C07.wrap64 (p.offset + p.limit))
            (xs.map (fun x => dec ((((descsOf enc exR exC s.rot s.cur).map fileOfDesc).getD x.1
              noFile).slice x.2.1 x.2.2))) [] 0 none := by
  have g := filesCtx_descsOf enc tsOf exR exC s.rot s.cur eR eC
  have hseek := rSeekRecord_refines enc tsOf P hP1 exR exC s.rot s.cur hR hC eR eC hex p.olderThan r
    hlen h0
  unfold C07.searchFiles
  cases hs : C07.seekRecord s.rot s.cur p.olderThan with
  | none =>
    rw [hs] at hseek
    obtain ⟨r', h3, _⟩ := hseek
    rw [h3]
  | some rem =>
    rw [hs] at hseek
    obtain ⟨r1, h3, h4⟩ := hseek
    rw [h3]
    intro n r' xs hread
    -- read until `io.EOF`: the lines are `rem.map enc`, and `dec` undoes `enc`
    have hall := congrArg (List.map dec) (rReadMany_eof P _ hP1 hP2 g.rd r1 _ h4 n r' xs hread)
    simp only [List.map_map, Function.comp_def, hdec, List.map_id'] at hall
    rw [hall]

/-- **The one mismatch between the two abstractions.**  Both files hold no entry, yet
an (empty) file exists — C07's model has no such state ("a file exists iff it
is non-empty").  C07: `seekFiles [] [] t = some []` (positioned, nothing to
read).  Byte level: every file reports too-early, the reader reports
`not found`.  `searchFiles` returns no file entries either way. -/
theorem C20_refines_line_reader_mismatch_empty (P : Params) (enc : C07.Entry → Bytes)
    (tsOf : Bytes → Int) (exR exC : Bool) (hex : (exR || exC) = true) (t : Int) (r : RState) :
    C07.seekFiles [] [] t = some [] ∧
    (rSeekTS P ((descsOf enc exR exC [] []).map fileOfDesc) tsOf r t).2 = .error .notFound :=
  rSeekTS_empty_existing enc tsOf P exR exC hex t r

/-- **A stored timestamp of exactly 0 ns.**  The code cannot tell it from a missing
timestamp: when the first probe (the middle of the file) falls into such a
record, `seekTS` fails with "record … has empty timestamp" for every target
(the target 0 included) and leaves the position untouched; reverse reading
(`C20_readall`) is unaffected.  The spec therefore promises nothing about seeks
in such a file. -/
theorem C20_zero_stamp_seek_fails (P : Params) (hP1 : entryLimit ≤ P.maxEntry)
    (tsOf : Bytes → Int) (target : Int) (A B : List Bytes) (x : Bytes)
    (hx : lineOK x = true) (hz : tsOf x = 0)
    (h1 : (render A).length ≤ (render (A ++ x :: B)).length / 2)
    (h2 : (render (A ++ x :: B)).length / 2 ≤ (render A).length + x.length) (q : QState) :
    seekTS P (fileOfLines (A ++ x :: B)) tsOf q target = ({ q with hasBuf := false }, .error .emptyTS) :=
  seekTS_zero_stamp P tsOf target hP1 A B x hx hz h1 h2 q


/-- **Refinement at file level.**  For any list `es` of entries stored as lines
`enc e` (each a line of the property's kind, C07's order `Asc`), the byte-level
`qLogFile` over `render (es.map enc)` is C07's list-level file:
* `SeekStart` + `n × ReadNext` = the last `n` elements, newest first ("ReadNext =
  previous element"), `io.EOF` exactly after the oldest;
* `seekTS t` = C07's `fileSeek es t`: `found k` ⇒ success within ⌊log₂ size⌋+1
  probes and the following reads return `es[k], es[k-1], …`; `tooEarly` /
  `tooLate` / `notFound` ⇒ exactly that error and the position is untouched. -/
theorem C20_refines_c07_file_level (P : Params) (hP1 : entryLimit ≤ P.maxEntry)
    (hP2 : P.maxEntry ≤ P.bufSize) (enc : C07.Entry → Bytes) (tsOf : Bytes → Int)
    (es : List C07.Entry) (h : Enc enc tsOf es) (q : QState) :
    (∀ n, ∃ q' rs, fReadMany P (fileOfLines (es.map enc)) n
          (seekStart (fileOfLines (es.map enc)) q) [] =
          (q', rs, if n > es.length then some Err.eof else none) ∧
        rs.map (fun r => (fileOfLines (es.map enc)).slice r.1 r.2) = (es.reverse.map enc).take n) ∧
    (∀ t k, C07.fileSeek es t = .found k →
        ∃ q1 pos d, seekTS P (fileOfLines (es.map enc)) tsOf q t = (q1, .ok (pos, d)) ∧
          2 ^ d ≤ (render (es.map enc)).length ∧
          ∀ n, ∃ q' rs, fReadMany P (fileOfLines (es.map enc)) n q1 [] =
              (q', rs, if n > k + 1 then some Err.eof else none) ∧
            rs.map (fun r => (fileOfLines (es.map enc)).slice r.1 r.2) =
              (((es.take (k + 1)).reverse).map enc).take n) ∧
    (∀ t, (∀ k, C07.fileSeek es t ≠ .found k) →
        seekTS P (fileOfLines (es.map enc)) tsOf q t =
          ({ q with hasBuf := false }, .error (classErr (C07.fileSeek es t)))) := by
  have ctx := h.seekCtx
  refine ⟨?_, ?_, ?_⟩
  · intro n
    obtain ⟨q', rs, h1, h2⟩ := C20_readall P hP1 hP2 (es.map enc) ctx.ok q n
    exact ⟨q', rs, by simpa using h1, by simpa [List.map_reverse] using h2⟩
  · intro t k hfs
    obtain ⟨hk, hts⟩ := lineSeekFile_ok tsOf (es.map enc) t k
      (by rw [lineSeekFile_fileSeek enc tsOf es t h.ts, hfs])
    obtain ⟨d, hd, hseek⟩ := seekTS_found P tsOf t (es.map enc) hP1 ctx h.small k hk hts q
    refine ⟨_, _, d, hseek, hd, fun n => ?_⟩
    simpa [List.map_take, List.map_reverse] using
      fReadMany_from P (es.map enc) hP1 hP2 ctx.ok n _ _ (filePos_seek P (es.map enc) k hk q)
  · intro t hnf
    obtain ⟨habs, hcls⟩ := lineSeekFile_error tsOf (es.map enc) t _
      (lineSeekFile_classErr enc tsOf es t h.ts hnf)
    rw [seekTS_absent P tsOf t (es.map enc) hP1 ctx.le h.small habs q, ← hcls]

/-! ### Outside the property's domain: what the code does, and that it never harms later reads -/

/-- **Equal timestamps in neighbouring lines.**  With weakly increasing timestamps a
seek to a stored timestamp still succeeds (no guard fires) and lands on SOME
entry `i` carrying it — the one the binary search probes first, not necessarily
the first or the last of the run (see the `example` below) — and the reads that
follow return `i, i-1, …`.  "Positions the reader on that entry" therefore holds
up to the choice among equal timestamps. -/
theorem C20_seek_duplicates (P : Params) (hP1 : entryLimit ≤ P.maxEntry) (hP2 : P.maxEntry ≤ P.bufSize)
    (tsOf : Bytes → Int) (lines : List Bytes) (ctx : SeekCtxLe tsOf lines)
    (hsize : (render lines).length < 2 ^ 63) (target : Int) (hex : ∃ l ∈ lines, tsOf l = target)
    (q : QState) (n : Nat) :
    ∃ (i : Nat) (hi : i < lines.length) (q1 : QState) (pos d : Nat), tsOf lines[i] = target ∧
      seekTS P (fileOfLines lines) tsOf q target = (q1, .ok (pos, d)) ∧
      ∃ q' rs, fReadMany P (fileOfLines lines) n q1 [] =
          (q', rs, if n > i + 1 then some Err.eof else none) ∧
        rs.map (fun r => (fileOfLines lines).slice r.1 r.2) = ((lines.take (i + 1)).reverse).take n := by
  obtain ⟨i, hi, d, hti, _, hseek⟩ := seekTS_found_dup P tsOf target lines hP1 ctx hsize hex q
  exact ⟨i, hi, _, _, d, hti, hseek,
    fReadMany_from P lines hP1 hP2 ctx.ok n _ _ (filePos_seek P lines i hi q)⟩

/-- …and an absent timestamp is reported by position exactly as with distinct ones. -/
theorem C20_seek_duplicates_absent (P : Params) (hP1 : entryLimit ≤ P.maxEntry)
    (tsOf : Bytes → Int) (lines : List Bytes) (ctx : SeekCtxLe tsOf lines)
    (hsize : (render lines).length < 2 ^ 63) (target : Int)
    (habs : ∀ l ∈ lines, tsOf l ≠ target) (q : QState) :
    seekTS P (fileOfLines lines) tsOf q target =
      ({ q with hasBuf := false }, .error (absentErr tsOf target lines)) :=
  seekTS_absent P tsOf target lines hP1 ctx hsize habs q

/-- **"Without ever looping", on ANY byte content** (garbage, overlong lines,
non-monotone or unreadable timestamps, any `tsOf`): `seekTS` ends by one of
its own `return`s after at most `maxDepth = 100` probes of ≤ 2·`maxEntry` bytes —
the model's recursion budget (`Err.fuel`) is never what stops it; and when it
reports success, the reader stands at the end of a stretch `file[a, pos)` whose
timestamp IS the target, found at depth `< 100`. -/
theorem C20_seek_terminates (P : Params) (f : File) (tsOf : Bytes → Int) (q : QState) (target : Int) :
    (seekTS P f tsOf q target).2 ≠ .error .fuel ∧
    ∀ pos d, (seekTS P f tsOf q target).2 = .ok (pos, d) →
      (seekTS P f tsOf q target).1.position = pos ∧ d < maxDepth ∧
      ∃ a, tsOf (f.slice a pos) = target := by
  -- the exits of `seekTS`: the empty file (`errTSTooEarly`), the loop's error, the loop's success
  fun_cases seekTS P f tsOf q target with
  | case1 s0 h0 => exact ⟨nofun, nofun⟩
  | case2 s0 h0 e hl =>
    refine ⟨fun h => ?_, nofun⟩
    cases h
    exact seekLoop_ne_fuel P tsOf target f _ _ _ _ _ _ rfl (by decide) hl
  | case3 s0 h0 a pos d hl =>
    obtain ⟨h1, h3⟩ := (seekLoop_sound P tsOf target f _ _ _ _ _ _ rfl (by decide)).2 a pos d hl
    refine ⟨nofun, fun _ _ h => ?_⟩
    cases h
    exact ⟨rfl, h3, a, h1⟩

/-- **Reads on ANY byte content** (a line of `maxEntry` bytes or more, no final
newline, empty lines, CRLF, binary data): from a sound buffer state `ReadNext`
never panics, keeps the buffer sound, returns `file[a, position)` for some
`a ≤ position` and moves STRICTLY left — so whatever was returned for a
malformed stretch, the state reached is again one from which well-formed lines
are read correctly (`C20_read_local`). -/
theorem C20_read_any_content (P : Params) (f : File) (q : QState) (hinv : Inv P f q) :
    ∃ q' res, readNext P f q = (q', res) ∧ Inv P f q' ∧ q'.position ≤ q.position ∧
      res ≠ .error .panic ∧ (q.position = 0 → res = .error .eof) ∧
      ∀ a b, res = .ok (a, b) → a ≤ b ∧ b = q.position ∧ q'.position < q.position := by
  obtain ⟨q', res, h1, h2, h3, h4, h5⟩ := readNext_any P f q hinv
  exact ⟨q', res, h1, h2, h3, (fun h => nomatch h4 _ h), h5⟩

/-- …hence reading never loops: more than `position` calls end with an error that is
not a panic (`readNext` has no other error than `io.EOF`), on any content. -/
theorem C20_read_terminates (P : Params) (f : File) (n : Nat) (q : QState) (hinv : Inv P f q)
    (h : q.position < n) : ∃ e, (fReadMany P f n q []).2.2 = some e ∧ e ≠ .panic :=
  ⟨.eof, fReadMany_terminates P f n q [] hinv h, fun h => nomatch h⟩

/-- **Local correctness in ANY file.**  Wherever the reader stands on the newline of a
line `file[s, e)` shorter than `maxEntry` — whatever surrounds it (overlong
neighbours, garbage, a file that does not end in a newline) — `ReadNext`
returns exactly that line and steps to the newline before it. -/
theorem C20_read_local (P : Params) (hP2 : P.maxEntry ≤ P.bufSize) (f : File) (q : QState) (s e : Nat)
    (hl : LineAt f s e) (hlen : e - s < P.maxEntry) (hpos : q.position = e) (he : 0 < e)
    (hinv : Inv P f q) :
    ∃ q', readNext P f q = (q', .ok (s, e)) ∧ q'.position = s - 1 ∧ Inv P f q' :=
  readNext_line P f q s e hP2 hl hlen hpos he hinv

/-- **The clamped first chunk.**  A (re)fill at a position not beyond `bufSize` — the
last refill of a backward read, whose chunk start is clamped to 0 — makes the
buffer hold exactly `file[0, min bufSize size)`: cell `i` is file byte `i`, for
every file size and whatever the previous window was; in particular all of
`file[0, position)` is there (`C20_readall` / `C20_read_local` then give the
lines, also the one straddling the end of that chunk). -/
theorem C20_clamped_first_chunk (P : Params) (f : File) (q : QState) (e : Nat) (he : e ≤ P.bufSize) :
    (initBuffer P f q e).1.bufStart = 0 ∧ (initBuffer P f q e).1.bufLen = min P.bufSize f.size ∧
    (∀ i, i < min P.bufSize f.size → bufByte f (initBuffer P f q e).1 i = f.byte i) ∧
    (e ≤ f.size → e ≤ (initBuffer P f q e).1.bufLen) := by
  rw [initBuffer_eq, Nat.sub_eq_zero_of_le he, Nat.sub_zero]
  refine ⟨rfl, rfl, fun i hi => ?_, fun hs => Nat.le_min.2 ⟨he, hs⟩⟩
  unfold bufByte
  rw [if_pos hi]
  exact congrArg f.byte (Nat.zero_add i)

/-- **`readQLogTimestamp` at byte level.**  The timestamp is the value of the FIRST
occurrence of `"T":"` in the line, up to the next `"` — wherever the field
stands (first or not) — and a value `time.Parse` rejects reads as 0.  The fallback of
`readTimestamp` to `"Time":"` for a line without `"T":"` (or with an empty value), and 0
for a line with neither, are not in this statement; the `example`s below run them. -/
theorem C20_timestamp_scan (parseTime : Bytes → Option Int) (pre v post : Bytes) (hv0 : v ≠ [])
    (hno : ∀ j, j < pre.length → keyT.isPrefixOf ((pre ++ keyT ++ (v ++ 34 :: post)).drop j) = false)
    (hv : ¬ (34 ∈ v)) :
    readTimestamp parseTime (pre ++ keyT ++ (v ++ 34 :: post)) = (parseTime v).getD 0 := by
  unfold readTimestamp
  rw [readJSONValue_first keyT pre v post (by decide) hno hv]
  have : ¬ (v.length = 0) := by
    intro h; exact hv0 (List.eq_nil_of_length_eq_zero h)
  simp only [this, if_false]
  cases parseTime v <;> rfl

/-- **Constants tied to the source** (regenerated from `qlogfile.go` on every run by
`extract/cmd/c20`): the model's `goParams`, depth guard, probe-buffer factor,
refill bound, timestamp keys and time layout are the source's, and they
satisfy the hypotheses of all theorems above. -/
theorem C20_gen_consts :
    goParams = ⟨Gen.C20.maxEntrySize, Gen.C20.bufferSize⟩ ∧
    entryLimit ≤ Gen.C20.maxEntrySize ∧ Gen.C20.maxEntrySize ≤ Gen.C20.bufferSize ∧
    Gen.C20.depthGuard = maxDepth ∧
    Gen.C20.refillBound = Gen.C20.maxEntrySize ∧
    Gen.C20.initPositionBound = Gen.C20.bufferSize ∧ Gen.C20.initBufferLen = Gen.C20.bufferSize ∧
    Gen.C20.probePositionBound = Gen.C20.maxEntrySize ∧
    Gen.C20.probeBufferLen = 2 * Gen.C20.maxEntrySize ∧
    Gen.C20.tsKeys = [keyT, keyTime] ∧ Gen.C20.timeLayout = rfc3339NanoLayout := by
  decide

/-! ### Non-vacuity: the hypotheses are satisfiable and the conclusions say something -/

/-- Three entries with timestamps 1 < 2 < 3 (`tsOf` = length). -/
example : SeekCtx (fun l => (l.length : Int)) [[65], [66, 67], [68, 69, 70]] :=
  ⟨by decide, by decide, by decide⟩

/-- Rotated (one entry) + empty current file: a `GlobalCtx`. -/
example : GlobalCtx (fun l => (l.length : Int)) [{ lines := [[65], [66, 67]] }, { lines := [] }] :=
  ⟨by decide, by decide, by decide, by decide⟩

/-- A reader in the middle of a file satisfies `FilePos` (one of two lines left). -/
example : FilePos goParams [[65], [66, 67]] 1 { position := 1 } :=
  ⟨by decide, by decide, by intro h; cases h⟩

/-- The monitor really holds a promise after `SeekStart` (it is not vacuously true). -/
example : (specStep (mkCtx (fun l => (l.length : Int)) [{ lines := [[65], [66, 67]] }])
    (specInit 1) .start (.start true)).2.rcur = some [[66, 67], [65]] := by decide

/-- …and rejects a reader that skips a line. -/
example : (checkNext [[66, 67], [65]] 1 1 none (hashLines [[65]])).isSome = true := by decide

/-- The encoding hypothesis is satisfiable (entries told apart by their timestamp). -/
example : Enc (fun e => List.replicate e.ts.toNat 65) (fun l => (l.length : Int))
    [{ (default : C07.Entry) with ts := 1 }, { (default : C07.Entry) with ts := 3 }] :=
  ⟨by decide, by decide, by decide, by decide, by decide⟩

/-- …and C07's abstraction is not trivial on it: the timestamp 3 is found at line 1. -/
example : C07.seekFiles [] [{ (default : C07.Entry) with ts := 1 }, { (default : C07.Entry) with ts := 3 }] 3 =
    some [{ (default : C07.Entry) with ts := 3 }, { (default : C07.Entry) with ts := 1 }] := by decide

/-- A one-record file whose record has timestamp 0 satisfies the hypotheses of
`C20_zero_stamp_seek_fails`. -/
example : seekTS goParams (fileOfLines ([] ++ [65] :: [])) (fun _ => 0) {} 0 =
    ({ hasBuf := false }, .error .emptyTS) :=
  C20_zero_stamp_seek_fails goParams (by decide) _ 0 [] [] [65] (by decide) rfl (by decide) (by decide) {}

/-- Duplicate timestamps: three entries stamped 2, 2, 2 after one stamped 1 — the seek
lands on index 2 (the probe hits the middle of the file first), neither the
first nor the last of the run. -/
example : (seekTS goParams (fileOfLines [[65], [66, 67], [68, 69], [70, 71]])
    (fun l => (l.length : Int)) {} 2).1.position = 7 := by decide

/-- No final newline: the last byte of the last line is not returned ("cd" → "c"),
the earlier line is intact. -/
example : (fReadMany goParams (File.ofBytes [97, 98, 10, 99, 100]) 3
    (seekStart (File.ofBytes [97, 98, 10, 99, 100]) {}) []).2 = ([(3, 4), (0, 2)], some .eof) := by decide

/-- An empty line in the middle is returned as an empty line; a leading empty line is not
returned at all (position 0 is EOF). -/
example : (fReadMany goParams (File.ofBytes [10, 97, 10, 10, 98, 10]) 5
    (seekStart (File.ofBytes [10, 97, 10, 10, 98, 10]) {}) []).2 =
    ([(4, 5), (3, 3), (1, 2)], some .eof) := by decide

/-- CRLF: the carriage return stays part of the returned line. -/
example : (fReadMany goParams (File.ofBytes [97, 13, 10, 98, 13, 10]) 3
    (seekStart (File.ofBytes [97, 13, 10, 98, 13, 10]) {}) []).2 = ([(3, 5), (0, 2)], some .eof) := by decide

/-- A line longer than `maxEntry` (here maxEntry = 4, bufSize = 8; line "bcdefghijkl", 11
bytes, between "a" and "m"): it comes back as "ghijkl" and "bcde" — the byte "f"
at the window edge is lost — and the line BEFORE it ("a") is intact again. -/
example : (fReadMany ⟨4, 8⟩ (File.ofBytes [97, 10, 98, 99, 100, 101, 102, 103, 104, 105, 106, 107, 108, 10, 109, 10]) 6
    (seekStart (File.ofBytes [97, 10, 98, 99, 100, 101, 102, 103, 104, 105, 106, 107, 108, 10, 109, 10]) {}) []).2 =
    ([(14, 15), (7, 13), (2, 6), (0, 1)], some .eof) := by decide

/-- For contrast, a complete line file: the line comes back whole. -/
example : (fReadMany goParams (fileOfLines [[120, 121]]) 2 (seekStart (fileOfLines [[120, 121]]) {}) []).2 =
    ([(0, 2)], some .eof) := by decide

/-- Timestamp field not first: `{"QH":"h","T":"xy"}` → "xy". -/
example : readJSONValue [123, 34, 81, 72, 34, 58, 34, 104, 34, 44, 34, 84, 34, 58, 34, 120, 121, 34, 125] keyT = [120, 121] := by decide
/-- No timestamp field: `{"QH":"h"}` → 0. -/
example : readTimestamp (fun v => some v.length) [123, 34, 81, 72, 34, 58, 34, 104, 34, 125] = 0 := by decide
/-- `Time` fallback: `{"Time":"abc"}`. -/
example : readTimestamp (fun v => some v.length) [123, 34, 84, 105, 109, 101, 34, 58, 34, 97, 98, 99, 34, 125] = 3 := by decide
/-- Escaped quotes in an earlier value do not match the key: `{"QH":"a\"T\":\"b","T":"xy"}` → "xy". -/
example : readJSONValue [123, 34, 81, 72, 34, 58, 34, 97, 92, 34, 84, 92, 34, 58, 92, 34, 98, 34, 44, 34, 84, 34, 58, 34, 120, 121, 34, 125] keyT = [120, 121] := by decide


/-! ## Translator tie: `validateQLogLineIdx` as the source states it (regenerated per run)

`extract/cmd/c20` also flattens the nested `if` / `else if` of
`validateQLogLineIdx` into a first-match decision list
(`Gen.C20.validateRows`).  The list is interpreted here and proved equal to the
model's `validateIdx` for every line index, previous probe and file size: which
of "too early", "not found", "too late" a probe position means is thereby read
off the current source. -/

namespace T
/-- Operands of the decision list; `last = none` is `lastProbeLineIdx = -1`. -/
def term (lineIdx : Nat) (last : Option Nat) (fSize : Nat) (s : String) : Option Int :=
  if s = "lineIdx" then some (lineIdx : Int)
  else if s = "lastProbeLineIdx" then some (match last with | some l => (l : Int) | none => -1)
  else if s = "fSize" then some (fSize : Int)
  else if s = "0" then some 0
  else none

def evalCond (lineIdx : Nat) (last : Option Nat) (fSize : Nat) (c : String × String × String) : Option Bool :=
  if c.2.1 = "==" then
    match term lineIdx last fSize c.1, term lineIdx last fSize c.2.2 with
    | some a, some b => some (decide (a = b))
    | _, _ => none
  else none

def evalConds (lineIdx : Nat) (last : Option Nat) (fSize : Nat) : List (String × String × String) → Option Bool
  | [] => some true
  | c :: rest =>
    match evalCond lineIdx last fSize c, evalConds lineIdx last fSize rest with
    | some a, some b => some (a && b)
    | _, _ => none

def evalRows (lineIdx : Nat) (last : Option Nat) (fSize : Nat) :
    List (List (String × String × String) × String) → Option String
  | [] => none
  | (cs, r) :: rest =>
    match evalConds lineIdx last fSize cs with
    | some true => some r
    | some false => evalRows lineIdx last fSize rest
    | none => none

def errName : Option Err → String
  | none => "nil"
  | some .tooEarly => "errTSTooEarly"
  | some .notFound => "errTSNotFound"
  | some .tooLate => "errTSTooLate"
  | some _ => "?"
end T

section
attribute [local simp] Gen.C20.validateRows T.evalRows T.evalConds T.evalCond T.term T.errName

/-- The decision list of the source decides exactly as the model's `validateIdx`. -/
theorem C20_T_validate_rows_are_model (lineIdx : Nat) (last : Option Nat) (fSize : Nat) :
    T.evalRows lineIdx last fSize Gen.C20.validateRows = some (T.errName (validateIdx lineIdx last fSize)) := by
  unfold validateIdx
  cases last with
  | none =>
    have hm : ¬ ((lineIdx : Int) = -1) := by omega
    by_cases h2 : lineIdx = fSize <;> simp [h2, hm, Int.natCast_inj]
  | some l =>
    by_cases h1 : l = lineIdx
    · subst h1
      by_cases h0 : l = 0 <;> simp [h0]
    · have h1' : ¬ (lineIdx = l) := fun h => h1 h.symm
      by_cases h2 : lineIdx = fSize
      · subst h2
        simp [h1, h1', Int.natCast_inj]
      · simp [h1, h1', h2, Int.natCast_inj]
end
end AGH.C20
