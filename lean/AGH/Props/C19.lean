/-
C19 — safe-browsing / parental lookups reveal only hash prefixes; the cache
never changes the verdict.

Oracles (arbitrary parameters of every theorem): SHA-256 (`H`), the public
suffix list (`ps`, `icann`; assumption `psOK`), the map iteration order in
`storeInCache` (`ord`; any valid order), the LRU eviction policy (the concrete
golibs policy is in the model; the invariant proofs do not depend on what
`Set` evicts or rejects, so they hold for every cache size).
Environment assumptions are spelled out in `OpOK` (AGH/Lemmas/HashPrefixHistory).
-/
import AGH.Lemmas.HashPrefixHistory
import AGH.Lemmas.Bytes
import AGH.Lemmas.HashPrefixConc
import AGH.Gen.C19Facts
namespace AGH.C19
open AGH AGH.Bytes

/-- **Which names are hashed.**  With a sane public-suffix oracle the strings
hashed for `host` are exactly: `host` and its parent domains, non-empty, with
at most three dots (last four labels), except the ICANN public suffix and its
parents. -/
theorem C19_hash_set (ps : Bytes) (icann : Bool) (host : Bytes) (hps : psOK ps icann host = true) (s : Bytes) :
    s ∈ hashedNames ps icann host ↔
      (s ∈ subdomains host ∧ s ≠ [] ∧ dots s ≤ 3 ∧ ¬ (icann = true ∧ isDotSuffixOrEq s ps = true)) := by
  rw [hashedNames_eq_allowedNames hps, mem_allowedNames]

/-- **At most four names** are hashed (hence at most four prefixes disclosed),
for every host and every oracle value. -/
theorem C19_at_most_four (H : Bytes → Hash) (ps : Bytes) (icann : Bool) (host : Bytes) :
    (hostnameToHashes H ps icann host).length ≤ 4 := by
  simp only [hostnameToHashes, List.length_map]
  exact length_hashedNames_le ps icann host

/-- **Exactly how many**: the host (non-empty, no trailing dot) is cut to its
last four labels FIRST, then the ICANN suffix with all its labels is left
out: `min(labels, 4) − suffixLabels` (so `a.b.c.d.co.uk` hashes two names,
`c.d.co.uk` and `d.co.uk`; for a private or unknown suffix nothing is left
out).  Labels = dots + 1. -/
theorem C19_hash_count (H : Bytes → Hash) (ps : Bytes) (icann : Bool) (host : Bytes)
    (hps : psOK ps icann host = true) (hne : host ≠ []) (hdot : host.getLast? ≠ some dot) :
    (hostnameToHashes H ps icann host).length =
      min (dots host + 1) 4 - (if icann then dots ps + 1 else 0) := by
  simp only [hostnameToHashes, List.length_map]
  exact length_hashedNames hps hne hdot

/-- **Every order Go may pick**: the iteration sequences of the `hashToStore`
map that the theorems quantify over (`validGroups`) are exactly the
permutations of the first-appearance order, and that order itself is one. -/
theorem C19_map_orders (recv : List Hash) (gs : List (Prefix × List Hash)) :
    validGroups recv (canonGroups recv) = true ∧
    (validGroups recv gs = true ↔ gs.Perm (canonGroups recv)) :=
  ⟨canonGroups_valid recv,
   fun h => validGroups_perm_canon h, fun h => validGroups_perm h (canonGroups_valid recv)⟩

/-- `subdomains` really is "the name and everything that follows a dot". -/
theorem C19_parents (s d : Bytes) :
    s ∈ subdomains d ↔ d ≠ [] ∧ (s = d ∨ ∃ pre, d = pre ++ dot :: s) :=
  mem_subdomains s d

/-- The question is a function of the 2-byte prefixes only. -/
theorem C19_privacy_noninterference (suffix : Bytes) (hs₁ hs₂ : List Hash)
    (h : hs₁.map prefix2 = hs₂.map prefix2) : getQuestion suffix hs₁ = getQuestion suffix hs₂ := by
  simp [getQuestion, h]

/-- **Privacy.**  Whatever the cache holds, whatever the upstream and the map
order do: if a check sends a question, the question is
`hex(p₁).hex(p₂).….<suffix>` where the `pᵢ` are the 2-byte hash prefixes of
some of the allowed names of `host` (in order) — nothing else of the name
enters it. -/
theorem C19_privacy (cf : Conf) (now : Nat) (o : CheckOp) (c : Cache) (q : Bytes)
    (hps : psOK o.ps o.icann o.host = true)
    (h : (check cf now o.hashes o.exchange o.ord c).1.question = some q) :
    ∃ names : List Bytes, names.Sublist (hashedNames o.ps o.icann o.host) ∧
      (∀ s ∈ names, s ∈ allowedNames o.ps o.icann o.host) ∧
      q = questionOfPrefixes cf.suffix (names.map (fun s => prefix2 (o.H s))) := by
  obtain ⟨toReq, hsub, hq⟩ := check_question h
  simp only [CheckOp.hashes, hostnameToHashes] at hsub
  obtain ⟨names, hn, rfl⟩ := List.sublist_map_iff.mp hsub
  refine ⟨names, hn, fun s hs => hashedNames_eq_allowedNames hps ▸ hn.subset hs, ?_⟩
  rw [hq, getQuestion, List.map_map]
  rfl

/-- **Verdict of a fresh lookup** (empty cache, any cache size): every hash of
the name is asked about, and the name is blocked exactly when the answer
carries a full hash equal to the hash of one of the allowed names. -/
theorem C19_verdict (cf : Conf) (now max : Nat) (o : CheckOp) (answer : List RR)
    (hps : psOK o.ps o.icann o.host = true) (hne : o.hashes ≠ [])
    (hex : o.exchange (getQuestion cf.suffix o.hashes) = some answer) :
    ∃ b, (check cf now o.hashes o.exchange o.ord ⟨[], max⟩).1 =
        ⟨.blocked b, some (getQuestion cf.suffix o.hashes)⟩ ∧
      (b = true ↔ ∃ s ∈ allowedNames o.ps o.icann o.host, o.H s ∈ receivedHashes answer) := by
  refine ⟨findMatch o.hashes (receivedHashes answer), ?_, ?_⟩
  · rw [check_fresh cf now max o.hashes hne, outcomeOf, hex]
  · rw [CheckOp.hashes, hostnameToHashes_eq_map_allowedNames o.H hps, findMatch, List.any_map, List.any_eq_true]
    exact exists_congr fun s => and_congr_right fun _ => List.contains_iff_mem

/-- **After expiry a cached item has no influence**: if every item in the cache
has expired, a check sends the same question and returns the same verdict as
with an empty cache. -/
theorem C19_expired_ignored (cf : Conf) (now : Nat) (hashes : List Hash)
    (exch : Bytes → Option (List RR)) (ord : List Hash → List (Prefix × List Hash)) (c : Cache)
    (hexp : ∀ it ∈ c.lru, expired now it = true) :
    (check cf now hashes exch ord c).1 = (check cf now hashes exch ord ⟨[], c.max⟩).1 := by
  rw [check_outcome, check_outcome, findInCache_allExpired now hashes c hexp,
    findInCache_allExpired now hashes ⟨[], c.max⟩ (fun it hit => nomatch hit)]

/-- **Cache transparency**, for every history of checks, clock advances and
database changes sharing one cache of ANY size (so whatever is evicted or
rejected), started from any cache satisfying the invariant: every verdict
equals the verdict of a fresh lookup against the current database, and an
error is reported only when the upstream failed on a question actually sent.
Assumptions (`Valid`): the service answers the questions asked completely and
only for the prefixes asked, and the database does not change for a prefix
while an unexpired item for that prefix is cached. -/
theorem C19_cache_transparent (cf : Conf) (ops : List Op) (w : World)
    (hinv : Inv w.db w.now w.cache) (hv : Valid cf w ops) :
    ForallChecks cf (fun w o out =>
      (∀ b, out.verdict = .blocked b → b = freshVerdict o.H w.db o.ps o.icann o.host) ∧
      (out.verdict = .upstreamErr → o.err = true ∧ out.question.isSome = true)) w ops :=
  forallChecks_of_inv (fun _ _ hinv hok => (doCheck_sound hinv hok).2) ops w hinv hv

/-- The same from an empty cache of any configured size. -/
theorem C19_cache_transparent_from_empty (cf : Conf) (size : Nat) (db : List Hash) (ops : List Op)
    (hv : Valid cf ⟨Cache.new size, 0, db⟩ ops) :
    ForallChecks cf (fun w o out =>
      (∀ b, out.verdict = .blocked b → b = freshVerdict o.H w.db o.ps o.icann o.host) ∧
      (out.verdict = .upstreamErr → o.err = true ∧ out.question.isSome = true)) ⟨Cache.new size, 0, db⟩ ops :=
  C19_cache_transparent cf ops _ (inv_new db 0 size) hv

/-- **The model meets the spec**: along every valid history, after every
check, the monitor predicate `specOK` holds of what the model did. -/
theorem C19_model_meets_spec (cf : Conf) (ops : List Op) (w : World)
    (hinv : Inv w.db w.now w.cache) (hv : Valid cf w ops) :
    ForallChecks cf (fun w o out => specOK (o.input cf w) out = true) w ops := by
  apply forallChecks_of_inv _ ops w hinv hv
  intro w o hinv hok
  obtain ⟨_, hb, he⟩ := doCheck_sound hinv hok
  simp only [doCheck, CheckOp.hashes] at hb he ⊢
  simp only [specOK, CheckOp.input, hok.1, Bool.not_true, Bool.false_or, Bool.and_eq_true]
  refine ⟨privacyOK_check cf w.now o.H o.exchange o.ord w.cache hok.1 hok.2.1, ?_⟩
  dsimp only [verdictOK]
  cases hvd : (check cf w.now (hostnameToHashes o.H o.ps o.icann o.host) o.exchange o.ord w.cache).1.verdict with
  | upstreamErr =>
    obtain ⟨h1, h2⟩ := he hvd
    simp [h1, h2]
  | blocked b =>
    simp only
    rw [hb b hvd]
    simp

/-- **The bytes on the wire are a function of the prefixes only**: the TXT
question name is, byte for byte, one label of four lower-case hex digits and
a dot per requested prefix, followed by the configured service suffix — at
most four such labels, 5·n + |suffix| bytes; no other byte of the queried name
or of its hashes enters it (see `C19_privacy` for which prefixes). -/
theorem C19_wire_discloses_prefixes_only (suffix : Bytes) (H : Bytes → Hash) (ps : Bytes) (icann : Bool)
    (host : Bytes) (hlen : ∀ s, (H s).length = 32) (toReq : List Hash)
    (hsub : toReq.Sublist (hostnameToHashes H ps icann host)) :
    getQuestion suffix toReq = (toReq.flatMap (fun h => hexBytes (prefix2 h) ++ [dot])) ++ suffix ∧
    (getQuestion suffix toReq).length = 5 * toReq.length + suffix.length ∧
    toReq.length ≤ 4 ∧
    ∀ h ∈ toReq, (hexBytes (prefix2 h)).length = 4 ∧ ∀ c ∈ hexBytes (prefix2 h), isLowerHex c = true := by
  have hmem : ∀ h ∈ toReq, h.length = 32 := by
    intro h hh
    have := hsub.subset hh
    simp only [hostnameToHashes, List.mem_map] at this
    obtain ⟨s, _, rfl⟩ := this
    exact hlen s
  have h4 : ∀ h ∈ toReq, (hexBytes (prefix2 h)).length = 4 := by
    intro h hh
    rw [length_hexBytes, length_prefix2 (hmem h hh)]
  refine ⟨?_, ?_, Nat.le_trans hsub.length_le (C19_at_most_four H ps icann host), ?_⟩
  · rw [getQuestion, questionOfPrefixes_eq, List.flatMap_map]
  · rw [getQuestion, length_questionOfPrefixes, List.length_map]
    intro p hp
    obtain ⟨h, hh, rfl⟩ := List.mem_map.mp hp
    exact length_prefix2 (hmem h hh)
  · exact fun h hh => ⟨h4 h hh, isLowerHex_hexBytes _⟩

/-- **The cache item round-trips**: `toCacheItem (fromCacheItem i) = i` (expiry
as absolute Unix seconds below 2^64, hashes of 32 bytes). -/
theorem C19_cache_item_codec (base : Nat) (it : Item) (hexp : base + it.exp < 2 ^ 64)
    (hl : ∀ h ∈ it.hs, h.length = 32) :
    decodeItem (encodeItem base it) = (base + it.exp, it.hs) := by
  unfold decodeItem encodeItem
  have e : (be64 (base + it.exp) 8).length = 8 := length_be64 _ 8
  rw [List.take_left' e, List.drop_left' e, unbe64_be64]
  have : (base + it.exp) % 256 ^ 8 = base + it.exp := Nat.mod_eq_of_lt (by omega)
  rw [this, chunk32_flatten it.hs _ hl (by simp)]

/-- **Expiry boundary**: an item is still used at the very instant of its
expiry second and not one nanosecond later. -/
theorem C19_expiry_boundary (it : Item) :
    expired (it.exp * nsPerSec) it = false ∧ expired (it.exp * nsPerSec + 1) it = true := by
  simp [expired]

/-- the model's constants are those of hashprefix.go (fact line `C19.consts`) -/
theorem C19_constants :
    (∀ h : Hash, prefix2 h = h.take prefixLen) ∧ hexSize = 2 * hashSize ∧
    (∀ host, lastLabels host = (takeLabelsRev subDomainNum host.reverse).reverse) ∧
    (∀ t : Bytes, t.length ≠ hexSize → parseTXT t = none) := by
  refine ⟨fun _ => rfl, rfl, fun _ => rfl, fun t h => ?_⟩
  simp only [hexSize] at h
  simp [parseTXT, h]

/-- `Check` is its two steps — and a function of (the name's hashes, what the
service answers, the cache) only: it reads and writes no other shared state
(fact line `C19.checkfields`: the lookup path touches no Checker field but
`svc`, `upstream`, and the cache through findInCache/storeInCache). -/
theorem C19_check_two_steps (cf : Conf) (now : Nat) (hashes : List Hash)
    (exchange : Bytes → Option (List RR)) (ord : List Hash → List (Prefix × List Hash)) (c : Cache) :
    check cf now hashes exchange ord c =
      match findInCache now hashes c with
      | (.cached b, c1) => (⟨.blocked b, none⟩, c1)
      | (.ask toReq, c1) => checkAnswer cf now toReq exchange ord c1 :=
  check_two_steps cf now hashes exchange ord c

/-- **Overlapping lookups are serialisable.**  Any number of lookups in flight
on one Checker, each in its two steps (cache scan; exchange + store), under
EVERY schedule of steps, honest service, any cache size: the cache invariant
holds at every point, every lookup that has to ask asks about hashes of its
OWN name only, and every verdict given is the fresh verdict of its own
name — i.e. exactly what the same lookups give one after the other in any
order (`C19_cache_transparent`).  Stores of different lookups commute as far
as verdicts go: whatever order they land in, every unexpired item is complete
for its prefix. -/
theorem C19_concurrent_checks_serialisable (db : List Hash) (cf : Conf) (now : Nat) (hs : Nat → List Hash)
    (exch : Bytes → Option (List RR)) (ord : List Hash → List (Prefix × List Hash)) (c : Cache)
    (hinv : Inv db now c)
    (henv : ∀ toReq answer, exch (getQuestion cf.suffix toReq) = some answer →
      Honest db toReq (receivedHashes answer) ∧
      validGroups (receivedHashes answer) (ord (receivedHashes answer)) = true)
    (sched : List Nat) :
    let s := sched.foldl (stepC cf now hs exch ord) (ConcC.init c)
    Inv db now s.cache ∧
    (∀ i, s.pc i = 1 → ∀ y ∈ s.pend i, y ∈ hs i) ∧
    (∀ i o, s.res i = some o → ∀ b, o.verdict = .blocked b → b = (hs i).any (fun h => db.contains h)) := by
  intro s
  have h0 : ConcInv db now hs (ConcC.init c) :=
    ⟨hinv, fun i hi => by simp [ConcC.init] at hi, fun i o ho => by simp [ConcC.init] at ho⟩
  have hfin := concInv_sched henv sched _ h0
  exact ⟨hfin.inv, fun i hi => (hfin.pending i hi).1, hfin.done⟩

/-! ### in front of the checkers: `DNSFilter.CheckHost` -/

/-- **Letter case of the query name is irrelevant**: names that lower-case to
the same string get the same verdict and send the same questions to both
lookup services — whatever the services answer. -/
theorem C19_case_insensitive (st : HostSetts) (sufS sufP : Bytes) (H : Bytes → Hash)
    (psOf : Bytes → Bytes × Bool) (exS exP : Bytes → Option (List RR)) (h₁ h₂ : Bytes)
    (h : lower h₁ = lower h₂) :
    checkHostSB st sufS sufP H psOf exS exP h₁ = checkHostSB st sufS sufP H psOf exS exP h₂ := by
  have hnil : h₁ = [] ↔ h₂ = [] := by rw [← lower_eq_nil (s := h₁), h, lower_eq_nil]
  unfold checkHostSB
  by_cases e : h₁ = []
  · rw [if_pos e, if_pos (hnil.mp e)]
  · rw [if_neg e, if_neg fun e' => e (hnil.mpr e'), h]

/-- **CheckHost meets the spec on the name as queried**: with honest services,
for every letter case of the query name, only prefixes of the lower-cased name
and its allowed parents are sent, nothing is sent for a service that is off,
and the result is "safe browsing" / "parental" exactly when the respective
database holds a full hash of one of those names (safe browsing first). -/
theorem C19_host_meets_spec (i : HostIn) (ansS ansP : Bytes → List RR)
    (hps : psOK (i.psOf (lower i.host)).1 (i.psOf (lower i.host)).2 (lower i.host) = true)
    (hlen : ∀ s, (i.H s).length = 32)
    (hS : ∀ toReq, Honest i.dbS toReq (receivedHashes (ansS (getQuestion i.sufS toReq))))
    (hP : ∀ toReq, Honest i.dbP toReq (receivedHashes (ansP (getQuestion i.sufP toReq)))) :
    hostSpecOK i (checkHostSB i.setts i.sufS i.sufP i.H i.psOf (fun q => some (ansS q))
      (fun q => some (ansP q)) i.host) = true := by
  obtain ⟨qS, eS, s1⟩ := checkFresh_sound i.sufS i.H i.psOf i.dbS ansS (lower i.host) hps hlen hS
  obtain ⟨qP, eP, p1⟩ := checkFresh_sound i.sufP i.H i.psOf i.dbP ansP (lower i.host) hps hlen hP
  have pn : ∀ suf, privacyOK i.H suf (i.psOf (lower i.host)).1 (i.psOf (lower i.host)).2 (lower i.host) none = true :=
    fun _ => rfl
  unfold checkHostSB
  by_cases e : i.host = []
  · rw [if_pos e]
    simp [hostSpecOK, hostVerdict, e, privacyOK]
  · rw [if_neg e]
    dsimp only
    rw [eS, eP]
    -- the decisions in the order CheckHost takes them; the parental checker is looked at only
    -- when safe browsing is off or has not blocked
    cases hsb : (i.setts.protection && i.setts.safeBrowsing)
    · cases hpc : (i.setts.protection && i.setts.parental)
      · simp [hostSpecOK, hostVerdict, hps, e, pn, hsb, hpc]
      · cases hfP : freshVerdict i.H i.dbP (i.psOf (lower i.host)).1 (i.psOf (lower i.host)).2 (lower i.host) <;>
          simp [hostSpecOK, hostVerdict, hps, e, pn, p1, hsb, hpc, hfP]
    · cases hfS : freshVerdict i.H i.dbS (i.psOf (lower i.host)).1 (i.psOf (lower i.host)).2 (lower i.host)
      · cases hpc : (i.setts.protection && i.setts.parental)
        · simp [hostSpecOK, hostVerdict, hps, e, pn, s1, hsb, hpc, hfS]
        · cases hfP : freshVerdict i.H i.dbP (i.psOf (lower i.host)).1 (i.psOf (lower i.host)).2 (lower i.host) <;>
            simp [hostSpecOK, hostVerdict, hps, e, s1, p1, hsb, hpc, hfS, hfP]
      · simp [hostSpecOK, hostVerdict, hps, e, pn, s1, hsb, hfS]

/-! ### Non-vacuity: a concrete valid history with a fresh positive, a cached
positive, an expiry and a cached negative. -/

section Example

def exH (s : Bytes) : Hash := List.replicate 32 s.length
def exHost : Bytes := [97, 46, 98, 99]          -- "a.bc"
def exDb : List Hash := [exH exHost]
def exOp : CheckOp :=
  { host := exHost, ps := [98, 99], icann := false, H := exH, err := false,
    answer := fun _ => [some [hexBytes (exH exHost)]], ord := canonGroups }
def exCf : Conf := ⟨[120, 46], 10 * nsPerSec⟩   -- suffix "x.", ttl 10 s
def exW : World := ⟨Cache.new 200, 0, exDb⟩

/-- the first check asks about both names and blocks; the second is answered
from the cache (no question) with the same verdict -/
example : (doCheck exCf exW exOp).1 = ⟨.blocked true, some (getQuestion exCf.suffix exOp.hashes)⟩ ∧
    (doCheck exCf (step exCf exW (.check exOp)) exOp).1 = ⟨.blocked true, none⟩ := by
  decide +kernel

example : freshVerdict exOp.H exDb exOp.ps exOp.icann exOp.host = true := by decide +kernel

/-! clause by clause on public-suffix-list shapes (oracle values as the PSL gives them) -/

/-- a name that IS an ICANN public suffix (`co.uk`): nothing is hashed, nothing asked -/
example : hashedNames [99, 111, 46, 117, 107] true [99, 111, 46, 117, 107] = [] := by decide +kernel
/-- wildcard rule `*.ck`: for `a.b.ck` the suffix is `b.ck`; only `a.b.ck` is hashed -/
example : hashedNames [98, 46, 99, 107] true [97, 46, 98, 46, 99, 107] = [[97, 46, 98, 46, 99, 107]] := by decide +kernel
/-- exception rule `!www.ck`: the suffix of `www.ck` is `ck`; `www.ck` is hashed -/
example : hashedNames [99, 107] true [119, 119, 119, 46, 99, 107] = [[119, 119, 119, 46, 99, 107]] := by decide +kernel
/-- a single label that is no ICANN suffix (`localhost`): hashed as it is -/
example : hashedNames [108, 111, 99, 97, 108, 104, 111, 115, 116] false [108, 111, 99, 97, 108, 104, 111, 115, 116] = [[108, 111, 99, 97, 108, 104, 111, 115, 116]] := by decide +kernel
/-- private suffix (`github.io` is not ICANN): the whole private space down to the TLD -/
example : hashedNames [103, 105, 116, 104, 117, 98, 46, 105, 111] false [117, 115, 101, 114, 46, 103, 105, 116, 104, 117, 98, 46, 105, 111] =
    [[117, 115, 101, 114, 46, 103, 105, 116, 104, 117, 98, 46, 105, 111], [103, 105, 116, 104, 117, 98, 46, 105, 111], [105, 111]] := by decide +kernel
/-- punycode labels are plain ASCII labels -/
example : hashedNames [120, 110, 45, 45, 112, 49, 97, 105] true [120, 110, 45, 45, 101, 49, 97, 102, 109, 107, 102, 100, 46, 120, 110, 45, 45, 112, 49, 97, 105] =
    [[120, 110, 45, 45, 101, 49, 97, 102, 109, 107, 102, 100, 46, 120, 110, 45, 45, 112, 49, 97, 105]] := by decide +kernel

/-- a.b.c.d.co.uk (ICANN suffix co.uk): two names are hashed, not four -/
example : hashedNames [99, 111, 46, 117, 107] true
    [97, 46, 98, 46, 99, 46, 100, 46, 99, 111, 46, 117, 107] =
    [[99, 46, 100, 46, 99, 111, 46, 117, 107], [100, 46, 99, 111, 46, 117, 107]] := by decide +kernel

/-- the assumptions of the history theorems are satisfiable by this history
(fresh lookup, one second later a lookup answered from the cache, twenty
seconds later — the item has expired — a fresh lookup again) -/
example : Valid exCf exW [.check exOp, .advance nsPerSec, .check exOp, .advance (20 * nsPerSec), .check exOp] := by
  have hlen : ∀ s, (exOp.H s).length = 32 := fun s => by simp [exOp, exH]
  have hfresh : ∀ (w : World) (toReq : List Hash),
      (findInCache w.now exOp.hashes w.cache).1 = .ask exOp.hashes → w.db = exDb →
      (findInCache w.now exOp.hashes w.cache).1 = .ask toReq →
      Honest w.db toReq (receivedHashes (exOp.answer (getQuestion exCf.suffix toReq))) ∧
      validGroups (receivedHashes (exOp.answer (getQuestion exCf.suffix toReq)))
        (exOp.ord (receivedHashes (exOp.answer (getQuestion exCf.suffix toReq)))) = true := by
    intro w toReq h1 hdb h2
    rw [h1] at h2
    cases h2
    have hr : receivedHashes (exOp.answer (getQuestion exCf.suffix exOp.hashes)) = [exH exHost] := by decide +kernel
    rw [hr, hdb]
    refine ⟨?_, by decide +kernel⟩
    intro x
    simp only [exDb, List.mem_singleton]
    constructor
    · rintro rfl; exact ⟨rfl, by decide⟩
    · rintro ⟨h, _⟩; exact h
  refine ⟨⟨by decide +kernel, hlen, fun toReq => hfresh _ toReq (by decide +kernel) rfl⟩, trivial,
    ⟨by decide +kernel, hlen, ?_⟩, trivial, ⟨by decide +kernel, hlen, fun toReq => hfresh _ toReq (by decide +kernel) rfl⟩, trivial⟩
  intro toReq h
  have : (findInCache (step exCf (step exCf exW (.check exOp)) (.advance nsPerSec)).now exOp.hashes
      (step exCf (step exCf exW (.check exOp)) (.advance nsPerSec)).cache).1 = .cached true := by decide +kernel
  rw [this] at h
  cases h

end Example


/-! ## Translator tie: constants and the expressions the proofs are instantiated with (regenerated per run)

`extract/cmd/c19` rewrites `Gen/C19Facts.lean` from the typed syntax of
`internal/filtering/hashprefix`. -/

/-- The constants of the current source are the model's; the expiry test is
`now.After(item.expiry)` on the whole-second expiry read back from the item
(`expired`: strictly after, nanosecond clock against seconds header), a new
item expires `cacheTime` after now and its header is that instant's Unix
second; only `hash[:prefixLen]` — two bytes — is hex-encoded into the question,
and the cache is read and written under that two-byte key only. -/
theorem C19_T_constants_and_expressions :
    Gen.C19.prefixLen = prefixLen ∧ Gen.C19.hashSize = hashSize ∧ Gen.C19.hexSize = hexSize ∧
      Gen.C19.expirySize = expirySize ∧ Gen.C19.subDomainNum = subDomainNum ∧
      Gen.C19.expiryConds = ["now.After(item.expiry)"] ∧
      Gen.C19.expiryInits = ["t", "time.Now().Add(c.cacheTime)"] ∧
      Gen.C19.expirySerialised = ["item.expiry.Unix()"] ∧
      Gen.C19.wireArgs = ["hash[:prefixLen]"] ∧
      Gen.C19.cacheKeys = ["Get:hash[:prefixLen]", "Get:hash[:prefixLen]", "Set:pref[:]"] :=
  ⟨rfl, rfl, rfl, rfl, rfl, rfl, rfl, rfl, rfl, rfl⟩

end AGH.C19
