/-
C01 — a query blocked by rules is answered locally and never forwarded.

Layer A theorems: they hold for EVERY pair of rule engines satisfying the
interface contract `EnginesWF` (`AGH/Lemmas/Filter.lean`: what urlfilter's
`MatchRequest` guarantees about a positive answer), every configuration, every
query and every upstream answer.  Layer B (`C01_rules_*`, further down)
instantiates the engines with the model of urlfilter's rule semantics.  The
translator tie (`C01_tie_*`) follows, and last four theorems about
`AGH/Model/FilterConfig.lean`, the admin API's view of the rule lists and of
the protection switch (`Cfg`), which the driver's configuration-sequence mode
steps through.

Domain: queries the server answers itself before filtering (`reserved`: AAAA
while AAAA is disabled, the Firefox canary name, the health-check name, names
of DHCP clients under the local domain) are outside the property.  Legacy
rewrites, the hosts container and the safe-browsing / parental verdicts are
part of the model (`precededByOther`, `otherBlocks`), but the property makes no
claim about them beyond their order; safe search is not modelled.
-/
import AGH.Lemmas.FilterHandle
import AGH.Lemmas.FilterRules
import AGH.Lemmas.FilterPattern
import AGH.Model.FilterConfig
import AGH.Gen.C01Stages
namespace AGH.Filter
open AGH AGH.Bytes

/-- Both monitors at once: they sort a request into the same classes and, where it is forwarded, ask about the same
scan of the upstream's answer, so one walk through the classes serves `C01.check` and `C02.check`. -/
theorem handle_meets_monitors (e : Engines) (hwf : EnginesWF e) (c : Conf) (u : Upstream) (q : Query) :
    C01.specOK e c u q (handle e c u q) = true ∧ C02.specOK e c u q (handle e c u q) = true := by
  unfold C01.specOK C01.check C02.specOK C02.check
  cases hres : reserved c q
  case true => simp
  rw [handle_eq_main e c u q hres]
  simp only [Bool.false_eq_true, if_false]
  cases hpre : precededByOther e c q
  case true =>
    -- C01 claims nothing; C02 wants the client's own question back after a legacy rewrite
    refine ⟨by simp, ?_⟩
    cases hrwc : (filteringOn c && qhost q != [] && legacyRewritten e c (qhost q) q.qtype)
    · simp
    · simp only [Bool.and_eq_true, bne_iff_ne, ne_eq] at hrwc
      rw [handleMain_rewritten e c u q hrwc.1.1 hrwc.1.2 hrwc.2]
      by_cases hcn : rewriteCanon e c q ≠ [] ∧ rewriteIPs e c q = []
      · rw [if_pos hcn]; simp [Upstream.exchange]
      · rw [if_neg hcn]; simp [cnameWithIPs, reply]
  have hrwc : (filteringOn c && qhost q != [] && legacyRewritten e c (qhost q) q.qtype) = false := by
    rw [precededByOther, Bool.and_eq_false_iff, Bool.or_eq_false_iff] at hpre
    rw [Bool.and_eq_false_iff]
    exact hpre.imp_right And.left
  obtain ⟨hblk, hsvc, hoth, _⟩ := verdict_class e hwf c q hpre
  simp only [hrwc, Bool.false_eq_true, if_false, Bool.false_or]
  cases hb : blockedByRules e c q
  case true =>
    have hv := hblk hb
    rw [handleMain_ruleBlock e hwf c u q hpre hv.1 hv.2.1]
    simp only [if_true, List.isEmpty_nil, Bool.not_true, Bool.false_eq_true, if_false, Bool.true_or,
      genDNSFilterMessage_syntheticOK_hostRuleIPs e hwf c q _ hv.2.2]
    rcases hv.2.1 with h | h <;> simp [h]
  cases hs : serviceMayBlock e c q
  case true =>
    have hv := hsvc hb hs
    have hsyn := genDNSFilterMessage_syntheticOK c q (verdict e c q) [] fun _ _ => by rw [hv.2.2]; rfl
    rw [handleMain_ruleBlock e hwf c u q hpre hv.1 (Or.inr hv.2.1)]
    simp [hsyn, hv.2.1]
  cases hob : otherBlocks e c q
  case true =>
    -- safe browsing / parental: no claim, but the model does answer
    rw [handleMain_verdict e hwf c u q hpre, if_pos (hoth hb hs hob).1]
    simp
  simp only [Bool.or_self, Bool.false_eq_true, if_false]
  obtain ⟨h1, h2, h3⟩ := handleMain_forward e hwf c u q hpre hb hs hob
  cases happ : respFilterApplies e c q
  · rw [h1 happ]
    simp [Upstream.exchange, deliveredUnchanged, forwardLog]
  cases hfind : u.answer.find? (offending e c) with
  | none =>
    have hclean : ∀ rr ∈ u.answer, offending e c rr = false := fun rr hrr => by
      simpa using List.find?_eq_none.mp hfind rr hrr
    have hany : u.answer.any (offending e c) = false := by rw [any_eq_isSome_find?, hfind]; rfl
    rw [h2 happ hclean]
    simp [Upstream.exchange, hany, deliveredUnchanged_stripC, forwardLog]
  | some x =>
    -- the first offending record: C01 only asks that the query went out once and came back under its own question
    have hany : u.answer.any (offending e c) = true := by rw [any_eq_isSome_find?, hfind]; rfl
    obtain ⟨hox, pre, post, hsplit, hpre'⟩ := List.find?_eq_some_iff_append.mp hfind
    obtain ⟨h, t, hfb⟩ := firstBlocked_of_offending hox
    have hqn := genDNSFilterMessage_echoes c q (blockResult e c h t)
    have hrep := firstBlocked_replacement e hwf c q hfb
    rw [h3 happ hsplit (fun y hy => Bool.not_eq_true' _ ▸ hpre' y hy) hfb]
    exact ⟨by simp [hqn.1, hqn.2, hany], by simp [hrep, hsplit, sameModuloStrip_stripC c pre x post]⟩

/-- The model satisfies the executable spec predicate the driver evaluates on
the implementation — for all engines, configurations (rewrite tables, hosts
containers, safe-browsing / parental verdicts included), upstream answers and queries. -/
theorem C01_model_meets_spec (e : Engines) (hwf : EnginesWF e) (c : Conf) (u : Upstream) (q : Query) :
    C01.specOK e c u q (handle e c u q) = true :=
  (handle_meets_monitors e hwf c u q).1

/-- **Blocked ⇒ answered locally, never forwarded.**  With protection and
filtering on, a name that no legacy rewrite / hosts entry answers first
(`blockedByRules` says so explicitly) and that matches a blocking rule /
hosts-style line / blocked service and no allow rule gets the blocking mode's
synthetic response, the upstream is not contacted at all, and the query-log
record says "filtered". -/
theorem C01_blocked_not_forwarded (e : Engines) (hwf : EnginesWF e) (c : Conf) (u : Upstream) (q : Query)
    (hdom : reserved c q = false) (hb : blockedByRules e c q = true) :
    ∃ m ql, handle e c u q = .done m [] (some ql) ∧
      syntheticOK c q (hostRuleIPs e c (qhost q) q.qtype q.qtype) m = true ∧
      ql.isFiltered = true ∧ (ql.reason = .blockList ∨ ql.reason = .blockedService) := by
  have hpre := notPreceded_of_blocked hb
  have hv := (verdict_class e hwf c q hpre).1 hb
  exact ⟨_, _, by rw [handle_eq_main e c u q hdom, handleMain_ruleBlock e hwf c u q hpre hv.1 hv.2.1],
    genDNSFilterMessage_syntheticOK_hostRuleIPs e hwf c q _ hv.2.2, rfl, hv.2.1⟩

/-- **No upstream data.**  The whole outcome of a blocked query is the same
whatever the upstream would have answered. -/
theorem C01_blocked_independent_of_upstream (e : Engines) (hwf : EnginesWF e) (c : Conf)
    (u u' : Upstream) (q : Query) (hdom : reserved c q = false) (hb : blockedByRules e c q = true) :
    handle e c u q = handle e c u' q := by
  have hpre := notPreceded_of_blocked hb
  have hv := (verdict_class e hwf c q hpre).1 hb
  rw [handle_eq_main e c u q hdom, handle_eq_main e c u' q hdom, handleMain_ruleBlock e hwf c u q hpre hv.1 hv.2.1,
    handleMain_ruleBlock e hwf c u' q hpre hv.1 hv.2.1]

/-- **The blocking-mode table** (5 modes × A / AAAA / HTTPS / other): the
response generated for a filtered result is the one the mode prescribes. -/
theorem C01_mode_table (c : Conf) (q : Query) (res : Result)
    (hA : q.qtype = tA → ∀ ip ∈ res.ips, ip.v6 = false)
    (hAAAA : q.qtype = tAAAA → ∀ ip ∈ res.ips, ip.v6 = true) :
    syntheticOK c q res.ips (genDNSFilterMessage c q res) = true :=
  genDNSFilterMessage_syntheticOK c q res res.ips fun _ hq =>
    (filter_v6_eq_self _ _ (by
      rcases hq with h | h <;> rw [h]
      · exact hA h
      · exact hAAAA h)).symm

/-- **Allowed ⇒ forwarded intact.**  A name (not answered first by a legacy
rewrite or the hosts container) matched by an allow rule is sent upstream
exactly once and the upstream's message is delivered as is, whatever the block
lists, services, safe browsing and parental say.  `_hp` is the property's
wording; with protection off the same holds (`C01_protection_off`). -/
theorem C01_allow_forwarded (e : Engines) (hwf : EnginesWF e) (c : Conf) (u : Upstream) (q : Query)
    (hdom : reserved c q = false) (hpre : precededByOther e c q = false)
    (_hp : protectionOn c = true) (hf : filteringOn c = true)
    (ha : allowedName e c (qhost q) q.qtype = true) :
    ∃ ql, handle e c u q = .done (u.exchange q) [q] (some ql) ∧ ql.isFiltered = false := by
  have hb : blockedByRules e c q = false := by
    simp [blockedByRules, ruleBlockedName, serviceBlockedName, ha]
  have hs : serviceMayBlock e c q = false := by simp [serviceMayBlock, hf]
  have hob : otherBlocks e c q = false := by simp [otherBlocks, hf, ha]
  have happ : respFilterApplies e c q = false := by simp [respFilterApplies, ha]
  exact ⟨_, by rw [handle_eq_main e c u q hdom, (handleMain_forward e hwf c u q hpre hb hs hob).1 happ], rfl⟩

/-- **No match ⇒ forwarded intact.**  A name that nothing answers or blocks
(no rewrite / hosts entry, no rule or service block, no safe-browsing /
parental verdict) is sent upstream exactly once; if no answer record reveals a
blocked name (C02) the upstream's message is delivered with the original
question, rcode and records.  The one edit the code makes: where response
filtering runs and AAAA is disabled, HTTPS records lose their IPv6 hints. -/
theorem C01_nomatch_forwarded (e : Engines) (hwf : EnginesWF e) (c : Conf) (u : Upstream) (q : Query)
    (hdom : reserved c q = false) (hpre : precededByOther e c q = false)
    (hb : blockedByRules e c q = false) (hs : serviceMayBlock e c q = false) (hob : otherBlocks e c q = false)
    (hclean : ∀ rr ∈ u.answer, offending e c rr = false) :
    ∃ ql, ql.isFiltered = false ∧
      handle e c u q =
        .done { u.exchange q with
                answer := if respFilterApplies e c q && c.aaaaDisabled then u.answer.map stripRR else u.answer }
          [q] (some ql) := by
  obtain ⟨h1, h2, _⟩ := handleMain_forward e hwf c u q hpre hb hs hob
  refine ⟨forwardLog (verdict e c q), rfl, ?_⟩
  rw [handle_eq_main e c u q hdom]
  cases happ : respFilterApplies e c q
  · exact h1 happ
  · rw [h2 happ hclean, map_stripC, Bool.true_and]

/-- The common case of the previous theorem: AAAA enabled ⇒ literally the upstream's message. -/
theorem C01_nomatch_forwarded_exact (e : Engines) (hwf : EnginesWF e) (c : Conf) (u : Upstream) (q : Query)
    (hdom : reserved c q = false) (hpre : precededByOther e c q = false)
    (hb : blockedByRules e c q = false) (hs : serviceMayBlock e c q = false) (hob : otherBlocks e c q = false)
    (hclean : ∀ rr ∈ u.answer, offending e c rr = false) (hd : c.aaaaDisabled = false) :
    ∃ ql, ql.isFiltered = false ∧ handle e c u q = .done (u.exchange q) [q] (some ql) := by
  obtain ⟨ql, hnf, h⟩ := C01_nomatch_forwarded e hwf c u q hdom hpre hb hs hob hclean
  refine ⟨ql, hnf, ?_⟩
  rw [h]; simp [hd, Upstream.exchange]

/-- **Protection off ⇒ nothing is blocked**: whatever the rules, services,
safe browsing and parental say, a query that no legacy rewrite / hosts entry
answers (those are not blocks and do not depend on protection) is forwarded
once and the upstream's message delivered untouched. -/
theorem C01_protection_off (e : Engines) (hwf : EnginesWF e) (c : Conf) (u : Upstream) (q : Query)
    (hdom : reserved c q = false) (hpre : precededByOther e c q = false) (hp : protectionOn c = false) :
    ∃ ql, ql.isFiltered = false ∧ handle e c u q = .done (u.exchange q) [q] (some ql) := by
  have hb : blockedByRules e c q = false := by simp [blockedByRules, hp]
  have hs : serviceMayBlock e c q = false := by simp [serviceMayBlock, hp]
  have hob : otherBlocks e c q = false := by simp [otherBlocks, hp]
  have happ : respFilterApplies e c q = false := by simp [respFilterApplies, hp]
  exact ⟨_, rfl, by rw [handle_eq_main e c u q hdom, (handleMain_forward e hwf c u q hpre hb hs hob).1 happ]⟩

/-- … and with protection off nothing is ever recorded as filtered, whatever the
rewrite table and the hosts container hold. -/
theorem C01_protection_off_never_filtered (e : Engines) (c : Conf) (q : Query)
    (hp : protectionOn c = false) (res : Result)
    (h : checkHost e c (trimDot q.name) q.qtype (settings c) = .ok res) : res.isFiltered = false := by
  rw [checkHost_eq, matchHost_off e c _ _ (.inl hp)] at h
  by_cases hq : qhost q = []
  · rw [if_pos hq] at h
    cases h; rfl
  · rw [if_neg hq] at h
    by_cases h1 : (filteringOn c && legacyRewritten e c (qhost q) q.qtype) = true
    · rw [if_pos h1] at h
      cases h; exact rewriteResult_notFiltered _ _ _ _
    · rw [if_neg h1] at h
      by_cases h2 : (filteringOn c && hostsKnows e c (qhost q) q.qtype) = true
      · rw [if_pos h2] at h
        cases h; exact matchSysHosts_notFiltered _ _ _ _ _
      · rw [if_neg h2] at h
        cases h
        rw [checkAfterRules_eq, hp]
        rfl

/-- **Filtering off for the client ⇒ not subject to rule lists**: the outcome
does not depend on the block and allow engines at all, nor on the rewrite table's
sort or the hosts container's reverse lookups (only blocked services, safe
browsing and parental, which are not rule lists, can still act). -/
theorem C01_client_filtering_off (e e' : Engines) (c : Conf) (u : Upstream) (q : Query)
    (hf : filteringOn c = false) (hsvc : e.svc = e'.svc) (hsb : e.sb = e'.sb) (hpa : e.parental = e'.parental) :
    handle e c u q = handle e' c u q := by
  have hck : checkHost e c (trimDot q.name) q.qtype (settings c) =
      checkHost e' c (trimDot q.name) q.qtype (settings c) := by
    rw [checkHost_filtOff e c q hf, checkHost_filtOff e' c q hf, checkAfterRules_eq, checkAfterRules_eq, hsvc, hsb, hpa]
  have hfwd : ∀ res, forwardStage e c u q res = forwardStage e' c u q res := by
    intro res
    have hoff : (res.reason = .allowList ∨ (!(settings c).protection) = true ∨ (!(settings c).filtering) = true) := by
      rw [settings_eq, hf]; exact Or.inr (Or.inr rfl)
    unfold forwardStage
    rw [if_pos hoff, if_pos hoff]
  have hmain : handleMain e c u q = handleMain e' c u q := by
    unfold handleMain
    rw [hck]
    cases checkHost e' c (trimDot q.name) q.qtype (settings c) with
    | error f => rfl
    | ok res => simp only [hfwd]
  unfold handle dhcpStage
  rw [hmain]

/-- … and with filtering off and neither a blocked service in force nor safe
browsing / parental matching, the query is simply forwarded. -/
theorem C01_client_filtering_off_forwarded (e : Engines) (hwf : EnginesWF e) (c : Conf) (u : Upstream) (q : Query)
    (hdom : reserved c q = false) (hf : filteringOn c = false) (hs : serviceMayBlock e c q = false)
    (hob : otherBlocks e c q = false) :
    ∃ ql, ql.isFiltered = false ∧ handle e c u q = .done (u.exchange q) [q] (some ql) := by
  have hb : blockedByRules e c q = false := by simp [blockedByRules, hf]
  have happ : respFilterApplies e c q = false := by simp [respFilterApplies, hf]
  exact ⟨_, rfl, by
    rw [handle_eq_main e c u q hdom,
      (handleMain_forward e hwf c u q (notPreceded_of_filtOff e c q hf) hb hs hob).1 happ]⟩

/-- **The allow engine is consulted first**: any match there (even a
blocking-style line put into an allow list) makes the name allow-listed,
whatever the block engine says. -/
theorem C01_allow_engine_first (e : Engines) (hwf : EnginesWF e) (c : Conf) (h : Bytes) (t : Nat) (r : EngRes)
    (hp : protectionOn c = true) (hf : filteringOn c = true)
    (ha : e.allow (reqFor c h t) = some r) :
    matchHost e h t (settings c) = .ok { reason := .allowList } := by
  have hal : allowedName e c h t = true := by rw [allowedName, ha]; rfl
  rw [matchHost_on e hwf c h t hp hf, ruleResult, if_pos hal]

/-- An `@@` exception among block lists / custom rules outranks blocked
services (and safe browsing / parental). -/
theorem C01_exception_beats_service (e : Engines) (hwf : EnginesWF e) (c : Conf) (u : Upstream) (q : Query)
    (hdom : reserved c q = false) (hpre : precededByOther e c q = false)
    (hp : protectionOn c = true) (hf : filteringOn c = true)
    (hx : e.block (reqFor c (qhost q) q.qtype) = some (.net true)) :
    ∃ ql, handle e c u q = .done (u.exchange q) [q] (some ql) ∧ ql.isFiltered = false :=
  C01_allow_forwarded e hwf c u q hdom hpre hp hf (by simp [allowedName, hx])

/-- **A legacy rewrite precedes every block.**  With filtering on for the
client, a name to which a legacy rewrite applies is answered by the rewrite —
the canonical name resolved upstream and the CNAME prepended, or the rewrite's
addresses served locally — and the outcome does not depend on the allow / block
engines, the services, safe browsing, parental or the hosts container at all:
a blocking rule for the same name is never consulted, and neither the canonical
name nor the records the upstream returns for it are checked against the rules. -/
theorem C01_rewrite_precedes_block (e : Engines) (c : Conf) (u : Upstream) (q : Query)
    (hdom : reserved c q = false) (hf : filteringOn c = true) (hq : qhost q ≠ [])
    (hrw : legacyRewritten e c (qhost q) q.qtype = true) :
    handle e c u q =
      if rewriteCanon e c q ≠ [] ∧ rewriteIPs e c q = [] then
        .done { u.exchange { q with name := fqdn (rewriteCanon e c q) } with
                qname := q.name,
                answer := { name := q.name, ttl := c.ttl, data := .cname (fqdn (rewriteCanon e c q)) } ::
                  (u.exchange { q with name := fqdn (rewriteCanon e c q) }).answer }
          [{ q with name := fqdn (rewriteCanon e c q) }]
          (some { reason := .rewritten, isFiltered := false, svcName := [], origAnswer := none })
      else
        .done (cnameWithIPs c q (rewriteIPs e c q) (rewriteCanon e c q)) []
          (some { reason := .rewritten, isFiltered := false, svcName := [], origAnswer := none }) := by
  rw [handle_eq_main e c u q hdom, handleMain_rewritten e c u q hf hq hrw]

/-- Corollary: two systems that differ only in rule lists, services and
safe-browsing / parental / hosts verdicts treat a rewritten name identically. -/
theorem C01_rewrite_independent_of_rules (e e' : Engines) (c : Conf) (u : Upstream) (q : Query)
    (hdom : reserved c q = false) (hf : filteringOn c = true) (hq : qhost q ≠ [])
    (hsrt : e.srt = e'.srt) (hrw : legacyRewritten e c (qhost q) q.qtype = true) :
    handle e c u q = handle e' c u q := by
  have hrw' : legacyRewritten e' c (qhost q) q.qtype = true := by
    unfold legacyRewritten at hrw ⊢; rw [← hsrt]; exact hrw
  have h1 : rewriteCanon e c q = rewriteCanon e' c q := by simp only [rewriteCanon, hsrt]
  have h2 : rewriteIPs e c q = rewriteIPs e' c q := by simp only [rewriteIPs, hsrt]
  rw [C01_rewrite_precedes_block e c u q hdom hf hq hrw, C01_rewrite_precedes_block e' c u q hdom hf hq hrw',
    h1, h2]

/-- The hosts container answers before the rule engines as well (A / AAAA / PTR
it knows), protection on or off. -/
theorem C01_hosts_precede_block (e : Engines) (c : Conf) (u : Upstream) (q : Query)
    (hdom : reserved c q = false) (hf : filteringOn c = true) (hq : qhost q ≠ [])
    (hrw : legacyRewritten e c (qhost q) q.qtype = false)
    (hk : hostsKnows e c (qhost q) q.qtype = true) :
    ∃ vals, handle e c u q = .done (hostsResponse c q vals) []
      (some { reason := .autoHosts, isFiltered := false, svcName := [], origAnswer := none }) :=
  ⟨_, by rw [handle_eq_main e c u q hdom, handleMain_hosts e c u q hf hq hrw hk]⟩

/-- **Protection paused** (`protection_disabled_until` in the future) is protection off … -/
theorem C01_protection_paused (e : Engines) (hwf : EnginesWF e) (c : Conf) (u : Upstream) (q : Query)
    (hdom : reserved c q = false) (hpre : precededByOther e c q = false) (hp : c.pause = .future) :
    ∃ ql, ql.isFiltered = false ∧ handle e c u q = .done (u.exchange q) [q] (some ql) :=
  C01_protection_off e hwf c u q hdom hpre (by simp [protectionOn, hp])

/-- … and a pause that has run out is protection ON, whatever the stored flag says
(`UpdatedProtectionStatus` answers before the flag is rewritten). -/
theorem C01_pause_expired_is_on (c : Conf) (hp : c.pause = .past) :
    protectionOn c = true ∧ (settings c).protection = true := by
  rw [settings_eq]; simp [protectionOn, hp]

/-- **Blocked-services pause schedule**: while the schedule in force contains now,
no service blocks — the global one for clients without own services … -/
theorem C01_services_schedule_pauses (e : Engines) (c : Conf) (q : Query)
    (hcl : ∀ cl, c.client = some cl → cl.useOwnBlockedServices = false) (hs : c.schedNow = true) :
    servicesInForce c = [] ∧ serviceBlockedName e c (qhost q) q.qtype = false ∧ serviceMayBlock e c q = false := by
  have h0 : servicesInForce c = [] := by
    unfold servicesInForce
    cases hc : c.client with
    | none => simp [hs]
    | some cl => simp [hcl cl hc, hs]
  exact ⟨h0, by simp [serviceBlockedName, h0], by simp [serviceMayBlock, h0]⟩

/-- … and the client's own set and own schedule replace the global ones entirely
when the persistent client uses own blocked services. -/
theorem C01_services_client_override (c : Conf) (cl : ClientConf) (hc : c.client = some cl)
    (ho : cl.useOwnBlockedServices = true) :
    servicesInForce c = (if cl.schedNow then [] else cl.services) ∧
    (settings c).services = (if cl.schedNow then [] else cl.services) := by
  rw [settings_eq]
  simp [servicesInForce, hc, ho]

/-- "ads.example" -/
def nAds : Bytes := [97, 100, 115, 46, 101, 120, 97, 109, 112, 108, 101]
/-- "ok.ads.example" -/
def nOkAds : Bytes := [111, 107, 46, 97, 100, 115, 46, 101, 120, 97, 109, 112, 108, 101]

/-- a toy engine pair: `ads.example` is blocked by a network rule, `ok.ads.example` is
matched by a blocking rule too but allow-listed -/
def toyEngines : Engines where
  allow := fun r => if r.host = nOkAds then some (.net true) else none
  block := fun r => if r.host = nAds ∨ r.host = nOkAds then some (.net false) else none
  svc := fun _ _ => false

theorem toyEngines_wf : EnginesWF toyEngines where
  allow_empty := by intro r h; simp [toyEngines, h, nOkAds]
  block_empty := by intro r h; simp [toyEngines, h, nAds, nOkAds]
  allow_hosts := by intro r v4 v6 h; simp only [toyEngines] at h; split at h <;> simp at h
  block_hosts := by intro r v4 v6 h; simp only [toyEngines] at h; split at h <;> simp at h
  block_v4 := by intro r v4 v6 h; simp only [toyEngines] at h; split at h <;> simp at h
  block_v6 := by intro r v4 v6 h; simp only [toyEngines] at h; split at h <;> simp at h

def toyConf : Conf :=
  { mode := .nxdomain, bip4 := none, bip6 := none, ttl := 10, protEnabled := true, pause := .none,
    filtering := true, aaaaDisabled := false, schedNow := false, services := [], client := none,
    clientIP := { v6 := false, val := 167772161 } }

/-- "Ads.Example." A -/
def toyQ : Query := { name := [65, 100, 115, 46, 69, 120, 97, 109, 112, 108, 101, 46], qtype := tA }
/-- "ok.ads.example." A -/
def toyQ2 : Query := { name := [111, 107, 46, 97, 100, 115, 46, 101, 120, 97, 109, 112, 108, 101, 46], qtype := tA }

/-- "oK.Ads.example." A -/
def toyQ2Mixed : Query := { name := [111, 75, 46, 65, 100, 115, 46, 101, 120, 97, 109, 112, 108, 101, 46], qtype := tA }

/-- the hypotheses of `C01_blocked_not_forwarded` are satisfiable … -/
example : reserved toyConf toyQ = false ∧ blockedByRules toyEngines toyConf toyQ = true := by
  decide +kernel

/-- … and so are those of `C01_allow_forwarded`. -/
example : reserved toyConf toyQ2 = false ∧ protectionOn toyConf = true ∧ filteringOn toyConf = true ∧
    allowedName toyEngines toyConf (qhost toyQ2) tA = true := by
  decide +kernel

/-- concrete instance: NXDOMAIN with a SOA, nothing sent upstream -/
example : ∀ u, ∃ m ql, handle toyEngines toyConf u toyQ = .done m [] (some ql) ∧ m.rcode = rcNXDomain ∧ m.answer = [] := by
  intro u
  refine ⟨msgNXDOMAIN toyConf toyQ, { reason := .blockList, isFiltered := true, svcName := [], origAnswer := none }, ?_, rfl, rfl⟩
  rfl

/-- **The question is never re-spelled.**  Whatever the server answers
(blocked, forwarded, rewritten, from the hosts container), the question section
of the response carries the name and type of the request BYTE FOR BYTE (letter
case included; no hypothesis beyond the name not being a DHCP-client name under
the local domain); and when no legacy rewrite / hosts entry answers first and
neither safe browsing nor parental control blocks, the only question the
upstream is ever asked is again exactly the client's. -/
theorem C01_question_case_preserved (e : Engines) (hwf : EnginesWF e) (c : Conf) (u : Upstream) (q : Query)
    (m : Msg) (log : List Query) (ql : Option QLog) (h : handle e c u q = .done m log ql) :
    (dhcpHost c q = none → m.qname = q.name ∧ m.qtype = q.qtype) ∧
    (reserved c q = false → precededByOther e c q = false → otherBlocks e c q = false → ∀ x ∈ log, x = q) := by
  refine ⟨fun hd => (handle_echoes e c u q hd).done h, ?_⟩
  intro hdom hpre hob
  rw [handle_eq_main e c u q hdom] at h
  exact (handleMain_log e hwf c u q hpre hob).done h

/-- non-vacuity: the mixed-case `Ads.Example.` is blocked and the answer echoes that
spelling, not the lower-case one the rules were matched against -/
example : ∀ u, ∃ m ql, handle toyEngines toyConf u toyQ = .done m [] ql ∧ m.qname = toyQ.name ∧
    m.qname ≠ lower toyQ.name := by
  intro u
  refine ⟨msgNXDOMAIN toyConf toyQ, _, rfl, rfl, by decide⟩

/-- non-vacuity: a forwarded mixed-case query reaches the upstream in the client's spelling -/
example : ∀ u, ∃ m ql, handle toyEngines toyConf u toyQ2Mixed = .done m [toyQ2Mixed] ql ∧ m.qname = toyQ2Mixed.name := by
  intro u
  refine ⟨u.exchange toyQ2Mixed, _, rfl, rfl⟩

/-! ## Layer B: theorems about the MODEL of urlfilter's rule semantics

These speak about `AGH/Model/FilterRules.lean`, a model of a library; its
agreement with the real urlfilter engines is checked by correspondence only. -/

/-- The engines computed from rule lists satisfy the interface contract Layer A assumes. -/
theorem C01_rules_engines_wf (block allow : List Rule) : EnginesWF (ruleEngines block allow) := by
  have hempty : ∀ rs (r : DNSReq), r.host = [] → engineMatch rs (reqInfo r) = none := by
    intro rs r h; simp [engineMatch, reqInfo, h]
  have hhosts : ∀ rs (q : ReqInfo) v4 v6, engineMatch rs q = some (.hosts v4 v6) →
      (v4.isEmpty && v6.isEmpty) = false ∧ (∀ ip ∈ v4, ip.v6 = false) ∧ (∀ ip ∈ v6, ip.v6 = true) := by
    intro rs q v4 v6
    -- the exits of `engineMatch`: empty name, a network rule, no host hit, host hits
    fun_cases engineMatch rs q with
    | case1 | case2 | case3 => nofun
    | case4 _ _ hits hne =>
      intro h
      cases h
      exact ⟨split_by_family_nonempty _ (by simpa using hne),
        fun ip hip => by simpa using (List.mem_filter.mp hip).2, fun ip hip => (List.mem_filter.mp hip).2⟩
  exact {
    allow_empty := fun r h => hempty allow r h
    block_empty := fun r h => hempty block r h
    allow_hosts := fun r v4 v6 h => (hhosts allow _ v4 v6 h).1
    block_hosts := fun r v4 v6 h => (hhosts block _ v4 v6 h).1
    block_v4 := fun r v4 v6 h => (hhosts block _ v4 v6 h).2.1
    block_v6 := fun r v4 v6 h => (hhosts block _ v4 v6 h).2.2 }

/-- `@@…$important` beats everything. -/
theorem C01_rules_important_exception_wins (rs : List Rule) (q : ReqInfo) (hq : q.host ≠ [])
    (h : ∃ r ∈ matching rs q, r.whitelist = true ∧ r.important = true) :
    engineMatch rs q = some (.net true) := by
  obtain ⟨r, hr, hw, hi⟩ := h
  rw [engineMatch_top rs q hq hr (fun x _ => rank_le (fun _ => hi) (fun _ _ => hw)), hw]

/-- `$important` beats a plain `@@` exception. -/
theorem C01_rules_important_beats_exception (rs : List Rule) (q : ReqInfo) (hq : q.host ≠ [])
    (h : ∃ r ∈ matching rs q, r.whitelist = false ∧ r.important = true)
    (hno : ∀ r ∈ matching rs q, ¬(r.whitelist = true ∧ r.important = true)) :
    engineMatch rs q = some (.net false) := by
  obtain ⟨r, hr, hw, hi⟩ := h
  rw [engineMatch_top rs q hq hr (fun x hx =>
    rank_le (fun _ => hi) (fun hxi hxw => absurd ⟨hxw, hxi.trans hi⟩ (hno x hx))), hw]

/-- a plain `@@` exception beats a plain blocking rule. -/
theorem C01_rules_exception_beats_basic (rs : List Rule) (q : ReqInfo) (hq : q.host ≠ [])
    (h : ∃ r ∈ matching rs q, r.whitelist = true)
    (hno : ∀ r ∈ matching rs q, r.important = false) :
    engineMatch rs q = some (.net true) := by
  obtain ⟨r, hr, hw⟩ := h
  rw [engineMatch_top rs q hq hr (fun x hx =>
    rank_le (fun hxi => Bool.noConfusion ((hno x hx).symm.trans hxi)) (fun _ _ => hw)), hw]

/-- only blocking rules match ⇒ blocked by a network rule. -/
theorem C01_rules_basic_blocks (rs : List Rule) (q : ReqInfo) (hq : q.host ≠ [])
    (h : matching rs q ≠ []) (hno : ∀ r ∈ matching rs q, r.whitelist = false) :
    engineMatch rs q = some (.net false) := by
  obtain ⟨r, hr, htop⟩ := bestRank_exists_top _ h
  rw [engineMatch_top rs q hq hr htop, hno r hr]

/-- hosts-style lines count only when no network rule matches at all. -/
theorem C01_rules_net_over_hosts (rs : List Rule) (q : ReqInfo) (hq : q.host ≠ [])
    (h : matching rs q ≠ []) : ∃ wl, engineMatch rs q = some (.net wl) := by
  obtain ⟨r, hr, htop⟩ := bestRank_exists_top _ h
  exact ⟨_, engineMatch_top rs q hq hr htop⟩

theorem C01_rules_hosts_only (rs : List Rule) (q : ReqInfo) (h : matching rs q = []) :
    engineMatch rs q = none ∨
    engineMatch rs q = some (.hosts ((hostHits (hostRules rs) q.host).filter (fun ip => !ip.v6))
                                     ((hostHits (hostRules rs) q.host).filter (fun ip => ip.v6))) := by
  by_cases hq : q.host = []
  · left; simp [engineMatch, hq]
  · rw [engineMatch_hosts rs q hq h]
    split
    · exact Or.inl rfl
    · exact Or.inr rfl

/-- `$dnstype` filters: a rule restricted to other types, or excluding this one, does not match. -/
theorem C01_rules_dnstype_filters (r : NetRule) (q : ReqInfo)
    (h : q.dnsType ∈ r.restrTypes ∨ (r.permTypes ≠ [] ∧ q.dnsType ∉ r.permTypes)) :
    netMatch r q = false := by
  have : matchDNSType r q.dnsType = false := by
    unfold matchDNSType
    rcases h with h | ⟨h1, h2⟩
    · have hne : r.restrTypes.isEmpty = false := List.isEmpty_eq_false_iff.mpr (List.ne_nil_of_mem h)
      simp [hne, h]
    · have hne : r.permTypes.isEmpty = false := List.isEmpty_eq_false_iff.mpr h1
      simp [hne, h2]
  simp [netMatch, this]

/-- `$denyallow` excludes the listed domains and their subdomains. -/
theorem C01_rules_denyallow_excludes (r : NetRule) (q : ReqInfo)
    (h : isDomainOrSubdomainOfAny q.host r.denyallow = true) : netMatch r q = false := by
  have hne : r.denyallow.isEmpty = false := by
    cases hd : r.denyallow with
    | nil => rw [hd] at h; simp [isDomainOrSubdomainOfAny] at h
    | cons _ _ => rfl
  have : matchRequestDomain r q.host = false := by
    unfold matchRequestDomain
    simp only [hne, Bool.false_eq_true, if_false]
    split <;> simp [h]
  simp [netMatch, this]

/-- `$client` scopes a rule: an excluded client, or one outside a non-empty permitted set, is not matched. -/
theorem C01_rules_client_scopes (r : NetRule) (q : ReqInfo)
    (h : r.restrClients.containsAny q.clientName q.clientIP = true ∨
         (r.permClients.len ≠ 0 ∧ r.permClients.containsAny q.clientName q.clientIP = false)) :
    netMatch r q = false := by
  have : matchClient r q.clientName q.clientIP = false := by
    unfold matchClient
    rcases h with h | ⟨h1, h2⟩
    · -- a set that contains the client is not empty
      have hne : r.restrClients.len ≠ 0 := by
        intro h0
        have hh : r.restrClients.hosts = [] ∧ r.restrClients.nets = [] := by
          unfold Clients.len at h0
          cases hx : r.restrClients.hosts <;> cases hy : r.restrClients.nets <;> simp_all
        unfold Clients.containsAny at h
        rw [hh.1, hh.2] at h
        cases hip : q.clientIP <;> simp [hip] at h
      simp [hne, h]
    · simp [h1, h2]
  simp [netMatch, this]

/-- What `||domain^` means (model of urlfilter's pattern language): it matches the
domain itself, in any letter case of the rule …  (`hne`, here and in the next two, is
the property's wording: `domainPattern_iff` does not need it.) -/
theorem C01_rules_domain_pattern_self (d : Bytes) (hd : d.all plainByte = true) (hne : d ≠ []) :
    searchFrom (.startURL :: compileBody (d ++ [94])) (httpScheme ++ lower d) true = true :=
  (domainPattern_iff d (lower d) hd (all_plain_lower hd)).mpr (Or.inl (lower_idem d))

/-- … and every sub-domain `sub.domain` (sub made of host-name bytes). -/
theorem C01_rules_domain_pattern_sub (d sub : Bytes) (hd : d.all plainByte = true) (hne : d ≠ [])
    (hsub : sub.all plainByte = true) (hsne : sub ≠ []) :
    searchFrom (.startURL :: compileBody (d ++ [94])) (httpScheme ++ (sub ++ dot :: lower d)) true = true := by
  have hall : (sub ++ dot :: lower d).all plainByte = true := by
    rw [List.all_append, List.all_cons, hsub, all_plain_lower hd]
    rfl
  exact (domainPattern_iff d _ hd hall).mpr (Or.inr ⟨sub, lower d, hsne, rfl, lower_idem d⟩)

/-- … and NOTHING else among host names (letters, digits, `-`, `.`, `_`): `||d^`
matches exactly `d` and the names `sub.d`, compared case-insensitively — not
`example.organic`, `notexample.org` or `example.org.evil` for `d = example.org`. -/
theorem C01_rules_domain_pattern_only (d h : Bytes) (hd : d.all plainByte = true) (_hne : d ≠ [])
    (hh : h.all plainByte = true) :
    searchFrom (.startURL :: compileBody (d ++ [94])) (httpScheme ++ h) true = true ↔
      (lower h = lower d ∨ ∃ sub tail, sub ≠ [] ∧ h = sub ++ dot :: tail ∧ lower tail = lower d) :=
  domainPattern_iff d h hd hh

/-- the look-alikes of the property text, concretely -/
example : searchFrom (.startURL :: compileBody ([101, 120, 97, 109, 112, 108, 101, 46, 111, 114, 103] ++ [94]))
      (httpScheme ++ [101, 120, 97, 109, 112, 108, 101, 46, 111, 114, 103, 97, 110, 105, 99]) true = false ∧   -- example.organic
    searchFrom (.startURL :: compileBody ([101, 120, 97, 109, 112, 108, 101, 46, 111, 114, 103] ++ [94]))
      (httpScheme ++ [110, 111, 116, 101, 120, 97, 109, 112, 108, 101, 46, 111, 114, 103]) true = false ∧          -- notexample.org
    searchFrom (.startURL :: compileBody ([101, 120, 97, 109, 112, 108, 101, 46, 111, 114, 103] ++ [94]))
      (httpScheme ++ [101, 120, 97, 109, 112, 108, 101, 46, 111, 114, 103, 46, 101, 118, 105, 108]) true = false := by  -- example.org.evil
  decide +kernel

/-- C01 for engines built from rule lists: the Layer A theorem instantiated with Layer B. -/
theorem C01_rules_blocked_not_forwarded (block allow : List Rule) (c : Conf) (u : Upstream) (q : Query)
    (hdom : reserved c q = false) (hb : blockedByRules (ruleEngines block allow) c q = true) :
    ∃ m ql, handle (ruleEngines block allow) c u q = .done m [] (some ql) ∧
      syntheticOK c q (hostRuleIPs (ruleEngines block allow) c (qhost q) q.qtype q.qtype) m = true ∧
      ql.isFiltered = true ∧ (ql.reason = .blockList ∨ ql.reason = .blockedService) :=
  C01_blocked_not_forwarded _ (C01_rules_engines_wf block allow) c u q hdom hb

/-- … and the spec predicate holds for the model run on any rule lists. -/
theorem C01_rules_model_meets_spec (block allow : List Rule) (c : Conf) (u : Upstream) (q : Query) :
    C01.specOK (ruleEngines block allow) c u q (handle (ruleEngines block allow) c u q) = true :=
  C01_model_meets_spec _ (C01_rules_engines_wf block allow) c u q

/-- **Only ENABLED lists count**: a disabled list contributes no line to the engines. -/
theorem C01_rules_disabled_list_ignored (pre post : List (Bool × List Bytes)) (lines : List Bytes) :
    enabledLines (pre ++ (false, lines) :: post) = enabledLines (pre ++ post) := by
  simp [enabledLines]

/-- **Hosts-style lines block every query type**: if no network rule matches, a
hosts-style line listing the name makes the engine answer with host rules,
whatever the type asked (A, AAAA, HTTPS, MX, …). -/
theorem C01_rules_hosts_line_any_type (rs : List Rule) (hr : HostRule) (q : ReqInfo)
    (hmem : Rule.host hr ∈ rs) (hname : q.host ∈ hr.names) (hq : q.host ≠ [])
    (hnone : matching rs q = []) :
    ∃ v4 v6, engineMatch rs q = some (.hosts v4 v6) ∧ (v4.isEmpty && v6.isEmpty) = false := by
  have hhit : hr.ip ∈ hostHits (hostRules rs) q.host :=
    List.mem_flatMap.mpr ⟨hr, List.mem_filterMap.mpr ⟨.host hr, hmem, rfl⟩,
      List.mem_map.mpr ⟨q.host, List.mem_filter.mpr ⟨hname, by simp⟩, rfl⟩⟩
  have hne : (hostHits (hostRules rs) q.host).isEmpty = false := by
    cases hl : hostHits (hostRules rs) q.host with
    | nil => rw [hl] at hhit; cases hhit
    | cons _ _ => rfl
  rw [engineMatch_hosts rs q hq hnone, hne]
  exact ⟨_, _, rfl, split_by_family_nonempty _ hne⟩

/-! ### Non-vacuity (Layer B): a four-line list, parsed from text -/

/-- `||ads.example^`, `@@||ok.ads.example^$important`, `0.0.0.0 hosts.example`, `||tracker.example^` -/
def exLines : List Bytes :=
  [[124, 124, 97, 100, 115, 46, 101, 120, 97, 109, 112, 108, 101, 94],
   [64, 64, 124, 124, 111, 107, 46, 97, 100, 115, 46, 101, 120, 97, 109, 112, 108, 101, 94, 36, 105, 109, 112, 111, 114, 116, 97, 110, 116],
   [48, 46, 48, 46, 48, 46, 48, 32, 104, 111, 115, 116, 115, 46, 101, 120, 97, 109, 112, 108, 101],
   [124, 124, 116, 114, 97, 99, 107, 101, 114, 46, 101, 120, 97, 109, 112, 108, 101, 94]]

def exBlock : List Rule := (parseLines exLines).getD []

example : exBlock.length = 4 := by decide +kernel

/-- "X.Ads.Example." A -/
def exQ1 : Query := { name := [88, 46, 65, 100, 115, 46, 69, 120, 97, 109, 112, 108, 101, 46], qtype := tA }
/-- "ok.ads.example." A -/
def exQ2 : Query := { name := [111, 107, 46, 97, 100, 115, 46, 101, 120, 97, 109, 112, 108, 101, 46], qtype := tA }
/-- "hosts.example." AAAA -/
def exQ3 : Query := { name := [104, 111, 115, 116, 115, 46, 101, 120, 97, 109, 112, 108, 101, 46], qtype := tAAAA }

set_option maxRecDepth 8000 in
/-- a sub-domain in mixed case is blocked by `||ads.example^` (hypotheses of `C01_rules_blocked_not_forwarded`) … -/
example : reserved toyConf exQ1 = false ∧ blockedByRules (ruleEngines exBlock []) toyConf exQ1 = true := by decide +kernel

set_option maxRecDepth 8000 in
/-- … the `@@…$important` exception wins over it (hypotheses of `C01_allow_forwarded`) … -/
example : allowedName (ruleEngines exBlock []) toyConf (qhost exQ2) tA = true ∧
    blockedByRules (ruleEngines exBlock []) toyConf exQ2 = false := by decide +kernel

set_option maxRecDepth 8000 in
/-- … and a hosts-style line blocks every query type. -/
example : blockedByRules (ruleEngines exBlock []) toyConf exQ3 = true := by decide +kernel

/-! ## Translator tie: structural facts regenerated from the tree on every run
(`/verif/extract/cmd/c01` → `AGH/Gen/C01Stages.lean`).  The model's shape —
`handle` = initial short-circuits, then request-stage check, then upstream, then
response filter; `checkHost` = rewrites, then the checkers in this order — is
only right if these hold of the code; a deleted, added or reordered stage or
checker, a lost guard in front of `prx.Resolve` / `filterDNSResponse`, or a new
call of the proxy on the request path makes these theorems fail to check. -/

/-- the stage list of `handleDNSRequest` is the one `handle` transcribes, in this
order: initial, DDR, DHCP hosts, DHCP addrs, filtering-before, upstream,
filtering-after, ipset, query log + stats -/
theorem C01_tie_stage_order : Gen.stages = [0, 1, 2, 3, 4, 5, 6, 7, 8] := by decide

/-- blocked ⇒ no upstream call on that path: the `IsFiltered` case of
`filterDNSRequest` sets the response, `processUpstream` has exactly one
`prx.Resolve` and it sits behind `if pctx.Res != nil { return }`, and the only
other proxy call reachable from a request is `genBlockedHost`'s (safe browsing /
parental block host, modelled) -/
theorem C01_tie_blocked_path_has_no_resolve :
    Gen.filteredCaseSetsResponse = true ∧ Gen.upstreamGuarded = true ∧
    Gen.resolveCallsInProcessUpstream = 1 ∧
    Gen.resolveSites = [(0, 1), (1, 1), (2, 0), (3, 1)] := by decide

/-- `filterDNSRequest` dispatches in the order the model does: rewritten-CNAME,
filtered, rewritten / safe search, `$dnsrewrite` / hosts container -/
theorem C01_tie_request_cases : Gen.requestCases = [0, 1, 2, 2] := by decide

/-- `CheckHost`: legacy rewrites first, then hosts container, rule engines,
blocked services, safe browsing, parental, safe search — the order of `checkHost` -/
theorem C01_tie_checker_order :
    Gen.rewritesBeforeCheckers = true ∧ Gen.hostCheckers = [0, 1, 2, 3, 4, 5] := by decide

/-- the response filter runs only behind the protection / from-upstream guard -/
theorem C01_tie_after_response_guard : Gen.afterResponseGuarded = true := by decide

/-- Disabling a list and enabling it again (same URL) puts it back in force with
the source's current content, whether or not that content changed meanwhile —
what the configuration-sequence mode checks the implementation against. -/
theorem C01_config_disable_enable (s : Cfg.State) (en : Cfg.Entry) (hne : s.source en.src ≠ [])
    (_hen : en.enabled = true) :
    (Cfg.setProps s (Cfg.setProps s en en.src false) en.src true).enabled = true ∧
    (Cfg.setProps s (Cfg.setProps s en en.src false) en.src true).file = s.source en.src ∧
    (Cfg.setProps s (Cfg.setProps s en en.src false) en.src true).src = en.src := by
  have hdl : ∀ e : Cfg.Entry, e.src = en.src → e.known = [] →
      (Cfg.download s e).1 = { e with file := s.source en.src, known := s.source en.src,
                                       count := (s.source en.src).length } := by
    intro e hs hk
    unfold Cfg.download
    rw [hs, hk]
    have : (s.source en.src != []) = true := by simpa using hne
    simp [this]
  cases hE : en.enabled
  · -- already disabled: the first call unloads, the second downloads
    simp [Cfg.setProps, hE, hdl]
  · simp [Cfg.setProps, hE, hdl]

/-- **Re-enabling cancels a pause.**  After an accepted `POST /control/protection`
with `enabled = true` (duration absent or 0) protection is on, whatever pause
was pending and whenever the request arrives; and an accepted switch-off
without duration is permanent (no deadline is left behind). -/
theorem C01_reenable_cancels_pause (s : Cfg.State) :
    (Cfg.setProtection s true 0).1 = 200 ∧
    protectionOn (Cfg.setProtection s true 0).2.conf = true ∧
    (∀ w, protectionOn (Cfg.wait (Cfg.setProtection s true 0).2 w).conf = true) ∧
    (∀ w, protectionOn (Cfg.wait (Cfg.setProtection s false 0).2 w).conf = false) := by
  simp [Cfg.setProtection, Cfg.wait, Cfg.State.conf, Cfg.State.pause, protectionOn]

/-- a pause is off until its deadline and on from then, without any further request -/
theorem C01_pause_runs_out (s : Cfg.State) (d w : Nat) (hd : d > 0) :
    protectionOn (Cfg.wait (Cfg.setProtection s false d).2 w).conf = decide (d ≤ w) := by
  simp only [Cfg.setProtection, hd, if_true, Cfg.wait, Cfg.State.conf, Cfg.State.pause, protectionOn]
  by_cases h : s.now + w < s.now + d
  · have : ¬ d ≤ w := by omega
    simp [h, this]
  · have : d ≤ w := by omega
    simp [h, this]

/-- **Sequence version of `C01_model_meets_spec`.**  In every state of a
configuration sequence — whatever admin calls, protection switches, pauses and
waits led to it — a query answered by the model under the rules in force
satisfies the C01 monitor. -/
theorem C01_config_step_meets_spec (s : Cfg.State) (block allow : List Rule) (u : Upstream) (q : Query) :
    C01.specOK (ruleEngines block allow) s.conf u q (handle (ruleEngines block allow) s.conf u q) = true :=
  C01_rules_model_meets_spec block allow s.conf u q

end AGH.Filter
