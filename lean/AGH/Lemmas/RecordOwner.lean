/-
C08 lemmas: the sequential client lookups of the code (`findMultiple` and
`shouldCountClient`, both with `FindLoose` over the id list `[clientID, realIP]`,
here `idsOf cid a`; `shouldCountClient` with `Find` before the repair c47dc1e) in
closed form: `modelOwner` is what `Find` finds for the two ids, `modelOwnerL` what
`FindLoose` finds, `statOwner` the one of the two the statistics ask
(`findMultiple_eq`, `shouldCountClient_eq`).  These land in the declarative owner
set: in `ownersAt` (`Stage.owner`, where `Stage o l` ties one lookup stage of the
code to one level of the specification), or, `FindLoose` only, at a holder of the
zoned address (`ownersZ_found`).
-/
import AGH.Spec.Record
namespace AGH.C08
open AGH AGH.Bytes

theorem before_iff (x y : Prefix) :
    x.before y = true ↔ (x.bits > y.bits ∨ (x.bits = y.bits ∧ toNat x.addr < toNat y.addr)) := by
  simp [Prefix.before]

theorem not_before_iff (x y : Prefix) :
    x.before y = false ↔ x.bits ≤ y.bits ∧ (x.bits = y.bits → toNat y.addr ≤ toNat x.addr) := by
  simp [Prefix.before]

theorem before_irrefl (x : Prefix) : x.before x = false :=
  (not_before_iff x x).mpr ⟨Nat.le_refl _, fun _ => Nat.le_refl _⟩

theorem before_asymm {x y : Prefix} (h : x.before y = true) : y.before x = false := by
  rw [not_before_iff]
  rcases (before_iff x y).mp h with h | ⟨e, h⟩
  · exact ⟨Nat.le_of_lt h, fun e => absurd e (Nat.ne_of_lt h)⟩
  · exact ⟨Nat.le_of_eq e.symm, fun _ => Nat.le_of_lt h⟩

theorem not_before_trans {x y z : Prefix} (h1 : x.before y = false) (h2 : y.before z = false) :
    x.before z = false := by
  rw [not_before_iff] at *
  refine ⟨Nat.le_trans h1.1 h2.1, fun e => ?_⟩
  -- equal lengths at the ends force equal lengths throughout
  have e1 : x.bits = y.bits := Nat.le_antisymm h1.1 (e ▸ h2.1)
  exact Nat.le_trans (h2.2 (e1 ▸ e)) (h1.2 e1)

theorem bestNet_none {l : List (Prefix × PClient)} : bestNet l = none ↔ l = [] := by
  fun_cases bestNet l with
  | case1 => exact ⟨fun _ => rfl, fun _ => rfl⟩
  | case2 | case3 | case4 => exact ⟨nofun, nofun⟩

/-- By the cases of `bestNet`: the empty list; `x` alone; a best `y` of the rest that comes before `x`, that
does not. -/
theorem bestNet_some {l : List (Prefix × PClient)} {x : Prefix × PClient} :
    bestNet l = some x → x ∈ l ∧ ∀ y ∈ l, y.1.before x.1 = false := by
  fun_induction bestNet l generalizing x with
  | case1 => exact nofun
  | case2 z rest hr =>
    rintro ⟨⟩
    rw [bestNet_none.mp hr]
    exact ⟨List.mem_cons_self, fun y hy => by rw [List.mem_singleton.mp hy]; exact before_irrefl _⟩
  | case3 z rest w hr hb ih =>
    rintro ⟨⟩
    obtain ⟨hw, hmin⟩ := ih hr
    refine ⟨List.mem_cons_of_mem _ hw, fun y hy => ?_⟩
    rcases List.mem_cons.mp hy with rfl | hy
    · exact before_asymm hb
    · exact hmin y hy
  | case4 z rest w hr hb ih =>
    -- `z` stays: nothing in `rest` is before `w`, and `w` is not before `z`
    rintro ⟨⟩
    obtain ⟨hw, hmin⟩ := ih hr
    refine ⟨List.mem_cons_self, fun y hy => ?_⟩
    rcases List.mem_cons.mp hy with rfl | hy
    · exact before_irrefl _
    · exact not_before_trans (hmin y hy) (Bool.eq_false_iff.mpr hb)

/-- The id list `[clientID, address]` as a function of its two components; `queryIDs q` and
`entryIDs e` are instances. -/
def idsOf (cid a : Bytes) : List QID := if cid ≠ [] then [.cid cid, .ip a] else [.ip a]

theorem queryIDs_eq (q : Query) : queryIDs q = idsOf q.cid (canon q.addr) := rfl

theorem entryIDs_eq (e : Entry) : entryIDs e = idsOf e.cid e.ip := by
  unfold entryIDs idsOf
  by_cases h : e.cid ≠ [] <;> simp [h]

theorem storageFindLoose_cid (cs : List PClient) (ls : Leases) (c : Bytes) :
    storageFindLoose cs ls (.cid c) = storageFind cs ls (.cid c) := by
  unfold storageFindLoose
  cases storageFind cs ls (.cid c) <;> rfl

theorem storageFindLoose_ip (cs : List PClient) (ls : Leases) (a : Bytes) :
    storageFindLoose cs ls (.ip a) =
      (match storageFind cs ls (.ip a) with
       | some c => some c
       | none => if (macByIP ls a).isSome then none else byIPZoned cs a) := by
  unfold storageFindLoose
  cases storageFind cs ls (.ip a) <;> rfl

/-- What `Find` finds for the ids of `(cid, a)`. -/
def modelOwner (cs : List PClient) (ls : Leases) (cid a : Bytes) : Option PClient :=
  match (if cid ≠ [] then storageFind cs ls (.cid cid) else none) with
  | some c => some c
  | none => storageFind cs ls (.ip a)

/-- What `FindLoose` finds for them: the same, else a holder of the address under
some zone. -/
def modelOwnerL (cs : List PClient) (ls : Leases) (cid a : Bytes) : Option PClient :=
  match modelOwner cs ls cid a with
  | some c => some c
  | none => if (macByIP ls a).isSome then none else byIPZoned cs a

/-- The owner the statistics' checker uses. -/
def statOwner (loose : Bool) (cs : List PClient) (ls : Leases) (cid a : Bytes) : Option PClient :=
  if loose then modelOwnerL cs ls cid a else modelOwner cs ls cid a

theorem findMultiple_eq_findSome? (cs : List PClient) (ls : Leases) (ids : List QID) :
    findMultiple cs ls ids = (ids.findSome? (storageFindLoose cs ls)).map (·.ignLog) := by
  fun_induction findMultiple cs ls ids with
  | case1 => rfl
  | case2 id rest c h => rw [List.findSome?_cons, h]; rfl
  | case3 id rest h ih => rw [List.findSome?_cons, h, ih]

theorem shouldCountClient_eq_findSome? (loose : Bool) (cs : List PClient) (ls : Leases) (ids : List QID) :
    shouldCountClient loose cs ls ids =
      (match ids.findSome? (fun id => if loose then storageFindLoose cs ls id else storageFind cs ls id) with
       | some c => !c.ignStat
       | none => true) := by
  fun_induction shouldCountClient loose cs ls ids with
  | case1 => rfl
  | case2 id rest c h => rw [List.findSome?_cons, h]
  | case3 id rest h ih => rw [List.findSome?_cons, h, ih]

theorem findSome?_idsOf {α : Type} (f : QID → Option α) (cid a : Bytes) :
    (idsOf cid a).findSome? f =
      (match (if cid ≠ [] then f (.cid cid) else none) with
       | some c => some c
       | none => f (.ip a)) := by
  unfold idsOf
  by_cases hc : cid ≠ []
  · rw [if_pos hc, if_pos hc, List.findSome?_cons, List.findSome?_singleton]
    cases f (.cid cid) <;> rfl
  · rw [if_neg hc, if_neg hc, List.findSome?_singleton]

theorem findSome?_idsOf_find (cs : List PClient) (ls : Leases) (cid a : Bytes) :
    (idsOf cid a).findSome? (storageFind cs ls) = modelOwner cs ls cid a := by
  rw [findSome?_idsOf]
  unfold modelOwner
  cases (if cid ≠ [] then storageFind cs ls (.cid cid) else none) <;> rfl

theorem findSome?_idsOf_loose (cs : List PClient) (ls : Leases) (cid a : Bytes) :
    (idsOf cid a).findSome? (storageFindLoose cs ls) = modelOwnerL cs ls cid a := by
  rw [findSome?_idsOf, storageFindLoose_cid, storageFindLoose_ip]
  unfold modelOwnerL modelOwner
  cases (if cid ≠ [] then storageFind cs ls (.cid cid) else none) <;> rfl

theorem shouldCountClient_eq (loose : Bool) (cs : List PClient) (ls : Leases) (cid a : Bytes) :
    shouldCountClient loose cs ls (idsOf cid a) =
      (match statOwner loose cs ls cid a with | some c => !c.ignStat | none => true) := by
  have h : (idsOf cid a).findSome? (fun id => if loose then storageFindLoose cs ls id else storageFind cs ls id) =
      statOwner loose cs ls cid a := by
    cases loose
    · exact findSome?_idsOf_find cs ls cid a
    · exact findSome?_idsOf_loose cs ls cid a
  rw [shouldCountClient_eq_findSome?, h]

theorem findMultiple_eq (cs : List PClient) (ls : Leases) (cid a : Bytes) :
    findMultiple cs ls (idsOf cid a) = (modelOwnerL cs ls cid a).map (·.ignLog) := by
  rw [findMultiple_eq_findSome?, findSome?_idsOf_loose]

/-- With the repair both stores attribute every request to the same client. -/
theorem log_stat_same_owner (cs : List PClient) (ls : Leases) (cid a : Bytes) :
    statOwner true cs ls cid a = modelOwnerL cs ls cid a := rfl

/-! ## The searches land in the owner set

The code searches stage by stage (`o₁.orElse fun _ => o₂ …`), the declarative
owner set is the first non-empty level (`if !l₁.isEmpty then l₁ else l₂ …`).
`Stage o l` ties one stage to one level; the lemmas below are about the
combinators both sides are built from. -/

structure Stage {α : Type} (o : Option α) (l : List α) : Prop where
  mem : ∀ x, o = some x → x ∈ l
  empty : o = none → l = []

theorem find?_isSome_of {α : Type} {p : α → Bool} {l : List α} {x : α} (hx : x ∈ l) (hp : p x = true) :
    (l.find? p).isSome = true :=
  List.find?_isSome.mpr ⟨x, hx, hp⟩

theorem filter_eq_nil_of {α : Type} {p : α → Bool} {l : List α} (h : ∀ x ∈ l, p x = false) :
    l.filter p = [] :=
  List.filter_eq_nil_iff.mpr fun x hx => by rw [h x hx]; exact Bool.false_ne_true

theorem isEmpty_of_mem {α : Type} {l : List α} {x : α} (h : x ∈ l) : l.isEmpty = false :=
  List.isEmpty_eq_false_iff_exists_mem.mpr ⟨x, h⟩

theorem Stage.find {α : Type} (l : List α) (p : α → Bool) : Stage (l.find? p) (l.filter p) :=
  ⟨fun _ h => List.mem_filter.mpr ⟨List.mem_of_find?_eq_some h, List.find?_some h⟩,
   fun h => List.filter_eq_nil_iff.mpr (List.find?_eq_none.mp h)⟩

theorem Stage.nil {α : Type} : Stage (none : Option α) [] :=
  ⟨(fun _ h => nomatch h), fun _ => rfl⟩

theorem Stage.orElse {α : Type} {o₁ o₂ : Option α} {l₁ l₂ : List α} (h₁ : Stage o₁ l₁) (h₂ : Stage o₂ l₂) :
    Stage (o₁.orElse fun _ => o₂) (if !l₁.isEmpty then l₁ else l₂) := by
  cases o₁ with
  | some x =>
    have hx := h₁.mem x rfl
    rw [isEmpty_of_mem hx]
    exact ⟨fun y h => by cases h; exact hx, fun h => nomatch h⟩
  | none =>
    rw [h₁.empty rfl]
    exact h₂

theorem Stage.map {α β : Type} {o : Option α} {l : List α} (h : Stage o l) (f : α → β) :
    Stage (o.map f) (l.map f) := by
  cases o with
  | some x =>
    refine ⟨fun y hy => ?_, fun hn => nomatch hn⟩
    cases hy
    exact List.mem_map_of_mem (h.mem x rfl)
  | none => rw [h.empty rfl]; exact Stage.nil

/-- For a level that is a union but is searched in two steps (`cidMatch`: the
ClientID map, then the string as a MAC). -/
theorem Stage.orElse_union {α : Type} {l : List α} {p q : α → Bool} {o₁ o₂ : Option α}
    (h₁ : Stage o₁ (l.filter p)) (h₂ : Stage o₂ (l.filter q)) :
    Stage (o₁.orElse fun _ => o₂) (l.filter fun x => p x || q x) := by
  cases o₁ with
  | some x =>
    refine ⟨fun y h => ?_, fun h => nomatch h⟩
    cases h
    have hx := List.mem_filter.mp (h₁.mem x rfl)
    exact List.mem_filter.mpr ⟨hx.1, by rw [hx.2]; rfl⟩
  | none =>
    refine ⟨fun y h => ?_, fun h => filter_eq_nil_of fun x hx => ?_⟩
    · have hy := List.mem_filter.mp (h₂.mem y h)
      exact List.mem_filter.mpr ⟨hy.1, by rw [hy.2]; exact Bool.or_true _⟩
    · rw [eq_false_of_ne_true (List.filter_eq_nil_iff.mp (h₁.empty rfl) x hx),
        eq_false_of_ne_true (List.filter_eq_nil_iff.mp (h₂.empty h) x hx)]
      rfl

theorem Stage.best (nets : List (Prefix × PClient)) :
    Stage (bestNet nets) (nets.filter fun x => nets.all fun y => !y.1.before x.1) := by
  refine ⟨fun x h => ?_, fun h => by rw [bestNet_none.mp h]; rfl⟩
  obtain ⟨hm, hmin⟩ := bestNet_some h
  exact List.mem_filter.mpr ⟨hm, List.all_eq_true.mpr fun y hy => by rw [hmin y hy]; rfl⟩

theorem bestCands_isEmpty (nets : List (Prefix × PClient)) :
    ((nets.filter fun x => nets.all fun y => !y.1.before x.1).map (·.2)).isEmpty = nets.isEmpty := by
  cases hb : bestNet nets with
  | none => rw [bestNet_none.mp hb]; rfl
  | some b =>
    rw [isEmpty_of_mem (((Stage.best nets).map (·.2)).mem b.2 (by rw [hb]; rfl)),
      isEmpty_of_mem (bestNet_some hb).1]

/-- `FindByMAC` of a MAC that may be missing: the ClientID read as a MAC, the MAC of the DHCP lease. -/
theorem Stage.mac (cs : List PClient) (o : Option Bytes) :
    Stage (o.bind (byMAC cs))
      (cs.filter fun c => match o with | some m => c.macs.contains m | none => false) := by
  cases o with
  | some m => exact Stage.find cs _
  | none => rw [filter_eq_nil_of fun _ _ => rfl]; exact Stage.nil

theorem Stage.cid (cs : List PClient) (ls : Leases) {cid : Bytes} (hc : cid ≠ []) :
    Stage (storageFind cs ls (.cid cid)) (cs.filter (cidMatch · cid)) := by
  have hfind : storageFind cs ls (.cid cid) =
      (byCid cs cid).orElse fun _ => (parseMAC6 cid).bind (byMAC cs) := by
    show Option.orElse (Option.orElse _ _) _ = _
    cases Option.orElse (byCid cs cid) fun _ => (parseMAC6 cid).bind (byMAC cs) <;> rfl
  have hlevel : cs.filter (cidMatch · cid) = cs.filter fun c => c.cids.contains cid ||
      (match parseMAC6 cid with | some m => c.macs.contains m | none => false) := by
    apply List.filter_congr
    intro c _
    show cidMatch c cid = _
    rw [cidMatch, bne_iff_ne.mpr hc, Bool.true_and]
    rfl
  rw [hfind, hlevel]
  exact (Stage.find cs _).orElse_union (Stage.mac cs _)

theorem Stage.ip (cs : List PClient) (ls : Leases) (a : Bytes) :
    Stage (storageFind cs ls (.ip a)) (ownersByAddr cs ls a) := by
  have hfind : storageFind cs ls (.ip a) = (byIP cs a).orElse fun _ =>
      (bySubnet cs a).orElse fun _ => (macByIP ls a).bind (byMAC cs) := by
    show Option.orElse (Option.orElse (byIP cs a) fun _ => bySubnet cs a) _ = _
    cases byIP cs a <;> rfl
  have hnets := ((Stage.best (netCands cs a)).map (·.2)).orElse (Stage.mac cs (macByIP ls a))
  rw [bestCands_isEmpty] at hnets
  rw [hfind]
  exact (Stage.find cs _).orElse hnets

theorem filter_cidMatch_nil (cs : List PClient) : cs.filter (cidMatch · []) = [] :=
  filter_eq_nil_of fun _ _ => rfl

theorem Stage.owner (cs : List PClient) (ls : Leases) (cid a : Bytes) :
    Stage (modelOwner cs ls cid a) (ownersAt cs ls cid a) := by
  have hcid : Stage (if cid ≠ [] then storageFind cs ls (.cid cid) else none) (cs.filter (cidMatch · cid)) := by
    by_cases hc : cid ≠ []
    · rw [if_pos hc]
      exact Stage.cid cs ls hc
    · rw [if_neg hc, Decidable.not_not.mp hc, filter_cidMatch_nil]
      exact Stage.nil
  have hfind : modelOwner cs ls cid a =
      (if cid ≠ [] then storageFind cs ls (.cid cid) else none).orElse fun _ => storageFind cs ls (.ip a) := by
    unfold modelOwner
    cases (if cid ≠ [] then storageFind cs ls (.cid cid) else none) <;> rfl
  rw [hfind]
  exact hcid.orElse (Stage.ip cs ls a)

theorem modelOwner_mem {cs : List PClient} {ls : Leases} {cid a : Bytes} {c : PClient}
    (h : modelOwner cs ls cid a = some c) : c ∈ ownersAt cs ls cid a :=
  (Stage.owner cs ls cid a).mem c h

theorem modelOwner_isSome {cs : List PClient} {ls : Leases} {cid a : Bytes}
    (h : ownersAt cs ls cid a ≠ []) : ∃ c, modelOwner cs ls cid a = some c := by
  cases hm : modelOwner cs ls cid a with
  | some c => exact ⟨c, rfl⟩
  | none => exact absurd ((Stage.owner cs ls cid a).empty hm) h

theorem zonedOwners_nil_of {cs : List PClient} (h : ∀ p ∈ cs, p.zips = []) (ls : Leases) (a z : Bytes) :
    zonedOwners cs ls a z = [] := by
  have : cs.filter (fun c => c.zips.any (·.1 == a)) = [] :=
    filter_eq_nil_of fun p hp => by rw [h p hp]; rfl
  rw [zonedOwners, this]
  exact ite_self _

/-- When a zoned address identifies clients, the last step of `FindLoose` finds one of them. -/
theorem zonedOwners_found {cs : List PClient} {ls : Leases} {a z : Bytes}
    (hne : (zonedOwners cs ls a z).isEmpty = false) :
    ∃ o, (if (macByIP ls a).isSome then none else byIPZoned cs a) = some o ∧ o ∈ zonedOwners cs ls a z := by
  unfold zonedOwners at hne ⊢
  by_cases hz : (z != [] && (macByIP ls a).isNone &&
      (cs.filter fun c => c.zips.any (·.1 == a)).all fun c => c.zips.contains (a, z)) = true
  · rw [if_pos hz] at hne ⊢
    rw [Bool.and_eq_true, Bool.and_eq_true] at hz
    have hl : (macByIP ls a).isSome = false := by
      cases h : macByIP ls a with
      | none => rfl
      | some _ => rw [h] at hz; exact absurd hz.1.2 Bool.false_ne_true
    rw [hl]
    cases hf : cs.find? (fun c => c.zips.any (·.1 == a)) with
    | none =>
      rw [(Stage.find cs _).empty hf] at hne
      cases hne
    | some o => exact ⟨o, hf, (Stage.find cs _).mem o hf⟩
  · rw [if_neg hz] at hne
    cases hne

theorem byIPZoned_none_of {cs : List PClient} (h : ∀ p ∈ cs, p.zips = []) (a : Bytes) :
    byIPZoned cs a = none :=
  List.find?_eq_none.mpr fun p hp => by rw [h p hp]; exact Bool.false_ne_true

theorem statOwner_of_no_zips {cs : List PClient} (h : ∀ p ∈ cs, p.zips = []) (loose : Bool) (ls : Leases)
    (cid a : Bytes) : statOwner loose cs ls cid a = modelOwner cs ls cid a := by
  cases loose
  · rfl
  · show modelOwnerL cs ls cid a = _
    rw [modelOwnerL, byIPZoned_none_of h, ite_self]
    cases modelOwner cs ls cid a <;> rfl

theorem ownersZ_found {cs : List PClient} {ls : Leases} {cid a z : Bytes} {f : PClient → Bool}
    (h : (!(ownersZ cs ls cid a z).isEmpty && (ownersZ cs ls cid a z).all f) = true) :
    ∃ o, modelOwnerL cs ls cid a = some o ∧ f o = true := by
  rw [Bool.and_eq_true, Bool.not_eq_true', List.all_eq_true] at h
  obtain ⟨hne, hall⟩ := h
  cases hm : modelOwner cs ls cid a with
  | none =>
    -- only a zoned address identifies
    have hz : ownersZ cs ls cid a z = zonedOwners cs ls a z := by
      rw [ownersZ, (Stage.owner cs ls cid a).empty hm]; rfl
    rw [hz] at hne hall
    obtain ⟨o, hfo, hmem⟩ := zonedOwners_found hne
    exact ⟨o, by rw [modelOwnerL, hm]; exact hfo, hall o hmem⟩
  | some o =>
    have hmem := modelOwner_mem hm
    have hz : ownersZ cs ls cid a z = ownersAt cs ls cid a := by
      rw [ownersZ, isEmpty_of_mem hmem]; rfl
    rw [hz] at hall
    exact ⟨o, by rw [modelOwnerL, hm], hall o hmem⟩

theorem fromIgnoredLog_exact_ip {c : Conf} {a : Bytes} (z : Bytes) (hex : ∃ p ∈ c.clients, a ∈ p.ips)
    (hall : ∀ p ∈ c.clients, a ∈ p.ips → p.ignLog = true) : fromIgnoredLog c [] a z = true := by
  obtain ⟨p, hp, hip⟩ := hex
  have hin : p ∈ c.clients.filter (·.ips.contains a) :=
    List.mem_filter.mpr ⟨hp, List.contains_iff_mem.mpr hip⟩
  have hown : ownersZ c.clients c.leases [] a z = c.clients.filter (·.ips.contains a) := by
    simp only [ownersZ, ownersAt, ownersByAddr, filter_cidMatch_nil, isEmpty_of_mem hin, List.isEmpty_nil,
      Bool.not_true, Bool.not_false, Bool.false_eq_true, if_false, if_true]
  rw [fromIgnoredLog, hown, isEmpty_of_mem hin]
  exact List.all_eq_true.mpr fun x hx =>
    hall x (List.mem_filter.mp hx).1 (List.contains_iff_mem.mp (List.mem_filter.mp hx).2)

theorem fromIgnoredLog_findMultiple {c : Conf} {cid a z : Bytes} (h : fromIgnoredLog c cid a z = true) :
    findMultiple c.clients c.leases (idsOf cid a) = some true := by
  obtain ⟨o, ho, hf⟩ := ownersZ_found h
  rw [findMultiple_eq, ho]
  exact congrArg some hf

theorem fromIgnoredStat_shouldCount {c : Conf} {cid a z : Bytes} (hz : c.fixZone = true)
    (h : fromIgnoredStat c cid a z = true) :
    shouldCountClient c.fixZone c.clients c.leases (idsOf cid a) = false := by
  obtain ⟨o, ho, hf⟩ := ownersZ_found h
  rw [shouldCountClient_eq, hz, log_stat_same_owner, ho]
  simp [hf]

end AGH.C08
