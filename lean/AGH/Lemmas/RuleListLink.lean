/-
C15 helper lemmas: with the scanner's and the loop's closed forms, which
complete bodies `parse` accepts and that it stores the monitor's normal form
(split at LF, trim, drop blank lines and comments).  Acceptance looks at the
rule lines and the line lengths only, so re-parsing a normal form is a fact
about normal forms (`parse_normalForm`).  Of `bytes.TrimSpace` enter: the
result is a sublist, trimming is idempotent, and a trailing CR does not survive
it, so `dropCR` of `bufio.ScanLines` is invisible after trimming.
-/
import AGH.Lemmas.Bytes
import AGH.Lemmas.RuleListParse
import AGH.Lemmas.RuleListTrim
namespace AGH.C15
open AGH AGH.Bytes

/-- The cases of `tokensOf`: no segment; an empty last one; a last one with bytes; one followed by others. -/
theorem keptLines_tokensOf (segs : List Bytes) : keptLines (tokensOf segs) = keptLines segs := by
  fun_induction tokensOf segs with
  | case1 => rfl
  | case2 => rfl
  | case3 s h => rw [keptLines_cons, keptLines_cons, trimSpace_dropCR]
  | case4 s rest hne ih => rw [keptLines_cons, keptLines_cons, trimSpace_dropCR, ih]

theorem htmlDoc_eq_false (src : Bytes) :
    htmlDoc src = false ↔ ∀ k rest, specLines src = k :: rest → isHTMLLine k = false := by
  unfold htmlDoc
  cases specLines src with
  | nil => exact ⟨fun _ _ _ h => (nomatch h), fun _ => rfl⟩
  | cons l ls => exact ⟨fun h k rest hk => (List.cons.inj hk).1 ▸ h, fun h => h l ls rfl⟩

theorem binaryDoc_eq_false (src : Bytes) :
    binaryDoc src = false ↔ ∀ k ∈ specLines src, k.any likelyBinary = false :=
  List.any_eq_false.trans (forall₂_congr fun _ _ => iff_of_eq (Bool.not_eq_true _))

theorem parse_accepts_iff (src : Bytes) :
    (parse src true).err = none ↔
      (htmlDoc src = false ∧ binaryDoc src = false ∧ ∀ l ∈ splitOn nl src, l.length < maxToken) := by
  by_cases hs : ∀ l ∈ splitOn nl src, l.length < maxToken
  · rw [parse_short hs, runLines_ok_iff, keptLines_tokensOf, ← specLines_eq_keptLines, htmlDoc_eq_false,
      binaryDoc_eq_false]
    exact ⟨fun h => ⟨h.2.2 rfl, h.2.1, hs⟩, fun h => ⟨rfl, h.2.1, fun _ => h.1⟩⟩
  · exact ⟨fun h => absurd h (parse_long hs), fun h => absurd h.2.2 hs⟩

theorem parse_normal (src : Bytes) (h : (parse src true).err = none) :
    (parse src true).out = normalForm src ∧
    (parse src true).st.count = (specLines src).length ∧
    (parse src true).st.crc = crcLines 0 (specLines src) ∧
    htmlDoc src = false ∧ binaryDoc src = false := by
  obtain ⟨hh, hb, hs⟩ := (parse_accepts_iff src).mp h
  rw [parse_short hs] at h ⊢
  obtain ⟨h1, h2, h3⟩ := runLines_ok_out h
  rw [keptLines_tokensOf, ← specLines_eq_keptLines] at h1 h2 h3
  exact ⟨h1, h2.trans (Nat.zero_add _), h3, hh, hb⟩

theorem splitOn_joinLines : ∀ (ks : List Bytes), (∀ k ∈ ks, nl ∉ k) →
    splitOn nl (joinLines ks) = ks ++ [[]] := by
  intro ks
  induction ks with
  | nil => intro _; simp [joinLines, splitOn]
  | cons k ks ih =>
    intro h
    have hk := h k (by simp)
    have hj : joinLines (k :: ks) = k ++ nl :: joinLines ks := rfl
    rw [hj, splitOn_free_sep nl _ k hk, ih (fun k' hk' => h k' (by simp [hk']))]
    rfl

theorem specLines_mem (src : Bytes) : ∀ k ∈ specLines src,
    trimSpace k = k ∧ isContent k = true ∧ nl ∉ k := by
  intro k hk
  obtain ⟨⟨l, hl, rfl⟩, hc⟩ := mem_specLines.mp hk
  refine ⟨trimSpace_idem l, hc, ?_⟩
  intro hm
  exact splitOn_no_sep nl src l hl ((trimSpace_sub l).subset hm)

theorem specLines_joinLines (ks : List Bytes)
    (h : ∀ k ∈ ks, trimSpace k = k ∧ isContent k = true ∧ nl ∉ k) :
    specLines (joinLines ks) = ks := by
  rw [specLines_eq_keptLines, splitOn_joinLines ks (fun k hk => (h k hk).2.2), keptLines_append,
    keptLines_of_normal fun k hk => ⟨(h k hk).1, (h k hk).2.1⟩]
  exact List.append_nil ks

theorem specLines_normalForm (src : Bytes) : specLines (normalForm src) = specLines src :=
  specLines_joinLines (specLines src) (specLines_mem src)

theorem parse_normalForm (src : Bytes) (h : (parse src true).err = none) :
    (parse (normalForm src) true).err = none ∧ (parse (normalForm src) true).out = normalForm src ∧
    (parse (normalForm src) true).st.count = (specLines src).length ∧
    (parse (normalForm src) true).st.crc = crcLines 0 (specLines src) := by
  obtain ⟨hh, hb, hs⟩ := (parse_accepts_iff src).mp h
  have hn := specLines_normalForm src
  -- acceptance looks at the rule lines only, and those of the normal form are the trimmed lines of `src`
  have hacc : (parse (normalForm src) true).err = none := by
    refine (parse_accepts_iff _).mpr ⟨by rwa [htmlDoc, hn], by rwa [binaryDoc, hn], fun l hl => ?_⟩
    rw [normalForm, splitOn_joinLines _ fun k hk => (specLines_mem src k hk).2.2, List.mem_append] at hl
    rcases hl with hl | hl
    · obtain ⟨⟨l0, hl0, rfl⟩, _⟩ := mem_specLines.mp hl
      exact Nat.lt_of_le_of_lt (trimSpace_sub l0).length_le (hs l0 hl0)
    · rw [List.mem_singleton.mp hl]; decide
  obtain ⟨h1, h2, h3, _⟩ := parse_normal _ hacc
  rw [hn] at h2 h3
  exact ⟨hacc, h1.trans (congrArg joinLines hn), h2, h3⟩

/-- The enumerated content failures of the property are failures of the model. -/
theorem fetchBad_fails (f : Fetch) (h : fetchBad f = true) : fetchFails f = true := by
  cases f with
  | fail => rfl
  | body data c =>
    simp only [fetchFails]
    cases hp : (parse data c).err with
    | some e => rfl
    | none =>
      exfalso
      cases c with
      | false => exact parse_incomplete data hp
      | true =>
        obtain ⟨_, _, _, h4, h5⟩ := parse_normal data hp
        simp [fetchBad, h4, h5] at h

end AGH.C15
