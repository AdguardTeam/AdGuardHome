/-
C18 lemmas: what the model of `Model/Schedule.lean` computes, in the terms of
`Spec/Schedule.lean` (`contains_eq_decide`, `validate_ok_iff`, `decodeConf_ok_iff`), and in
between the duration tokens of the two formats.  The round trip of a schedule is proved
once, for any duration `Codec` (`week_roundtrip`); JSON's millisecond number and YAML's
`time.ParseDuration` string are its two instances (`jsonDur_codec`, `yamlDur_codec`).
-/
import AGH.Spec.Schedule
namespace AGH.C18
open AGH

-- for `decide +kernel` on goals `validate r = .ok ()`
instance : DecidableEq (Except VErr Unit) := fun a b =>
  match a, b with
  | .ok (), .ok () => isTrue rfl
  | .error e, .error e' => if h : e = e' then isTrue (h ▸ rfl) else isFalse (fun hh => h (by injection hh))
  | .ok (), .error _ => isFalse (fun hh => by cases hh)
  | .error _, .ok () => isFalse (fun hh => by cases hh)

theorem clockOffset_eq (abs : Int) (nsec : Nat) :
    clockOffset abs nsec = (abs % 86400) * 1000000000 + (nsec : Int) := by
  simp only [clockOffset, clockOf, secondsPerDay, nsPerHour, nsPerMinute, nsPerSec]
  omega

theorem localWeekday_eq_dayWeekday (off : Int → Int) (t : Instant) :
    localWeekday off t = dayWeekday (localDay off t) := rfl

theorem contains_eq_decide (off : Int → Int) (w : Weekly) (t : Instant) :
    contains off w t = decide (InEffect off w t) := by
  rw [Bool.eq_iff_iff, decide_eq_true_iff]
  simp only [contains, InEffect, rangeAt, localWeekday, localDay, timeOfDay, wall, absSec, weekdayOf,
    secondsPerDay, clockOffset_eq, DayRange.contains, Bool.and_eq_true, decide_eq_true_eq]

theorem isDigit_digit (d : Nat) (h : d < 10) : isDigit (48 + d) = true := by
  simp [isDigit]; omega

theorem renderNat_lt (n : Nat) (h : n < 10) : renderNat n = [48 + n] := by
  rw [renderNat]; simp [h]

theorem renderNat_ge (n : Nat) (h : ¬ n < 10) : renderNat n = renderNat (n / 10) ++ [48 + n % 10] := by
  rw [renderNat]; simp [h]

theorem renderNat_head (n : Nat) : ∃ c cs, renderNat n = c :: cs ∧ isDigit c = true := by
  induction n using Nat.strongRecOn with
  | _ n ih =>
    by_cases h : n < 10
    · exact ⟨48 + n, [], renderNat_lt n h, isDigit_digit n h⟩
    · obtain ⟨c, cs, hc, hd⟩ := ih (n / 10) (by omega)
      exact ⟨c, cs ++ [48 + n % 10], by rw [renderNat_ge n h, hc]; rfl, hd⟩

theorem leadingInt_digit (acc c : Nat) (cs : Bytes) (h : isDigit c = true) :
    leadingInt acc (c :: cs) = leadingInt (acc * 10 + (c - 48)) cs := by
  rw [leadingInt, if_pos h]

theorem leadingInt_nondigit (n c : Nat) (cs : Bytes) (h : isDigit c = false) :
    leadingInt n (c :: cs) = (n, c :: cs) := by
  simp [leadingInt, h]

theorem leadingInt_renderNat (n : Nat) : ∀ rest, leadingInt 0 (renderNat n ++ rest) = leadingInt n rest := by
  induction n using Nat.strongRecOn with
  | _ n ih =>
    intro rest
    by_cases h : n < 10
    · rw [renderNat_lt n h, List.singleton_append, leadingInt_digit _ _ _ (isDigit_digit n h),
        Nat.add_sub_cancel_left, Nat.zero_mul, Nat.zero_add]
    · rw [renderNat_ge n h, List.append_assoc, ih (n / 10) (by omega), List.singleton_append,
        leadingInt_digit _ _ _ (isDigit_digit _ (Nat.mod_lt n (by decide))), Nat.add_sub_cancel_left,
        Nat.div_add_mod']

theorem stripMinus_digit (c : Nat) (cs : Bytes) (h : isDigit c = true) : stripMinus (c :: cs) = (false, c :: cs) := by
  unfold stripMinus
  split
  · next r heq => injection heq with h1 _; subst h1; simp [isDigit] at h
  · rfl

theorem stripSign_digit (c : Nat) (cs : Bytes) (h : isDigit c = true) : stripSign (c :: cs) = (false, c :: cs) := by
  unfold stripSign
  split
  · next r heq => injection heq with h1 _; subst h1; simp [isDigit] at h
  · next r heq => injection heq with h1 _; subst h1; simp [isDigit] at h
  · rfl

theorem jsonDurDecode_renderInt (i : Int) (hb : i.natAbs ≤ 9007199254) :
    jsonDurDecode (renderInt i) = some (i * 1000000) := by
  obtain ⟨c, cs, hc, hd⟩ := renderNat_head i.natAbs
  have hli : leadingInt 0 (c :: cs) = (i.natAbs, []) := by
    rw [← hc]
    simpa [leadingInt] using leadingInt_renderNat i.natAbs []
  unfold renderInt
  by_cases hneg : i < 0
  · simp only [hneg, if_true, jsonDurDecode, hc, stripMinus, hli, hb]
    simp
    omega
  · simp only [hneg, if_false, jsonDurDecode, hc, stripMinus_digit c cs hd, hli, hb]
    simp
    omega

theorem jsonDur_roundtrip (ns : Int) (tok : Bytes) (h : jsonDurEncode ns = some tok) :
    jsonDurDecode tok = some ns := by
  unfold jsonDurEncode at h
  split at h
  · cases h
    rw [jsonDurDecode_renderInt _ (by omega)]
    congr 1
    omega
  · cases h

theorem spanUnit_digit (c : Nat) (cs : Bytes) (h : isDigit c = true) :
    spanUnit (c :: cs) = ([], c :: cs) := by
  simp [spanUnit, h]

theorem spanUnit_single (ch : Nat) (rest : Bytes) (h46 : ch ≠ 46) (hnd : isDigit ch = false)
    (hrest : spanUnit rest = ([], rest)) : spanUnit (ch :: rest) = ([ch], rest) := by
  simp [spanUnit, h46, hnd, hrest]

/-- A unit of ONE byte `ch` (`h`, `m`, `s`; `yamlDurEncode` writes no longer one) worth `unit` ns; the
last two conjuncts are what `spanUnit` asks of a byte to take it into the unit. -/
abbrev UnitChar (ch : Nat) (unit : Int) : Prop :=
  unitNs [ch] = some unit ∧ ch ≠ 46 ∧ isDigit ch = false

theorem parseDurLoop_group (f : Nat) (d : Int) (n ch : Nat) (unit : Int) (rest : Bytes)
    (hu : UnitChar ch unit) (hrest : spanUnit rest = ([], rest))
    (hlim : d + (n : Int) * unit < durModelLimit) :
    parseDurLoop (f + 1) d (renderNat n ++ ch :: rest) = parseDurLoop f (d + (n : Int) * unit) rest := by
  obtain ⟨c, cs, hc, hd⟩ := renderNat_head n
  have hli : leadingInt 0 (renderNat n ++ ch :: rest) = (n, ch :: rest) := by
    rw [leadingInt_renderNat]
    exact leadingInt_nondigit n ch rest hu.2.2
  have hs : renderNat n ++ ch :: rest = c :: (cs ++ ch :: rest) := by rw [hc]; rfl
  rw [hs] at hli
  rw [hs]
  simp only [parseDurLoop, hd, hli, spanUnit_single ch rest hu.2.1 hu.2.2 hrest, hu.1]
  simp [hu.2.1, Int.not_le.mpr hlim]

theorem parseDurLoop_nil (f : Nat) (d : Int) : parseDurLoop (f + 1) d [] = .ok d := by
  simp [parseDurLoop]

/-- A token that begins with a rendered number and goes on has no sign and is
not "0": `time.ParseDuration` hands it to its loop as it is. -/
theorem parseDur_of_loop_renderNat (n : Nat) (rest : Bytes) (hrest : rest ≠ []) (d : Int)
    (h : parseDurLoop ((renderNat n ++ rest).length + 1) 0 (renderNat n ++ rest) = .ok d) :
    parseDur (renderNat n ++ rest) = .ok d := by
  obtain ⟨c, cs, hc, hd⟩ := renderNat_head n
  rw [hc, List.cons_append] at h ⊢
  simp only [parseDur, stripSign_digit c _ hd, h]
  simp [hrest]

theorem parseDur_group (n ch : Nat) (unit : Int) (hu : UnitChar ch unit)
    (hlim : (n : Int) * unit < durModelLimit) :
    parseDur (renderNat n ++ [ch]) = .ok ((n : Int) * unit) := by
  apply parseDur_of_loop_renderNat n [ch] (List.cons_ne_nil _ _)
  rw [parseDurLoop_group _ 0 n ch unit [] hu rfl (by omega),
    List.length_append, List.length_singleton, parseDurLoop_nil, Int.zero_add]

theorem parseDur_two_groups (n₁ ch₁ n₂ ch₂ : Nat) (u₁ u₂ : Int)
    (hu₁ : UnitChar ch₁ u₁) (hu₂ : UnitChar ch₂ u₂) (hpos : 0 ≤ u₂)
    (hlim : (n₁ : Int) * u₁ + (n₂ : Int) * u₂ < durModelLimit) :
    parseDur (renderNat n₁ ++ ch₁ :: (renderNat n₂ ++ [ch₂])) =
      .ok ((n₁ : Int) * u₁ + (n₂ : Int) * u₂) := by
  have hlim₁ : 0 + (n₁ : Int) * u₁ < durModelLimit := by
    rw [Int.zero_add]
    exact Int.lt_of_le_of_lt
      (Int.le_add_of_nonneg_right (Int.mul_nonneg (Int.natCast_nonneg _) hpos)) hlim
  apply parseDur_of_loop_renderNat n₁ _ (List.cons_ne_nil _ _)
  -- the loop runs three times: the fuel is at least 3
  obtain ⟨k, hk⟩ : ∃ k, (renderNat n₁ ++ ch₁ :: (renderNat n₂ ++ [ch₂])).length = k + 2 :=
    ⟨(renderNat n₁).length + (renderNat n₂).length, by simp; omega⟩
  obtain ⟨c, cs, hc, hd⟩ := renderNat_head n₂
  rw [hk, parseDurLoop_group _ 0 n₁ ch₁ u₁ _ hu₁
      (by rw [hc]; exact spanUnit_digit c _ hd) hlim₁,
    parseDurLoop_group _ _ n₂ ch₂ u₂ [] hu₂ rfl (by rw [Int.zero_add]; exact hlim),
    parseDurLoop_nil, Int.zero_add]

theorem leadingInt_length (acc : Nat) (s : Bytes) : (leadingInt acc s).2.length ≤ s.length := by
  fun_induction leadingInt acc s with
  | case1 => exact Nat.le_refl _
  | case2 acc c cs _ ih => exact Nat.le_succ_of_le ih
  | case3 => exact Nat.le_refl _

theorem leadingInt_digit_length (acc c : Nat) (cs : Bytes) (h : isDigit c = true) :
    (leadingInt acc (c :: cs)).2.length < (c :: cs).length := by
  rw [leadingInt_digit acc c cs h]
  exact Nat.lt_succ_of_le (leadingInt_length _ cs)

theorem spanUnit_length (s : Bytes) : (spanUnit s).1.length + (spanUnit s).2.length = s.length := by
  fun_induction spanUnit s with
  | case1 => rfl
  | case2 => simp
  | case3 c cs _ u r h ih => simp [h] at ih ⊢; omega

theorem parseDurLoop_no_fuel (fuel : Nat) : ∀ (d : Int) (s : Bytes), s.length < fuel → parseDurLoop fuel d s ≠ .fuel := by
  induction fuel with
  | zero => intro d s h; omega
  | succ f ih =>
    intro d s hlen
    cases s with
    | nil => simp [parseDurLoop]
    | cons c cs =>
      simp only [parseDurLoop]
      -- the exits of a turn, in the order of the text: no digit; fraction; no unit; unknown unit;
      -- over the limit; next turn
      split
      · simp
      · split
        · simp
        · split
          · simp
          · split
            · simp
            · split
              · simp
              · -- a turn consumes at least the non-empty unit, so the rest is still shorter than the fuel left
                apply ih
                have hu : (spanUnit (leadingInt 0 (c :: cs)).snd).fst ≠ [] := by assumption
                have h1 := spanUnit_length (leadingInt 0 (c :: cs)).snd
                have h2 := leadingInt_length 0 (c :: cs)
                have h3 : (spanUnit (leadingInt 0 (c :: cs)).snd).fst.length ≠ 0 :=
                  fun h0 => hu (List.eq_nil_of_length_eq_zero h0)
                simp at hlen h2
                omega

theorem parseDur_no_fuel (tok : Bytes) : parseDur tok ≠ .fuel := by
  simp only [parseDur]
  split
  · simp
  · split
    · simp
    · split
      · simp
      · exact parseDurLoop_no_fuel _ 0 _ (Nat.lt_succ_self _)

/-- The cases of `yamlDurEncode`: not modelled; "0s"; "Xh"; "Ym"; "XhYm". -/
theorem yamlDur_roundtrip (ns : Int) (tok : Bytes) (h : yamlDurEncode ns = some tok)
    (hlim : ns < durModelLimit) : parseDur tok = .ok ns := by
  have hval : ¬(ns < 0 ∨ ns % nsPerMinute ≠ 0) → ∀ mins, mins = (ns / nsPerMinute).toNat →
      ((mins / 60 : Nat) : Int) * 3600000000000 + ((mins % 60 : Nat) : Int) * 60000000000 = ns := by
    intro hdom mins hm
    simp only [nsPerMinute] at hdom hm
    omega
  revert h
  fun_cases yamlDurEncode ns with
  | case1 => nofun
  | case2 hdom mins h0 =>
    rintro ⟨⟩
    rw [← hval hdom mins rfl, h0]
    decide
  | case3 hdom mins h m h0 hm =>
    rintro ⟨⟩
    have hval : (h : Int) * 3600000000000 + (m : Int) * 60000000000 = ns := hval hdom mins rfl
    rw [hm, Int.natCast_zero, Int.zero_mul, Int.add_zero] at hval
    rw [parseDur_group h 104 3600000000000 (by decide) (by rw [hval]; exact hlim), hval]
  | case4 hdom mins h m h0 hm hh =>
    rintro ⟨⟩
    have hval : (h : Int) * 3600000000000 + (m : Int) * 60000000000 = ns := hval hdom mins rfl
    rw [hh, Int.natCast_zero, Int.zero_mul, Int.zero_add] at hval
    rw [parseDur_group m 109 60000000000 (by decide) (by rw [hval]; exact hlim), hval]
  | case5 hdom mins h m h0 hm hh =>
    rintro ⟨⟩
    have hval := hval hdom mins rfl
    rw [List.append_assoc, List.append_assoc, List.singleton_append,
      parseDur_two_groups (mins / 60) 104 (mins % 60) 109 3600000000000 60000000000
        (by decide) (by decide) (by decide) (by rw [hval]; exact hlim), hval]

theorem ite_ok_eq_ok {ε α} {c : Prop} [Decidable c] {x : Except ε α} {u : α} :
    (if c then .ok u else x) = .ok u ↔ c ∨ x = .ok u := by
  by_cases h : c <;> simp [h]

theorem ite_error_eq_ok {ε α} {c : Prop} [Decidable c] {e : ε} {x : Except ε α} {u : α} :
    (if c then .error e else x) = .ok u ↔ ¬c ∧ x = .ok u := by
  by_cases h : c <;> simp [h]

theorem DayRange.validate_ok_iff (r : DayRange) :
    r.validate = .ok () ↔
      r = DayRange.zero ∨ (0 ≤ r.start ∧ r.start < r.stop ∧ r.stop ≤ maxDayRange) := by
  simp only [DayRange.validate, ite_ok_eq_ok, ite_error_eq_ok, and_true]
  refine or_congr_right ⟨fun h => ?_, fun h => ?_⟩ <;> omega

/-- For a duration of either sign: Go's `%` (`tmod`) and Lean's agree on which remainders are zero. -/
theorem truncate_eq_self_iff (d m : Int) (hm : 0 < m) : truncate d m = d ↔ d % m = 0 := by
  rw [truncate, if_neg (Int.not_le.mpr hm), ← Int.dvd_iff_emod_eq_zero, Int.dvd_iff_tmod_eq_zero]
  omega

theorem validate_ok_iff (r : DayRange) :
    validate r = .ok () ↔
      r = DayRange.zero ∨
      (0 ≤ r.start ∧ r.start < r.stop ∧ r.stop ≤ 86400000000000 ∧
        r.start % 60000000000 = 0 ∧ r.stop % 60000000000 = 0) := by
  have hv : validate r = .ok () ↔ r.validate = .ok () ∧
      truncate r.start nsPerMinute = r.start ∧ truncate r.stop nsPerMinute = r.stop := by
    unfold validate
    cases r.validate with
    | error e => simp
    | ok u => simp only [ite_error_eq_ok, Decidable.not_not, and_true, true_and]
  have hM : (0 : Int) < nsPerMinute := by decide
  rw [hv, DayRange.validate_ok_iff, truncate_eq_self_iff _ _ hM, truncate_eq_self_iff _ _ hM, or_and_right]
  -- the unset range is made of whole minutes
  refine or_congr (and_iff_left_of_imp ?_) (by simp only [and_assoc]; rfl)
  rintro rfl
  exact ⟨rfl, rfl⟩

theorem validate_whole_minutes (r : DayRange) (h : validate r = .ok ()) :
    r.start % 60000000000 = 0 ∧ r.stop % 60000000000 = 0 := by
  rcases (validate_ok_iff r).mp h with rfl | ⟨_, _, _, hs, he⟩
  · exact ⟨rfl, rfl⟩
  · exact ⟨hs, he⟩

theorem mustAccept_validate (r : DayRange) (h : mustAccept r = true) : validate r = .ok () := by
  rw [validate_ok_iff]
  simp only [mustAccept, wholeMinutes, Bool.or_eq_true, Bool.and_eq_true, decide_eq_true_eq, beq_iff_eq] at h
  rcases h with h | h
  · exact Or.inl h
  · exact Or.inr ⟨h.1.1.1.1, h.1.1.1.2, h.1.1.2, h.1.2, h.2⟩

theorem validate_not_mustReject (r : DayRange) (h : validate r = .ok ()) : mustReject r = false := by
  rw [validate_ok_iff] at h
  simp only [mustReject, wholeMinutes]
  rcases h with h | ⟨h1, h2, h3, h4, h5⟩
  · subst h; decide
  · simp [h4, h5]; omega

theorem bind_eq_ok_iff {ε α β} {x : Except ε α} {k : α → Except ε β} {b : β} :
    x >>= k = .ok b ↔ ∃ a, x = .ok a ∧ k a = .ok b := by
  cases x <;> simp [bind, Except.bind]

theorem Week.mapM_ok_iff {α β ε} (f : Nat → α → Except ε β) (w : Week α) (w' : Week β) :
    w.mapM f = .ok w' ↔
      f 0 w.sun = .ok w'.sun ∧ f 1 w.mon = .ok w'.mon ∧ f 2 w.tue = .ok w'.tue ∧ f 3 w.wed = .ok w'.wed ∧
      f 4 w.thu = .ok w'.thu ∧ f 5 w.fri = .ok w'.fri ∧ f 6 w.sat = .ok w'.sat := by
  simp only [Week.mapM, bind_eq_ok_iff, pure, Except.pure, Except.ok.injEq]
  constructor
  · rintro ⟨_, h0, _, h1, _, h2, _, h3, _, h4, _, h5, _, h6, rfl⟩
    exact ⟨h0, h1, h2, h3, h4, h5, h6⟩
  · rintro ⟨h0, h1, h2, h3, h4, h5, h6⟩
    exact ⟨_, h0, _, h1, _, h2, _, h3, _, h4, _, h5, _, h6, rfl⟩

theorem Week.mapO_some_iff {α β} (f : α → Option β) (w : Week α) (w' : Week β) :
    w.mapO f = some w' ↔
      f w.sun = some w'.sun ∧ f w.mon = some w'.mon ∧ f w.tue = some w'.tue ∧ f w.wed = some w'.wed ∧
      f w.thu = some w'.thu ∧ f w.fri = some w'.fri ∧ f w.sat = some w'.sat := by
  rcases w' with ⟨b0, b1, b2, b3, b4, b5, b6⟩
  unfold Week.mapO
  split
  · next h0 h1 h2 h3 h4 h5 h6 =>
    simp only [h0, h1, h2, h3, h4, h5, h6, Option.some.injEq, Week.mk.injEq]
  · next hne =>
    constructor
    · intro h; cases h
    · rintro ⟨h0, h1, h2, h3, h4, h5, h6⟩
      exact absurd h6 (hne _ _ _ _ _ _ _ h0 h1 h2 h3 h4 h5)

theorem Week.forall_get {α} (w : Week α) (p : α → Prop) :
    (∀ i, p (w.get i)) ↔ p w.sun ∧ p w.mon ∧ p w.tue ∧ p w.wed ∧ p w.thu ∧ p w.fri ∧ p w.sat := by
  constructor
  · intro h
    exact ⟨h 0, h 1, h 2, h 3, h 4, h 5, h 6⟩
  · rintro ⟨h0, h1, h2, h3, h4, h5, h6⟩ i
    match i with
    | 0 => exact h0 | 1 => exact h1 | 2 => exact h2 | 3 => exact h3 | 4 => exact h4 | 5 => exact h5
    | n + 6 => simpa [Week.get] using h6

theorem Week.get_const {α} (a : α) (i : Nat) : (Week.const a).get i = a := by
  unfold Week.const Week.get
  split <;> rfl

theorem Week.all_toList {α} (w : Week α) (p : α → Bool) :
    w.toList.all p = true ↔ ∀ i, p (w.get i) = true := by
  rw [Week.forall_get w (fun a => p a = true)]
  simp only [Week.toList, List.all_cons, List.all_nil, Bool.and_true, Bool.and_eq_true]

/-- the loop body of `Unmarshal{JSON,YAML}` -/
def decodeOneDay (i : Nat) (d : Option DayRange) : Except DErr DayRange :=
  let r := d.getD DayRange.zero
  match validate r with
  | .ok () => .ok r
  | .error e => .error (DErr.day i e)

theorem decodeOneDay_ok_iff (i : Nat) (d : Option DayRange) (r : DayRange) :
    decodeOneDay i d = .ok r ↔ validate (d.getD DayRange.zero) = .ok () ∧ r = d.getD DayRange.zero := by
  simp only [decodeOneDay]
  cases h : validate (d.getD DayRange.zero) with
  | error e => simp
  | ok u => cases u; simp; exact eq_comm

theorem decodeConf_eq (tzOK : Bytes → Bool) (c : Conf) :
    decodeConf tzOK c =
      if !tzOK c.tz then .error .tz
      else match c.days.mapM decodeOneDay with
        | .error e => .error e
        | .ok days => .ok ⟨locName c.tz, days⟩ := rfl

theorem mapM_decodeOneDay_ok_iff (c : Conf) (ds : Week DayRange) :
    c.days.mapM decodeOneDay = .ok ds ↔ ds = confDays c ∧ ∀ i, validate (ds.get i) = .ok () := by
  rw [Week.forall_get ds (fun r => validate r = .ok ())]
  rcases ds with ⟨d0, d1, d2, d3, d4, d5, d6⟩
  simp only [Week.mapM_ok_iff, decodeOneDay_ok_iff, confDays, Week.map, Week.mk.injEq]
  constructor
  · rintro ⟨⟨v0, rfl⟩, ⟨v1, rfl⟩, ⟨v2, rfl⟩, ⟨v3, rfl⟩, ⟨v4, rfl⟩, ⟨v5, rfl⟩, ⟨v6, rfl⟩⟩
    exact ⟨⟨rfl, rfl, rfl, rfl, rfl, rfl, rfl⟩, v0, v1, v2, v3, v4, v5, v6⟩
  · rintro ⟨⟨rfl, rfl, rfl, rfl, rfl, rfl, rfl⟩, v0, v1, v2, v3, v4, v5, v6⟩
    exact ⟨⟨v0, rfl⟩, ⟨v1, rfl⟩, ⟨v2, rfl⟩, ⟨v3, rfl⟩, ⟨v4, rfl⟩, ⟨v5, rfl⟩, ⟨v6, rfl⟩⟩

theorem decodeConf_ok_iff (tzOK : Bytes → Bool) (c : Conf) (w : Weekly) :
    decodeConf tzOK c = .ok w ↔
      tzOK c.tz = true ∧ w.loc = locName c.tz ∧ w.days = confDays c ∧
      ∀ i, validate (w.days.get i) = .ok () := by
  rw [decodeConf_eq, ← mapM_decodeOneDay_ok_iff]
  rcases w with ⟨loc, days⟩
  by_cases htz : tzOK c.tz = true
  · cases c.days.mapM decodeOneDay <;> simp [htz, eq_comm]
  · simp [htz]

theorem decodeConf_yamlAbsentAsZero (tzOK : Bytes → Bool) (c : Conf) :
    decodeConf tzOK (yamlAbsentAsZero c) = decodeConf tzOK c := by
  simp only [decodeConf_eq, yamlAbsentAsZero, Week.mapM, Week.map, decodeOneDay, Option.getD_some]

theorem toDayConfJSON_getD (r : DayRange) : (toDayConfJSON r).getD DayRange.zero = r := by
  unfold toDayConfJSON
  split
  · next h => simp [h]
  · simp

theorem yamlOmitEmpty_eq (r : DayRange) : yamlOmitEmpty (some r) = toDayConfJSON r := rfl

/-- A duration codec reads back what it writes, on every duration a valid schedule holds. -/
def Codec (enc : Int → Option Bytes) (dec : Bytes → Option Int) : Prop :=
  ∀ ns : Int, 0 ≤ ns → ns ≤ 86400000000000 → ns % 60000000000 = 0 →
    ∃ tok, enc ns = some tok ∧ dec tok = some ns

theorem jsonDur_codec : Codec jsonDurEncode jsonDurDecode := by
  intro ns h0 h1 hm
  have : jsonDurEncode ns = some (renderInt (ns / 1000000)) := by
    simp only [jsonDurEncode]
    rw [if_pos]
    constructor <;> omega
  exact ⟨_, this, jsonDur_roundtrip ns _ this⟩

theorem yamlDur_codec : Codec yamlDurEncode yamlDurDecode := by
  intro ns h0 h1 hm
  have hdom : ¬ (ns < 0 ∨ ns % nsPerMinute ≠ 0) := by simp only [nsPerMinute]; omega
  -- past the domain test every branch of the encoder is a `some`
  have hs : (yamlDurEncode ns).isSome = true := by
    simp only [yamlDurEncode, if_neg hdom, apply_ite Option.isSome, Option.isSome_some, ite_self]
  obtain ⟨tok, ht⟩ := Option.isSome_iff_exists.mp hs
  have hl : ns < durModelLimit := by simp only [durModelLimit]; omega
  exact ⟨tok, ht, by rw [yamlDurDecode, yamlDur_roundtrip ns tok ht hl]⟩

theorem day_roundtrip (enc : Int → Option Bytes) (dec : Bytes → Option Int)
    (hcodec : Codec enc dec)
    (r : DayRange) (hv : validate r = .ok ()) :
    ∃ x, encodeDay enc (toDayConfJSON r) = some x ∧ decodeDay dec x = some (toDayConfJSON r) := by
  rw [validate_ok_iff] at hv
  unfold toDayConfJSON
  split
  · exact ⟨none, rfl, rfl⟩
  · next hz =>
    rcases hv with hv | ⟨h1, h2, h3, h4, h5⟩
    · exact absurd hv hz
    · obtain ⟨a, ha, ha'⟩ := hcodec r.start h1 (by omega) h4
      obtain ⟨b, hb, hb'⟩ := hcodec r.stop (by omega) h3 h5
      exact ⟨some (a, b), by simp [encodeDay, ha, hb], by simp [decodeDay, ha', hb']⟩

/-- Stated for the struct `MarshalJSON` builds; `MarshalYAML`'s, after `omitempty`, is the
same (`yamlOmitEmpty_eq`), so `encodeYAML` is an instance as well. -/
theorem week_roundtrip (enc : Int → Option Bytes) (dec : Bytes → Option Int)
    (hcodec : Codec enc dec)
    (tzOK : Bytes → Bool) (w : Weekly) (hw : Valid tzOK w) :
    ∃ d, docOfConf enc (encodeConfJSON w) = some d ∧
      (confOfDoc dec d).map (decodeConf tzOK) = some (.ok w) := by
  obtain ⟨hloc, htz, hv⟩ := hw
  have hv' := (Week.forall_get _ (fun r => validate r = .ok ())).mp hv
  obtain ⟨v0, v1, v2, v3, v4, v5, v6⟩ := hv'
  obtain ⟨x0, e0, d0⟩ := day_roundtrip enc dec hcodec _ v0
  obtain ⟨x1, e1, d1⟩ := day_roundtrip enc dec hcodec _ v1
  obtain ⟨x2, e2, d2⟩ := day_roundtrip enc dec hcodec _ v2
  obtain ⟨x3, e3, d3⟩ := day_roundtrip enc dec hcodec _ v3
  obtain ⟨x4, e4, d4⟩ := day_roundtrip enc dec hcodec _ v4
  obtain ⟨x5, e5, d5⟩ := day_roundtrip enc dec hcodec _ v5
  obtain ⟨x6, e6, d6⟩ := day_roundtrip enc dec hcodec _ v6
  refine ⟨⟨w.loc, ⟨x0, x1, x2, x3, x4, x5, x6⟩⟩, ?_, ?_⟩
  · have : (w.days.map toDayConfJSON).mapO (encodeDay enc) = some ⟨x0, x1, x2, x3, x4, x5, x6⟩ := by
      rw [Week.mapO_some_iff]; exact ⟨e0, e1, e2, e3, e4, e5, e6⟩
    simp [docOfConf, encodeConfJSON, this]
  · have : (⟨x0, x1, x2, x3, x4, x5, x6⟩ : Week _).mapO (decodeDay dec) = some (w.days.map toDayConfJSON) := by
      rw [Week.mapO_some_iff]; exact ⟨d0, d1, d2, d3, d4, d5, d6⟩
    simp only [confOfDoc, this, Option.map_some]
    congr 1
    rw [decodeConf_ok_iff]
    refine ⟨htz, ?_, ?_, hv⟩
    · simp [locName, hloc]
    · rcases w with ⟨loc, ⟨a0, a1, a2, a3, a4, a5, a6⟩⟩
      simp [confDays, Week.map, toDayConfJSON_getD]

end AGH.C18
