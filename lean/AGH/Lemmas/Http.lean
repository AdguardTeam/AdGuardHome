/-
C11 lemmas.  A chain answers with the first own answer of its wrappers (`Wrapper.answer`, `run_eq`),
so a theorem about a chain is a fact about one wrapper's answer: no wrapper reads the header list
(`run_headers`); what the auth, pre-install and `ensure` wrappers answer.  Also here: the gl-inet
token check against the spec's freshness (`nameResolves` is what is assumed of the file system),
the monitor as two implications (`specOK_iff`) and the sweeps over the generated tables of byte
strings.
-/
import AGH.Spec.Http
namespace AGH.C11
open AGH AGH.Bytes

theorem run_cons (w : Wrapper) (c : List Wrapper) (h : Handler) :
    run (w :: c) h = w.apply (run c h) := rfl

/-- What a wrapper answers by itself; `none`: it calls the wrapped handler.  Every wrapper has
this shape (`apply_eq`), so what a theorem needs of a wrapper is a fact about its `answer`, with
no handler in sight. -/
def Wrapper.answer : Wrapper → Req → Option Resp
  | .postInstall, r =>
    if r.firstRun && !pInstallDot.isPrefixOf r.path && !pAssets.isPrefixOf r.path
    then some (.redirect .install) else none
  | .preInstall, r => if !r.firstRun then some .forbiddenPre else none
  | .optionalAuth, r =>
    authDecision r.path r.cookie r.basic (authRequired r) r.glMode (glProcessCookie r) r.addrBlocked
  | .gzip, _ => none
  | .ensure m, r =>
    if r.method ≠ m then some .methodNotAllowed
    else if modifiesData r.method then (if ctypeOK r then none else some .unsupportedMedia)
    else none

theorem authDecision_third (r : Req) :
    authDecision r.path r.cookie r.basic (authRequired r) r.glMode (glProcessCookie r) r.addrBlocked =
      if r.path = pLoginHtml then
        if authRequired r && r.cookie == .valid then some (.redirect .dash) else none
      else if isPublicResource r.path then none
      else if authRequired r then optionalAuthThird r
      else none := rfl

theorem apply_eq (w : Wrapper) (h : Handler) (req : Req) :
    w.apply h req = (w.answer req).getD (h req) := by
  cases w with
  | gzip => rfl
  | postInstall | preInstall | ensure =>
    simp only [Wrapper.apply, postInstallW, preInstallW, ensureW, Wrapper.answer,
      apply_ite (Option.getD · (h req)), Option.getD_some, Option.getD_none]
  | optionalAuth =>
    simp only [Wrapper.apply, optionalAuthW, Wrapper.answer, authDecision_third,
      apply_ite (Option.getD · (h req)), Option.getD_some, Option.getD_none]
    cases optionalAuthThird req <;> rfl

theorem run_eq (c : List Wrapper) (h : Handler) (req : Req) :
    run c h req = (c.findSome? (Wrapper.answer · req)).getD (h req) := by
  induction c with
  | nil => rfl
  | cons w c ih =>
    rw [run_cons, apply_eq, ih, List.findSome?_cons]
    cases w.answer req <;> rfl

theorem ite_ne_of_ne {α : Type} {c : Prop} [Decidable c] {a b x : α} (ha : a ≠ x) (hb : b ≠ x) :
    (if c then a else b) ≠ x := by
  split
  · exact ha
  · exact hb

theorem answer_ne_ran (w : Wrapper) (req : Req) : w.answer req ≠ some .ran := by
  -- the nests follow the `if`s of `answer` and, for `optionalAuth`, of `authDecision`; every leaf is
  -- `none` or `some` of a constructor other than `ran`
  cases w with
  | gzip => nofun
  | postInstall | preInstall => exact ite_ne_of_ne nofun nofun
  | ensure => exact ite_ne_of_ne nofun (ite_ne_of_ne (ite_ne_of_ne nofun nofun) nofun)
  | optionalAuth =>
    exact ite_ne_of_ne (ite_ne_of_ne nofun nofun)
      (ite_ne_of_ne nofun (ite_ne_of_ne (ite_ne_of_ne nofun (ite_ne_of_ne nofun nofun)) nofun))

theorem run_ran_answer {c : List Wrapper} {h : Handler} {req : Req} (hr : run c h req = .ran) :
    (∀ w ∈ c, w.answer req = none) ∧ h req = .ran := by
  rw [run_eq] at hr
  cases hf : c.findSome? (Wrapper.answer · req) with
  | none => exact ⟨List.findSome?_eq_none_iff.mp hf, by rwa [hf] at hr⟩
  | some a =>
    obtain ⟨w, _, ha⟩ := List.exists_of_findSome?_eq_some hf
    rw [hf] at hr
    cases hr
    exact absurd ha (answer_ne_ran w req)

theorem run_congr_of_answer (c : List Wrapper) (req : Req) (w : Wrapper) (hw : w ∈ c) {a : Resp}
    (ha : w.answer req = some a) (h₁ h₂ : Handler) : run c h₁ req = run c h₂ req := by
  rw [run_eq, run_eq]
  cases hf : c.findSome? (Wrapper.answer · req) with
  | none => rw [List.findSome?_eq_none_iff.mp hf w hw] at ha; cases ha
  | some a => rfl

def sameButHeaders (a b : Req) : Prop :=
  a.path = b.path ∧ a.method = b.method ∧ a.cookie = b.cookie ∧ a.basic = b.basic ∧
  a.ctype = b.ctype ∧ a.contentLength = b.contentLength ∧ a.firstRun = b.firstRun ∧
  a.usersExist = b.usersExist ∧ a.glMode = b.glMode ∧ a.glCookie = b.glCookie ∧
  a.glStat = b.glStat ∧ a.now = b.now ∧ a.addrBlocked = b.addrBlocked ∧ a.authNil = b.authNil

theorem sameButHeaders.eq_update {a b : Req} (h : sameButHeaders a b) :
    ∃ hs, a = { b with headers := hs } := by
  cases a
  cases b
  obtain ⟨rfl, rfl, rfl, rfl, rfl, rfl, rfl, rfl, rfl, rfl, rfl, rfl, rfl, rfl⟩ := h
  exact ⟨_, rfl⟩

theorem answer_setHeaders (w : Wrapper) (b : Req) (hs : List (Bytes × Bytes)) :
    w.answer { b with headers := hs } = w.answer b := by
  cases w <;> rfl

theorem run_headers (c : List Wrapper) (h₁ h₂ : Handler) (b : Req) (hs : List (Bytes × Bytes))
    (hh : h₁ { b with headers := hs } = h₂ b) : run c h₁ { b with headers := hs } = run c h₂ b := by
  rw [run_eq, run_eq, hh, funext fun w => answer_setHeaders w b hs]

theorem run_congr (c : List Wrapper) (h₁ h₂ : Handler) (req : Req) (hh : h₁ req = h₂ req) :
    run c h₁ req = run c h₂ req :=
  run_headers c h₁ h₂ req req.headers hh

theorem run_ran (c : List Wrapper) (h : Handler) (req : Req) (hr : run c h req = .ran) :
    h req = .ran :=
  (run_ran_answer hr).2

theorem loginHtml_public : isPublicResource pLoginHtml = true := by decide

theorem globLitStar_iff (lit p : Bytes) :
    globLitStar lit p = true ↔ ∃ s, p = lit ++ s ∧ slash ∉ s := by
  simp only [globLitStar, Bool.and_eq_true, Bool.not_eq_true', List.isPrefixOf_iff_prefix,
    ← Bool.not_eq_true, List.contains_iff_mem]
  constructor
  · rintro ⟨⟨s, rfl⟩, hc⟩
    exact ⟨s, rfl, by rwa [List.drop_left] at hc⟩
  · rintro ⟨s, rfl, hs⟩
    exact ⟨⟨s, rfl⟩, by rwa [List.drop_left]⟩

theorem findUserOK_iff (users : List (Bytes × Bytes)) (verifies : Bytes → Bytes → Bool)
    (name pass : Bytes) :
    findUserOK users verifies name pass = true ↔
      ∃ u ∈ users, u.1 = name ∧ verifies u.2 pass = true := by
  simp only [findUserOK, List.any_eq_true, Bool.and_eq_true, beq_iff_eq]

theorem answer_auth_denied (req : Req)
    (hu : authRequired req = true) (hp : isPublicResource req.path = false)
    (ha : authenticated req = false) :
    Wrapper.answer .optionalAuth req =
      some (if req.path = pRoot ∨ req.path = pIndex then .redirect (loginTarget req.glMode)
        else .forbiddenAuth) := by
  have hl : req.path ≠ pLoginHtml := by
    intro he
    rw [he, loginHtml_public] at hp
    cases hp
  unfold authenticated at ha
  by_cases hr : req.path = pRoot ∨ req.path = pIndex <;>
    simp [Wrapper.answer, authDecision, hl, hp, hu, ha, hr]

theorem authFirst_mem (c : List Wrapper) (h : authFirst c = true) : .optionalAuth ∈ c := by
  fun_induction authFirst c with
  | case1 t ih => exact List.mem_cons_of_mem _ (ih h)
  | case2 t ih => exact List.mem_cons_of_mem _ (ih h)
  | case3 => exact List.mem_cons_self
  | case4 => cases h

theorem answer_postInstall_installed (req : Req) (hf : req.firstRun = false) :
    Wrapper.answer .postInstall req = none := by
  simp only [Wrapper.answer, hf, Bool.false_and, Bool.false_eq_true, if_false]

theorem answer_preInstall_closed (req : Req) (hf : req.firstRun = false) :
    Wrapper.answer .preInstall req = some .forbiddenPre := by
  simp only [Wrapper.answer, hf, Bool.not_false, if_true]

theorem preInstallFirst_denied {c : List Wrapper} {req : Req} (g : Handler)
    (hc : preInstallFirst c = true) (hf : req.firstRun = false) :
    run c g req = .forbiddenPre := by
  cases c with
  | nil => simp [preInstallFirst] at hc
  | cons w c =>
    cases w <;> simp [preInstallFirst] at hc
    rw [run_eq, List.findSome?_cons, answer_preInstall_closed req hf]
    rfl

theorem ensure_mem_ran {m : Bytes} {c : List Wrapper} {g : Handler} {req : Req}
    (hm : .ensure m ∈ c) (hr : run c g req = .ran) :
    req.method = m ∧ (modifiesData m = true → ctypeOK req = true) := by
  have hn := (run_ran_answer hr).1 _ hm
  by_cases hmeq : req.method = m
  · refine ⟨hmeq, fun hmod => ?_⟩
    simpa [Wrapper.answer, hmeq, hmod] using hn
  · simp [Wrapper.answer, hmeq] at hn

theorem stateChanging_eq (m : Bytes) : stateChanging m = modifiesData m := rfl

theorem ctypeOK_json (req : Req) (h : ctypeOK req = true) : jsonOrEmpty req = true := by
  unfold ctypeOK at h
  unfold jsonOrEmpty
  split at h
  · next h0 => simp [h0, h]
  · simp [h]

theorem servedBy_exact (pat path : Bytes) (hl : pat.getLast? ≠ some slash)
    (hs : servedBy pat path = true) : path = pat := by
  simpa [servedBy, hl] using hs

theorem allowed_served_public (pat path : Bytes)
    (ha : allowedPattern pat = true) (hs : servedBy pat path = true) :
    specPublicPath path = true := by
  unfold allowedPattern allowedPatterns at ha
  simp only [List.contains_iff_mem, List.mem_cons, List.not_mem_nil, or_false] at ha
  rcases ha with rfl | rfl | rfl | rfl | rfl
  -- "/dns-query/" serves its subtree, all of it DoH; each of the others serves its own path only
  rotate_left 4
  · have hl : pDnsQuerySlash.getLast? = some slash := by decide
    have hp : pDnsQuerySlash.isPrefixOf path = true := by simpa [servedBy, hl] using hs
    simp [specPublicPath, isDoH, hp]
  all_goals
    rw [servedBy_exact _ _ (by decide) hs]
    decide

theorem plainName_cases (v : Bytes) (h : plainName v = true) :
    (v ≠ [] ∧ slash ∉ v) ∨ v = [slash] := by
  unfold plainName at h
  simp only [Bool.or_eq_true, Bool.and_eq_true, bne_iff_ne, ne_eq, Bool.not_eq_true',
    beq_iff_eq] at h
  rcases h with ⟨h1, h2⟩ | h
  · left
    refine ⟨h1, fun hm => ?_⟩
    rw [List.contains_iff_mem.mpr hm] at h2
    cases h2
  · right; exact h

/-- The code adds the timeout modulo 2^32, the spec does not.  `hnow` (the clock is past
the first hour of 1970) is needed for the file too short to be read, which the code takes
as date 0. -/
theorem glProcess_sub_fresh (req : Req) (hnow : glTimeout < req.now)
    (h : glProcessCookie req = true) :
    req.glMode = true ∧
    ∃ v, req.glCookie = some v ∧ plainName v = true ∧ tokenFresh req.now req.glStat = true := by
  unfold glProcessCookie glCheckToken at h
  cases hc : req.glCookie with
  | none => simp [hc] at h
  | some v =>
    simp only [hc, Bool.and_eq_true] at h
    refine ⟨h.1.1, v, rfl, h.2.1, ?_⟩
    have h2 := h.2.2
    unfold tokenFresh
    cases hs : req.glStat with
    | missing => simp [hs] at h2
    | short =>
      simp [hs, glTimeout] at h2
      simp [glTimeout] at hnow
      omega
    | date d =>
      simp [hs] at h2 ⊢
      have : (d + glTimeout) % 4294967296 ≤ d + glTimeout := Nat.mod_le _ _
      omega

/-- What is assumed of the file system, and only for values WITHOUT a separator:
the OS finds under `glFilePrefix ++ v` the directory entry of exactly that name
(`issued`: what the router issued under it); and a path that ends in a separator
is a directory, which has no readable date.  Nothing is assumed about values
with separators, and nothing about what else the directory holds. -/
def nameResolves (req : Req) (issued : GLStat) : Prop :=
  (∀ v, req.glCookie = some v → slash ∉ v → req.glStat = issued) ∧
  (req.glCookie = some [slash] → ∀ d, req.glStat ≠ .date d)

theorem specOK_iff (req : Req) (d : Option Bytes) (o : Obs) (issued : GLStat) :
    specOK req d o issued = true ↔
      (protectedReq req issued = true → allowedDenial o = true) ∧
      (o = .resp .ran → badStateChange req d = false) := by
  unfold specOK specCheck
  by_cases ho : o = .resp .ran
  · subst ho
    cases protectedReq req issued <;> cases badStateChange req d <;> simp [allowedDenial]
  · cases protectedReq req issued <;> cases allowedDenial o <;> simp [ho]

/-! ## Sweeps over tables of byte strings

Comparing two byte strings costs the kernel a step per common byte, and the names
in the generated tables share long prefixes.  The sweeps compare the strings read
as numbers instead, one step each.  The number need not determine the string: where two agree,
`contains_eq_any_key` compares the strings themselves, and `distinct` fails; the leading 1 of
`byteNum` only keeps `[0]` and `[0, 0]` apart. -/

def byteNum (s : Bytes) : Nat := s.foldl (fun n b => n * 256 + b) 1

/-- Looking `a` up by a key: only an element with the key of `a` is compared with `a` itself. -/
theorem contains_eq_any_key {α β} [BEq α] [LawfulBEq α] [BEq β] [ReflBEq β] (f : α → β)
    (l : List α) (a : α) : l.contains a = l.any fun b => f b == f a && b == a := by
  induction l with
  | nil => rfl
  | cons b l ih =>
    have : (f b == f a && b == a) = (a == b) := by
      by_cases h : b = a
      · subst h; simp
      · rw [beq_false_of_ne h, Bool.and_false, beq_false_of_ne (Ne.symm h)]
    rw [List.contains_cons, List.any_cons, ih, this]

def distinct : List Nat → Bool
  | [] => true
  | a :: l => !l.contains a && distinct l

theorem nodup_of_distinct_keys {α} (f : α → Nat) :
    ∀ {l : List α}, distinct (l.map f) = true → l.Nodup
  | [], _ => List.nodup_nil
  | a :: l, h => by
    simp only [List.map_cons, distinct, Bool.and_eq_true, Bool.not_eq_true', List.contains_eq_mem,
      decide_eq_false_iff_not] at h
    exact List.nodup_cons.mpr ⟨fun hm => h.1 (List.mem_map_of_mem hm), nodup_of_distinct_keys f h.2⟩

end AGH.C11
