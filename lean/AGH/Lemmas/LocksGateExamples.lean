/-
C05 — non-vacuity of the gate-lock theorems: a program that is deadlock free
only thanks to a gate (no rank certificate exists for it without the gate), and
the variant in which one goroutine takes the gated lock WITHOUT the gate and
nests another acquisition inside, which has a reachable deadlock; an ungated
LEAF hold (released at once) is harmless.
-/
import AGH.Lemmas.LocksExec
namespace AGH.C05

open Event Mode

/-- Lock 2 (the bbolt writer lock) is gated by lock 0 (`confMu`). -/
def exGate : Lock → Option Lock := fun l => if l == 2 then some 0 else none

/-- The rank certificate: 0 < 2 < 1 (`confMu` < bolt < `currMu`). -/
def exGateRank : Lock → Nat := fun l => if l == 1 then 2 else if l == 2 then 1 else 0

/-- "flush: confMu.Lock, currMu.Lock, bolt" next to "read: confMu.RLock, bolt,
currMu.RLock" and a third goroutine that only takes `currMu`. -/
def exGated : Prog :=
  [[acq 0 excl, acq 1 excl, acq 2 excl, rel 2 excl, rel 1 excl, rel 0 excl],
   [acq 0 shared, acq 2 excl, acq 1 shared, rel 1 shared, rel 2 excl, rel 0 shared],
   [acq 1 excl, rel 1 excl]]

example : progRankedG exGateRank exGate exGated = true := by decide +kernel

/-- The flusher's acquisition of lock 2 really uses the exemption: it is made
while lock 1, of LARGER rank, is held. -/
example : exemptB exGate [(1, excl), (0, excl)] 2 = true ∧
    ([(1, excl), (0, excl)] : List (Lock × Mode)).all (fun h => exGateRank h.1 < exGateRank 2) = false := by
  decide

/-- With the identity rank the reader's `acq 1` under lock 2 is refused. -/
example : progRankedG (fun l => l) exGate exGated = false := by decide +kernel

/-- Without the gate no rank certificate exists: goroutine 0 takes 1 before 2,
goroutine 1 takes 2 before 1. -/
theorem exGated_not_ranked : ∀ rank, progRanked rank exGated = false := by
  intro rank
  cases h : progRanked rank exGated with
  | false => rfl
  | true =>
    exfalso
    simp only [progRanked, exGated, rankOK, List.all_cons, List.all_nil, Bool.and_true,
      Bool.and_eq_true, decide_eq_true_eq] at h
    omega

/-- The goroutines really contend (the reader's pick of lock 0 and the third
goroutine's pick of lock 1 are refused while the flusher is inside; later the
reader, holding lock 2, is refused lock 1) and the program runs to completion. -/
example : modelSched exGated [0, 1, 0, 2, 0, 0, 0, 0, 1, 2, 1, 1, 2, 1, 1, 1, 1] =
    [true, false, true, false, true, true, true, true, true, true, true, false, true, true, true,
     true, true] := by decide +kernel

example : (statesFrom (init exGated) [0, 1, 0, 2, 0, 0, 0, 0, 1, 2, 1, 1, 2, 1, 1, 1, 1]).getLast?.map
    unfinished = some false := by decide +kernel

example : ∀ s, Reach (init exGated) s → ¬ Deadlock s ∧ ∀ i, ¬ WaitChain s i i :=
  fun s hr =>
    ⟨order_sound_gated exGateRank exGate exGated (by decide +kernel) s hr,
     no_wait_cycle_gated exGateRank exGate exGated (by decide +kernel) s hr⟩

def exUngated : Prog :=
  [[acq 0 excl, acq 1 excl, acq 2 excl, rel 2 excl, rel 1 excl, rel 0 excl],
   [acq 2 excl, acq 1 shared, rel 1 shared, rel 2 excl]]

example : progRankedG exGateRank exGate exUngated = false := by decide +kernel

/-- The flusher holds 0 and 1 and waits for 2; the reader holds 2 and waits for 1. -/
def exUngatedStuck : State :=
  [⟨[(1, excl), (0, excl)], false, [acq 2 excl, rel 2 excl, rel 1 excl, rel 0 excl]⟩,
   ⟨[(2, excl)], false, [acq 1 shared, rel 1 shared, rel 2 excl]⟩]

example : (statesFrom (init exUngated) [0, 0, 1]).getLast? = some exUngatedStuck := by decide +kernel

theorem exUngated_reach : Reach (init exUngated) exUngatedStuck :=
  statesFrom_reach _ _ Reach.refl [0, 0, 1] _ (by decide +kernel)

theorem exUngated_deadlock : ∃ s, Reach (init exUngated) s ∧ Deadlock s :=
  ⟨exUngatedStuck, exUngated_reach, (deadlockB_iff _).1 (by decide +kernel)⟩

/-- Whatever the rank, the discipline rejects it: the reader acquires lock 2
without holding its gate, and not as a leaf hold (it goes on to acquire lock 1).
Proved the other way round: `order_sound_gated` would exclude the deadlock just
shown. -/
theorem exUngated_not_rankedG : ∀ rank, progRankedG rank exGate exUngated = false := by
  intro rank
  cases h : progRankedG rank exGate exUngated with
  | false => rfl
  | true =>
    obtain ⟨s, hr, hd⟩ := exUngated_deadlock
    exact absurd hd (order_sound_gated rank exGate exUngated h s hr)

/-- The same `Reach` derivation with explicit machine steps. -/
example : Reach (init exUngated) exUngatedStuck :=
  Reach.step (Reach.step (Reach.step Reach.refl
    (Step.run 0 (s' :=
      [⟨[(0, excl)], false, [acq 1 excl, acq 2 excl, rel 2 excl, rel 1 excl, rel 0 excl]⟩,
       ⟨[], false, [acq 2 excl, acq 1 shared, rel 1 shared, rel 2 excl]⟩]) (by decide +kernel)))
    (Step.run 0 (s' :=
      [⟨[(1, excl), (0, excl)], false, [acq 2 excl, rel 2 excl, rel 1 excl, rel 0 excl]⟩,
       ⟨[], false, [acq 2 excl, acq 1 shared, rel 1 shared, rel 2 excl]⟩]) (by decide +kernel)))
    (Step.run 1 (by decide +kernel))

example : WaitChain exUngatedStuck 0 0 := by
  refine WaitChain.cons (k := 1) ?_ (WaitChain.one ?_)
  · exact ⟨_, _, 2, excl, _, rfl, rfl, rfl, by decide +kernel, by decide +kernel⟩
  · exact ⟨_, _, 1, shared, _, rfl, rfl, rfl, by decide +kernel, by decide +kernel⟩

/-- The flusher next to a goroutine that takes lock 2 without the gate but
releases it at once (`StatsCtx.clear`'s empty bbolt transaction). -/
def exLeaf : Prog :=
  [[acq 0 excl, acq 1 excl, acq 2 excl, rel 2 excl, rel 1 excl, rel 0 excl],
   [acq 2 excl, rel 2 excl]]

example : progRankedG exGateRank exGate exLeaf = true := by decide +kernel

/-- The leaf acquisition is made without the gate: only `leafNext` lets it through. -/
example : gateHeldOK exGate [] 2 = false ∧ leafNext 2 excl [rel 2 excl] = true := by decide +kernel

/-- The leaf holder really delays the flusher's EXEMPT acquisition of lock 2
(so "exempt acquisitions never block" is false here; they only never deadlock),
and the program runs to completion. -/
example : modelSched exLeaf [1, 0, 0, 0, 1, 0, 0, 0, 0] =
    [true, true, true, false, true, true, true, true, true] := by decide +kernel

example : (statesFrom (init exLeaf) [1, 0, 0, 0, 1, 0, 0, 0, 0]).getLast?.map unfinished =
    some false := by decide +kernel

example : ∀ s, Reach (init exLeaf) s → ¬ Deadlock s ∧ ∀ i, ¬ WaitChain s i i :=
  fun s hr =>
    ⟨order_sound_gated exGateRank exGate exLeaf (by decide +kernel) s hr,
     no_wait_cycle_gated exGateRank exGate exLeaf (by decide +kernel) s hr⟩

/-- The table-level hypotheses are satisfiable: rank, edge, gate and acquisition
tables for `exGated`, and its goroutines labelled with acquisition sites. -/
example :
    let ranks := [(0, 0), (2, 1), (1, 2)]
    let edges := [(0, 1), (0, 2), (2, 1)]
    let gates := [(2, 0)]
    let acqs : List AcqRow :=
      [⟨7, 2, [], [0], false, false⟩, ⟨8, 2, [0], [], false, false⟩, ⟨9, 2, [], [], true, false⟩]
    edgesRanked ranks edges = true ∧ acqsGated gates acqs = true ∧
    conformsOrdG edges gates acqs []
      [(acq 0 excl, 0), (acq 1 excl, 0), (acq 2 excl, 7), (rel 2 excl, 0), (rel 1 excl, 0),
       (rel 0 excl, 0)] = true ∧
    conformsOrdG edges gates acqs []
      [(acq 0 shared, 0), (acq 2 excl, 8), (acq 1 shared, 0), (rel 1 shared, 0), (rel 2 excl, 0),
       (rel 0 shared, 0)] = true ∧
    -- the ungated leaf hold conforms (site 9 is a leaf row)
    conformsOrdG edges gates acqs [] [(acq 2 excl, 9), (rel 2 excl, 0)] = true ∧
    -- the reader that drops the gate does not conform: site 8 lists the gate as
    -- held, and the leaf row of site 9 requires the release to come next
    conformsOrdG edges gates acqs []
      [(acq 2 excl, 8), (acq 1 shared, 0), (rel 1 shared, 0), (rel 2 excl, 0)] = false ∧
    conformsOrdG edges gates acqs []
      [(acq 2 excl, 9), (acq 1 shared, 0), (rel 1 shared, 0), (rel 2 excl, 0)] = false := by
  decide

end AGH.C05
