/-
C04 lemmas: under the invariant the index answers every lookup exactly
as the abstract registry does (refinement), so what the model shows for a probe
(`modelSeen`) is what the spec expects and its probe check never fires
(`probeFail_model`).  Core Lean only.
-/
import AGH.Lemmas.ClientsSpec
import AGH.Lemmas.Access
namespace AGH.C04
open AGH AGH.Bytes
open AGH.C03 (IP Prefix inCIDR)

/-- The abstraction relation between the model's storage and the spec's registry.  `perm` cannot be an
equality: the model's `Update` removes the stored client and appends the new one, the spec's
`applyAccepted` replaces it in place (`map_replace_perm`). -/
structure Refines (s : Storage) (w : World) : Prop where
  inv : Inv s.index
  perm : s.index.clients.Perm w.reg
  dhcp : s.dhcp = w.dhcp

theorem Refines.empty : Refines Storage.empty World.empty :=
  ⟨Inv.empty, List.Perm.refl _, rfl⟩

theorem Refines.self {s : Storage} (h : Inv s.index) : Refines s ⟨s.index.clients, s.dhcp⟩ :=
  ⟨h, .refl _, rfl⟩

theorem Inv.pairwise_disjoint {ci : Index} (h : Inv ci) : ci.clients.Pairwise DisjointP := by
  refine List.Pairwise.imp_of_mem ?_ h.uids
  intro a b ha hb hne
  refine ⟨hne, fun k hka hkb => hne ?_⟩
  have h1 := (h.uidOf k a.uid).mpr ⟨a, ha, rfl, hka⟩
  rw [(h.uidOf k b.uid).mpr ⟨b, hb, rfl, hkb⟩] at h1
  exact (Option.some.inj h1).symm

theorem NoClash.uid_of_shared {ci : Index} {c d : Client} (hnc : NoClash ci c) (h : Inv ci)
    (hd : d ∈ ci.clients) {k : Ident} (hkc : k ∈ c.idents) (hkd : k ∈ d.idents) : d.uid = c.uid :=
  noClash_iff.mp hnc k hkc d.uid ((h.uidOf k d.uid).mpr ⟨d, hd, rfl, hkd⟩)

theorem Refines.pairwise_disjoint {s : Storage} {w : World} (h : Refines s w) : w.reg.Pairwise DisjointP :=
  (h.perm.pairwise_iff DisjointP.symm).mp h.inv.pairwise_disjoint

theorem Refines.noSharing {s : Storage} {w : World} (h : Refines s w) : noSharing w.reg = true :=
  noSharing_iff.mpr h.pairwise_disjoint

theorem Refines.mem {s : Storage} {w : World} (h : Refines s w) {c : Client} :
    c ∈ s.index.clients ↔ c ∈ w.reg := h.perm.mem_iff

/- Four result types: the index's `Look`, the storage's `Got`, the registry's `Option Client`, the
monitor's `Seen`.  `Look.ofOption` and `gotOf` embed the registry's answer into the index's and the
storage's type, and the refinement lemmas below are stated with them; `Look.got` takes the first to
the second (`Look.ofOption_got`), and what either shows (`.seen`, what the driver prints) is the
spec's `seenOf` (`Look.ofOption_seen`, `gotOf_seen`).  `Look.opt` goes the other way and serves only
`C04_counterexample_restart_eui64_before_fix`. -/

def Look.opt : Look → Option Client
  | .found c => Option.some c
  | _ => Option.none

def gotOf : Option Client → Got
  | none => .none
  | some c => .client c

def Look.ofOption : Option Client → Look
  | Option.none => Look.none
  | Option.some c => Look.found c

theorem Look.ofOption_got (o : Option Client) : (Look.ofOption o).got = gotOf o := by
  cases o <;> rfl

def Look.seen : Look → Seen
  | .none => .none
  | .found c => .client c.uid c.ver
  | .dangling => .broken

def Got.seen : Got → Seen
  | .none => .none
  | .client c => .client c.uid c.ver
  | .panic => .broken

/-- The model's observation for a probe (what the driver prints, parsed). -/
def modelSeen (s : Storage) : Probe → Seen
  | .name n => (s.findByName n).seen
  | .cid c => (s.index.findByClientID c).seen
  | .ip a => (s.index.findByIP a).seen
  | .mac m => match s.index.findByMAC m with
    | some l => l.seen
    | none => .broken
  | .apply cid a => match s.applyClientFiltering cid a globalSettings with
    | some st => .setts st
    | none => .broken
  | .find id => (s.find id).seen

theorem Look.ofOption_seen (o : Option Client) : (Look.ofOption o).seen = seenOf o := by
  cases o <;> rfl

theorem gotOf_seen (o : Option Client) : (gotOf o).seen = seenOf o := by
  cases o <;> rfl

theorem Refines.deref_uidOf {s : Storage} {w : World} (hr : Refines s w) (k : Ident) :
    s.index.deref (s.index.uidOf k) = Look.ofOption (owner w.reg k) := by
  cases ho : owner w.reg k with
  | none =>
    exact (hr.inv.deref_none_iff hr.inv.uidOf k).mpr fun c hc => owner_eq_none_iff.mp ho c (hr.mem.mp hc)
  | some c =>
    obtain ⟨hc, hkc⟩ := (owner_eq_some_iff hr.pairwise_disjoint).mp ho
    exact (hr.inv.deref_found_iff hr.inv.uidOf k c).mpr ⟨hr.mem.mpr hc, hkc⟩

theorem Index.findByClientID_owner {s : Storage} {w : World} (hr : Refines s w) (k : Bytes) :
    s.index.findByClientID k = Look.ofOption (owner w.reg (.cid k)) :=
  hr.deref_uidOf (.cid k)

theorem validMAC_eq_macOK : validMAC = macOK := rfl

theorem Index.findByMAC_owner {s : Storage} {w : World} (hr : Refines s w) {m : MAC} (hv : validMAC m = true) :
    s.index.findByMAC m = some (Look.ofOption (owner w.reg (.mac m))) :=
  (if_pos (validMAC_eq_macOK ▸ hv)).trans (congrArg some (hr.deref_uidOf (.mac m)))

theorem find?_sorted {keys : List Prefix} (hs : Sorted keys) (P : Prefix → Bool) {p : Prefix}
    (h : keys.find? P = some p) : ∀ q ∈ keys, P q = true → q = p ∨ plt p q := by
  obtain ⟨_, as, bs, rfl, has⟩ := List.find?_eq_some_iff_append.mp h
  intro q hq hPq
  rcases List.mem_append.mp hq with hq | hq
  · have := has q hq
    rw [hPq] at this
    cases this
  · rcases List.mem_cons.mp hq with rfl | hq
    · exact .inl rfl
    · exact .inr ((List.pairwise_cons.mp (List.pairwise_append.mp hs).2.1).1 q hq)

theorem inCIDR_family {p q : Prefix} {ip : IP} (hp : inCIDR p ip = true) (hq : inCIDR q ip = true) :
    p.is6 = q.is6 := by
  cases ip with
  | invalid => cases hp
  | v4 n =>
    have h1 := (Bool.and_eq_true_iff.mp hp).1
    have h2 := (Bool.and_eq_true_iff.mp hq).1
    rw [Bool.not_eq_true'] at h1 h2
    rw [h1, h2]
  | v6 n z => rw [(Bool.and_eq_true_iff.mp hp).1, (Bool.and_eq_true_iff.mp hq).1]

theorem moreSpecific_of_plt {p q : Prefix} (h : plt p q) (hf : p.is6 = q.is6) :
    moreSpecific p q = true := by
  rw [moreSpecific_iff]
  rcases h with h | ⟨h1, h2 | h2⟩
  · exact Or.inl h
  · rw [h2.1, h2.2] at hf
    cases hf
  · exact Or.inr ⟨h1, h2.2⟩

theorem Refines.mem_keys {s : Storage} {w : World} (hr : Refines s w) (q : Prefix) :
    q ∈ s.index.subnetToUID.keys ↔ ∃ c, c ∈ w.reg ∧ q ∈ c.subnets := by
  rw [hr.inv.sm.dom q, Option.isSome_iff_exists]
  constructor
  · rintro ⟨u, hv⟩
    obtain ⟨c, hc, _, hq⟩ := (hr.inv.subs q u).mp hv
    exact ⟨c, hr.mem.mp hc, hq⟩
  · rintro ⟨c, hc, hq⟩
    exact ⟨c.uid, (hr.inv.subs q c.uid).mpr ⟨c, hr.mem.mpr hc, rfl, hq⟩⟩

/-- The walk over the sorted keys stops at the most specific CIDR that contains
the address: a containing key that sorts later is dominated. -/
theorem Refines.subnetWalk {s : Storage} {w : World} (hr : Refines s w) (ip : IP) :
    (match s.index.subnetToUID.keys.find? (fun pref => pref.contains ip.withoutZone) with
      | some pref => s.index.deref (some ((s.index.subnetToUID.vals pref).getD 0))
      | none => Look.none) = Look.ofOption ((mostSpecific w.reg ip).map (·.2)) := by
  cases hf : s.index.subnetToUID.keys.find? (fun pref => pref.contains ip.withoutZone) with
  | none =>
    have : containing w.reg ip = [] := by
      refine List.eq_nil_iff_forall_not_mem.mpr ?_
      rintro ⟨q, c⟩ hx
      obtain ⟨hc, hq, hin⟩ := mem_containing.mp hx
      have := List.find?_eq_none.mp hf q ((hr.mem_keys q).mpr ⟨c, hc, hq⟩)
      rw [C03.contains_withoutZone] at this
      exact this hin
    rw [mostSpecific_none.mpr this]
    rfl
  | some pref =>
    have hin : inCIDR pref ip = true := by
      have := List.find?_some hf
      rwa [C03.contains_withoutZone] at this
    obtain ⟨c, hc, hpc⟩ := (hr.mem_keys pref).mp (List.mem_of_find?_eq_some hf)
    have hcand := mem_containing.mpr ⟨hc, hpc, hin⟩
    cases hms : mostSpecific w.reg ip with
    | none =>
      rw [mostSpecific_none.mp hms] at hcand
      cases hcand
    | some b =>
      obtain ⟨q, d⟩ := b
      obtain ⟨hb, hbest⟩ := mostSpecific_some hms
      obtain ⟨hd, hqd, hqin⟩ := mem_containing.mp hb
      have hq : q = pref := by
        rcases find?_sorted hr.inv.sm.sorted _ hf q ((hr.mem_keys q).mpr ⟨d, hd, hqd⟩)
          ((C03.contains_withoutZone q ip).trans hqin) with h | h
        · exact h
        · have := hbest (pref, c) hcand
          rw [moreSpecific_of_plt h (inCIDR_family hin hqin)] at this
          cases this
      subst hq
      have hd' := hr.mem.mpr hd
      show s.index.deref (some ((s.index.subnetToUID.vals q).getD 0)) = .found d
      rw [(hr.inv.subs q d.uid).mpr ⟨d, hd', rfl, hqd⟩]
      exact hr.inv.deref_uid hd'

theorem Index.findByIP_byAddress {s : Storage} {w : World} (hr : Refines s w) (ip : IP) :
    s.index.findByIP ip = Look.ofOption (byAddress w.reg ip) := by
  unfold Index.findByIP byAddress
  cases hk : s.index.ipToUID ip with
  | some u =>
    obtain ⟨c, hc, rfl, hkc⟩ := (hr.inv.ips ip u).mp hk
    rw [(owner_eq_some_iff hr.pairwise_disjoint).mpr ⟨hr.mem.mp hc, mem_idents_ip.mpr hkc⟩]
    exact hr.inv.deref_uid hc
  | none =>
    rw [owner_eq_none_iff.mpr fun c hc hkc => nomatch
      hk.symm.trans ((hr.inv.ips ip c.uid).mpr ⟨c, hr.mem.mpr hc, rfl, mem_idents_ip.mp hkc⟩)]
    exact hr.subnetWalk ip

theorem Client.apply_eq (c : Client) (g : Settings) : c.apply g = effective (some c) g := by
  unfold Client.apply effective
  dsimp only
  cases c.useOwnBlockedServices <;> cases c.useOwnSettings <;> rfl

theorem Storage.findByMAC_owner {s : Storage} {w : World} (hr : Refines s w) {m : MAC} (hv : validMAC m = true) :
    s.findByMAC m = gotOf (owner w.reg (.mac m)) := by
  unfold Storage.findByMAC
  rw [Index.findByMAC_owner hr hv]
  exact Look.ofOption_got _

theorem Storage.findByLease_owner {s : Storage} {w : World} (hr : Refines s w) (ip : IP)
    (hsc : ∀ m, w.lease ip = some m → validMAC m = true) :
    s.findByLease ip = gotOf ((w.lease ip).bind fun m => owner w.reg (.mac m)) := by
  unfold Storage.findByLease Storage.macByIP
  rw [hr.dhcp, ← World.lease]
  cases hl : w.lease ip with
  | none => rfl
  | some m => exact Storage.findByMAC_owner hr (hsc m hl)

theorem resolve_attributed {s : Storage} {w : World} (hr : Refines s w) (cid : Bytes) (a : IP)
    (hsc : ∀ m, w.lease a = some m → validMAC m = true) :
    s.resolve cid a = gotOf (attributed w.reg (w.lease a) cid a) := by
  unfold Storage.resolve attributed
  rw [Index.findByClientID_owner hr cid, Index.findByIP_byAddress hr a, Storage.findByLease_owner hr a hsc]
  cases owner w.reg (.cid cid) with
  | some c => rfl
  | none =>
    cases byAddress w.reg a with
    | some c => rfl
    | none => rfl

theorem applyClientFiltering_effective {s : Storage} {w : World} (hr : Refines s w) (cid : Bytes)
    (a : IP) (g : Settings) (hsc : ∀ m, w.lease a = some m → validMAC m = true) :
    s.applyClientFiltering cid a g = some (effective (attributed w.reg (w.lease a) cid a) g) := by
  unfold Storage.applyClientFiltering
  rw [resolve_attributed hr cid a hsc]
  cases attributed w.reg (w.lease a) cid a with
  | none => rfl
  | some c => exact congrArg some (c.apply_eq g)

theorem find_expected {s : Storage} {w : World} (hr : Refines s w) (id : IdStr)
    (hsc : probeInScope w (.find id) = true) : (s.find id).seen = expected w (.find id) := by
  obtain ⟨h1, h2⟩ := Bool.and_eq_true_iff.mp hsc
  unfold Storage.find expected
  dsimp only
  rw [Index.findByClientID_owner hr id.raw]
  cases owner w.reg (.cid id.raw) with
  | some c => rfl
  | none =>
    cases hip : id.asIP with
    | none =>
      cases hmac : id.asMAC with
      | none => rfl
      | some m =>
        rw [hmac] at h1
        dsimp only [Option.bind_some]
        rw [Storage.findByMAC_owner hr h1]
        cases owner w.reg (.mac m) <;> rfl
    | some ip =>
      rw [hip] at h2
      dsimp only [Option.bind_some]
      rw [Index.findByIP_byAddress hr ip,
        Storage.findByLease_owner hr ip fun m h => by rw [Option.bind_some, h] at h2; exact h2]
      cases byAddress w.reg ip with
      | some c => rfl
      | none =>
        cases hmac : id.asMAC with
        | none => exact gotOf_seen _
        | some m =>
          rw [hmac] at h1
          dsimp only [Option.bind_some]
          rw [Storage.findByMAC_owner hr h1]
          cases owner w.reg (.mac m) with
          | some c => rfl
          | none => exact gotOf_seen _

theorem modelSeen_expected {s : Storage} {w : World} (hr : Refines s w) (p : Probe)
    (hsc : probeInScope w p = true) : modelSeen s p = expected w p := by
  cases p with
  | name n =>
    show (s.index.deref (s.index.uidOf (.name n))).got.seen = seenOf _
    rw [hr.deref_uidOf (.name n), Look.ofOption_got, gotOf_seen]
  | cid c =>
    show (s.index.findByClientID c).seen = seenOf _
    rw [Index.findByClientID_owner hr c, Look.ofOption_seen]
  | ip a =>
    show (s.index.findByIP a).seen = seenOf _
    rw [Index.findByIP_byAddress hr a, Look.ofOption_seen]
  | mac m =>
    show (match s.index.findByMAC m with | some l => l.seen | none => Seen.broken) = seenOf _
    rw [Index.findByMAC_owner hr hsc]
    exact Look.ofOption_seen _
  | apply cid a =>
    have hl : ∀ m, w.lease a = some m → validMAC m = true := by
      intro m hm
      have h : (match w.lease a with | some m => validMAC m | none => true) = true := hsc
      rw [hm] at h
      exact h
    show (match s.applyClientFiltering cid a globalSettings with
      | some st => Seen.setts st | none => Seen.broken) = Seen.setts _
    rw [applyClientFiltering_effective hr cid a globalSettings hl]
  | find id => exact find_expected hr id hsc

theorem seenOf_ne_broken (o : Option Client) : seenOf o ≠ .broken := by
  cases o <;> exact Seen.noConfusion

theorem expected_ne_broken (w : World) (p : Probe) : expected w p ≠ .broken := by
  cases p with
  | apply cid a => exact Seen.noConfusion
  | _ => exact seenOf_ne_broken _

theorem probeFail_model {s : Storage} {w : World} (hr : Refines s w) (p : Probe) :
    probeFail w p (modelSeen s p) = none := by
  unfold probeFail
  cases hsc : probeInScope w p with
  | false => rfl
  | true =>
    rw [modelSeen_expected hr p hsc, if_neg (c := (!true) = true) Bool.false_ne_true,
      if_neg (expected_ne_broken w p)]
    exact if_pos rfl

end AGH.C04
