/-
C13: from the per-step facts (`stepN_ok`) to `upgradeConfigSchema`, re-encoding and
`Migrate`; then what the property theorems (`Props/C13.lean`) use of a run: how it is
reported, what a produced document looks like, the spec's clause predicates on the
model's results, runs in two parts, and which document the spec's version clauses speak of.
-/
import AGH.Lemmas.MigrateSteps
namespace AGH.C13
open AGH

theorem step_ok (o : Oracles) (n : Nat) (h1 : 1 ≤ n) (h29 : n ≤ 29) : IsStep n (step o n) :=
  step_cases o (P := IsStep)
    step1_ok step2_ok step3_ok step4_ok step5_ok step6_ok step7_ok step8_ok step9_ok (step10_ok o)
    step11_ok step12_ok step13_ok step14_ok step15_ok step16_ok step17_ok step18_ok step19_ok step20_ok
    step21_ok step22_ok (step23_ok o) step24_ok step25_ok step26_ok step27_ok step28_ok (step29_ok o)
    n h1 h29

def UpgradeOK (cnt cur : Nat) (d : YVal) : Except (Fault × Nat) YVal → Prop :=
  Yields (fun fs => NotPanic fs.1 ∧ cur < fs.2 ∧ fs.2 ≤ cur + cnt) fun d' =>
    IsObj d' ∧ (0 < cnt → getK d' kSchemaVersion = some (.int ((cur + cnt : Nat) : Int))) ∧
      Fr (touchedRange cnt cur) [] d d'

theorem upgrade_ok (o : Oracles) (cnt : Nat) : ∀ (cur : Nat), cur + cnt ≤ 29 → ∀ {d : YVal}, IsObj d →
    UpgradeOK cnt cur d (upgrade o cnt cur d) := by
  induction cnt with
  | zero => exact fun cur _ d hd => ⟨hd, fun h => absurd h (Nat.lt_irrefl 0), Fr.refl⟩
  | succ cnt ih =>
    intro cur hle d hd
    unfold upgrade
    match step o (cur + 1) d, step_ok o (cur + 1) (by omega) (by omega) hd with
    | .error f, hf => exact ⟨hf, by omega, by omega⟩
    | .ok d1, ⟨ho, hv, hf⟩ =>
      refine (ih (cur + 1) (by omega) ho).imp (fun fs h => ⟨h.1, by omega, by omega⟩)
        fun d2 ⟨ho2, hv2, hf2⟩ => ⟨ho2, fun _ => ?_, hf.append hf2⟩
      -- after the last step no path is concerned, so the frame keeps every key: the stamp is the step's own
      cases cnt with
      | zero => exact (hf2.top rfl List.not_mem_nil).trans hv
      | succ c => rw [hv2 (Nat.succ_pos c), Nat.add_right_comm, Nat.add_assoc]

theorem upgrade_stamped (o : Oracles) {es : List (Key × YVal)} {cur k : Nat} {dk : YVal} (hck : cur < k) (hk29 : k ≤ 29)
    (h : upgrade o (k - cur) cur (.obj es) = .ok dk) :
    ∃ esk, dk = .obj esk ∧ lookup kSchemaVersion esk = some (.int k) := by
  obtain ⟨ho, hs, _⟩ :=
    (upgrade_ok o (k - cur) cur ((Nat.add_sub_cancel' (Nat.le_of_lt hck)).symm ▸ hk29) (isObj_obj es)).elim h
  obtain ⟨esk, rfl⟩ := ho.elim
  rw [Nat.add_sub_cancel' (Nat.le_of_lt hck)] at hs
  exact ⟨esk, rfl, hs (Nat.sub_pos_of_lt hck)⟩

theorem upgrade_append (o : Oracles) (a b : Nat) : ∀ (cur : Nat) (d : YVal),
    upgrade o (a + b) cur d =
      (match upgrade o a cur d with
       | .error e => .error e
       | .ok d' => upgrade o b (cur + a) d') := by
  induction a with
  | zero => intro cur d; simp [upgrade]
  | succ a ih =>
    intro cur d
    have : a + 1 + b = (a + b) + 1 := by omega
    rw [this]
    simp only [upgrade]
    cases hs : step o (cur + 1) d with
    | error f => rfl
    | ok d1 =>
      dsimp only
      rw [ih (cur + 1) d1]
      have : cur + 1 + a = cur + (a + 1) := by omega
      rw [this]

theorem touchedRange_keyed : ∀ (cnt cur : Nat), cur + cnt ≤ 29 → keyedPaths (touchedRange cnt cur) = true
  | 0, _, _ => rfl
  | cnt + 1, cur, h => by
    rw [touchedRange, keyedPaths, List.all_append, Bool.and_eq_true]
    exact ⟨(touched_shape (cur + 1) (by omega) (by omega)).2.1, touchedRange_keyed cnt (cur + 1) (by omega)⟩

/-- The spec's `versionOf` reads the stamp as `Migrate` does (`fieldVal[int]`, then `uint`). -/
theorem versionOf_obj (es : List (Key × YVal)) :
    versionOf (.obj es) =
      if (fieldVal .int (.obj es) kSchemaVersion).err = true ∨ intOf (fieldVal .int (.obj es) kSchemaVersion).v < 0
      then none else some (intOf (fieldVal .int (.obj es) kSchemaVersion).v).toNat := by
  have hg : getK (.obj es) kSchemaVersion = lookup kSchemaVersion es := rfl
  simp only [versionOf, fieldVal, hg, lookupE_eq_lookup, stampKey]
  cases lookup kSchemaVersion es with
  | none => rfl
  | some v => cases v <;> simp [hasTy, zeroOf, intOf]

theorem migrateMem_of_version (o : Oracles) {es : List (Key × YVal)} {cur : Nat} (target : Nat)
    (hv : versionOf (.obj es) = some cur) :
    migrateMem o (some (.obj es)) target =
      if cur > target then .err .verCur 0
      else if target > 29 then .err .verTarget 0
      else if cur = target then .same
      else upgradeOutcome (upgrade o (target - cur) cur (.obj es)) := by
  rw [versionOf_obj] at hv
  unfold migrateMem
  dsimp only
  generalize fieldVal .int (.obj es) kSchemaVersion = c at hv
  split at hv
  · cases hv
  · next h =>
    cases hv
    rw [not_or, Bool.not_eq_true] at h
    simp only [h.1, h.2, Bool.false_eq_true, if_false]
    rfl

theorem migrateMem_no_version (o : Oracles) {es : List (Key × YVal)} (target : Nat)
    (hv : versionOf (.obj es) = none) : ∃ k, migrateMem o (some (.obj es)) target = .err k 0 := by
  rw [versionOf_obj] at hv
  unfold migrateMem
  dsimp only
  generalize fieldVal .int (.obj es) kSchemaVersion = c at hv
  split at hv
  · next h =>
    by_cases he : c.err = true
    · exact ⟨_, if_pos he⟩
    · exact ⟨.verCur, by rw [if_neg he, if_pos (h.resolve_left he)]⟩
  · cases hv

theorem migrateMem_run (o : Oracles) {es : List (Key × YVal)} {cur target : Nat}
    (hv : versionOf (.obj es) = some cur) (hlt : cur < target) (h29 : target ≤ 29) :
    migrateMem o (some (.obj es)) target = upgradeOutcome (upgrade o (target - cur) cur (.obj es)) := by
  rw [migrateMem_of_version o target hv, if_neg (by omega), if_neg (by omega), if_neg (by omega)]

/-- Case analysis of what `Migrate` makes of a map before the encoding; a panic is not among the cases
(`upgrade_ok`). -/
theorem migrateMem_cases {Q : Outcome → Prop} (o : Oracles) (es : List (Key × YVal)) (target : Nat)
    (herr : ∀ k, Q (.err k 0))
    (hsame : versionOf (.obj es) = some target → target ≤ 29 → Q .same)
    (hfail : ∀ cur k s, versionOf (.obj es) = some cur → cur < s → s ≤ target → Q (.err k s))
    (horacle : Q .oracle)
    (hup : ∀ cur d, versionOf (.obj es) = some cur → cur < target → target ≤ 29 →
      upgrade o (target - cur) cur (.obj es) = .ok d → IsObj d → getK d kSchemaVersion = some (.int target) →
      Fr (touchedRange (target - cur) cur) [] (.obj es) d → Q (.up d)) :
    Q (migrateMem o (some (.obj es)) target) := by
  cases hv : versionOf (.obj es) with
  | none =>
    obtain ⟨k, hk⟩ := migrateMem_no_version o target hv
    rw [hk]
    exact herr k
  | some cur =>
    rw [migrateMem_of_version o target hv]
    split
    · exact herr _
    split
    · exact herr _
    split
    · next h => exact hsame (h ▸ hv) (by omega)
    · next h29 hne =>
      have hlt : cur < target := by omega
      have hle : cur + (target - cur) = target := Nat.add_sub_cancel' (Nat.le_of_lt hlt)
      have hok := upgrade_ok o (target - cur) cur (by omega) (isObj_obj es)
      cases hu : upgrade o (target - cur) cur (.obj es) with
      | ok d =>
        obtain ⟨ho, hs, hf⟩ := hok.elim hu
        exact hup cur d hv hlt (Nat.le_of_not_lt h29) hu ho (hle ▸ hs (Nat.sub_pos_of_lt hlt)) hf
      | error fs =>
        rw [hu] at hok
        obtain ⟨f, s⟩ := fs
        cases f with
        | err k => exact hfail cur k s hv hok.2.1 (hle ▸ hok.2.2)
        | oracle => exact horacle
        | panic p => exact hok.1.elim

theorem migrateMem_up (o : Oracles) (es : List (Key × YVal)) (target : Nat) (d : YVal) :
    migrateMem o (some (.obj es)) target = .up d →
    ∃ cur, versionOf (.obj es) = some cur ∧ cur < target ∧ target ≤ 29 ∧
      upgrade o (target - cur) cur (.obj es) = .ok d ∧ IsObj d ∧
      getK d kSchemaVersion = some (.int target) ∧ Fr (touchedRange (target - cur) cur) [] (.obj es) d :=
  migrateMem_cases (Q := fun r => r = .up d → _) o es target (fun _ => nofun) (fun _ _ => nofun)
    (fun _ _ _ _ _ _ => nofun) nofun fun cur _ hv hlt h29 hu ho hs hf h => by
      cases h
      exact ⟨cur, hv, hlt, h29, hu, ho, hs, hf⟩

theorem migrateMem_split (o : Oracles) {es : List (Key × YVal)} {cur k target : Nat}
    (hv : versionOf (.obj es) = some cur) (hck : cur < k) (hkt : k < target) (h29 : target ≤ 29) :
    migrateMem o (some (.obj es)) target =
      match upgrade o (k - cur) cur (.obj es) with
      | .error fs => upgradeOutcome (.error fs)
      | .ok dk => upgradeOutcome (upgrade o (target - k) k dk) := by
  have hsum : target - cur = (k - cur) + (target - k) :=
    ((Nat.add_comm _ _).trans (Nat.sub_add_sub_cancel (Nat.le_of_lt hkt) (Nat.le_of_lt hck))).symm
  rw [migrateMem_run o hv (Nat.lt_trans hck hkt) h29, hsum, upgrade_append,
    Nat.add_sub_cancel' (Nat.le_of_lt hck)]
  cases upgrade o (k - cur) cur (.obj es) <;> rfl

theorem migrateMem_null (o : Oracles) (target : Nat) :
    migrateMem o (some .null) target = migrateMem o (some (.obj [])) target := rfl

theorem migrate_docLike_cases {Q : Outcome → Prop} (o : Oracles) {parsed : Option YVal} (t : Nat)
    (hd : DocLike parsed) (hn : Q (.err .parse 0)) (ho : ∀ es, Q (migrate o (some (.obj es)) t)) :
    Q (migrate o parsed t) :=
  match parsed, hd with
  | none, _ => hn
  | some .null, _ => ho []
  | some (.obj es), _ => ho es

theorem migrate_eq_up {o : Oracles} {p : Option YVal} {t : Nat} {d : YVal} :
    migrate o p t = .up d ↔ ∃ d0, migrateMem o p t = .up d0 ∧ reparse o d0 = some d := by
  unfold migrate
  cases migrateMem o p t with
  | up d0 => dsimp only; split <;> simp [*]
  | _ => simp

theorem migrate_eq_iff {o : Oracles} {p : Option YVal} {t : Nat} {r : Outcome} (hu : ∀ d, r ≠ .up d)
    (ho : r ≠ .oracle) : migrate o p t = r ↔ migrateMem o p t = r := by
  unfold migrate
  cases migrateMem o p t with
  | up d0 =>
    dsimp only
    refine ⟨fun h => ?_, fun h => absurd h.symm (hu d0)⟩
    split at h
    · exact absurd h.symm (hu _)
    · exact absurd h.symm ho
  | _ => exact Iff.rfl

theorem migrate_eq_same {o : Oracles} {p : Option YVal} {t : Nat} :
    migrate o p t = .same ↔ migrateMem o p t = .same :=
  migrate_eq_iff nofun nofun

theorem migrate_eq_err {o : Oracles} {p : Option YVal} {t : Nat} {k : ErrK} {s : Nat} :
    migrate o p t = .err k s ↔ migrateMem o p t = .err k s :=
  migrate_eq_iff nofun nofun

theorem migrate_eq_panic {o : Oracles} {p : Option YVal} {t : Nat} {q : PanicK} {s : Nat} :
    migrate o p t = .panic q s ↔ migrateMem o p t = .panic q s :=
  migrate_eq_iff nofun nofun

theorem migrate_of_error {o : Oracles} {p : Option YVal} {t : Nat} {fs : Fault × Nat}
    (h : migrateMem o p t = upgradeOutcome (.error fs)) : migrate o p t = upgradeOutcome (.error fs) := by
  unfold migrate
  rw [h]
  obtain ⟨f, s⟩ := fs
  cases f <;> rfl

theorem reparseEntries_lookup (o : Oracles) (k : Key) : ∀ (es es' : List (Key × YVal)),
    reparseEntries o es = some es' → lookup k es' = (lookup k es).bind (reparse o)
  | [], _, h => by cases h; rfl
  | (k', v) :: es, _, h => by
    unfold reparseEntries at h
    split at h
    · rename_i w ws hv hr
      cases h
      by_cases hk : k' = k <;> simp [lookup, hk, hv, reparseEntries_lookup o k es ws hr]
    · cases h

theorem reparse_obj (o : Oracles) (es : List (Key × YVal)) (d : YVal) (h : reparse o (.obj es) = some d) :
    ∃ es', d = .obj es' ∧ reparseEntries o es = some es' := by
  unfold reparse at h
  cases hr : reparseEntries o es with
  | none => simp [hr] at h
  | some es' => simp [hr] at h; exact ⟨es', h.symm, rfl⟩

theorem reparse_int (o : Oracles) (i : Int) : reparse o (.int i) = some (.int i) := by
  unfold reparse; rfl

theorem reparse_getK {o : Oracles} {d0 d : YVal} (ho : IsObj d0) (h : reparse o d0 = some d) :
    IsObj d ∧ ∀ k, getK d k = (getK d0 k).bind (reparse o) := by
  obtain ⟨es0, rfl⟩ := ho.elim
  obtain ⟨es1, rfl, he⟩ := reparse_obj o es0 d h
  exact ⟨trivial, fun k => reparseEntries_lookup o k es0 es1 he⟩

/-- A document `Migrate` produces is a map that carries the requested version: the steps' result is
(`migrateMem_up`), and the stamp is read back as itself. -/
theorem migrate_up_obj (o : Oracles) (parsed : Option YVal) (t : Nat) (d : YVal) (hd : DocLike parsed)
    (h : migrate o parsed t = .up d) : ∃ es, d = .obj es ∧ lookup kSchemaVersion es = some (.int t) := by
  revert h
  refine migrate_docLike_cases (Q := fun r => r = .up d → _) o t hd (fun h => nomatch h) fun es h => ?_
  obtain ⟨d0, hm, hr⟩ := migrate_eq_up.mp h
  obtain ⟨_, _, _, _, _, ho, hs, _⟩ := migrateMem_up o es t d0 hm
  obtain ⟨hd', hg⟩ := reparse_getK ho hr
  obtain ⟨es', rfl⟩ := hd'.elim
  refine ⟨es', rfl, (hg kSchemaVersion).trans ?_⟩
  rw [hs]
  exact reparse_int o t

theorem migrate_same_version (o : Oracles) (es : List (Key × YVal)) (t : Nat) :
    migrate o (some (.obj es)) t = .same → versionOf (.obj es) = some t := by
  rw [migrate_eq_same]
  exact migrateMem_cases (Q := fun r => r = .same → _) o es t (fun _ => nofun) (fun hv _ _ => hv)
    (fun _ _ _ _ _ _ => nofun) nofun fun _ _ _ _ _ _ _ _ _ => nofun

theorem firstSome_none {α β} (f : α → Option β) (xs : List α) (h : ∀ x ∈ xs, f x = none) :
    firstSome f xs = none := by
  induction xs with
  | nil => rfl
  | cons x xs ih =>
    simp only [firstSome, h x (by simp)]
    exact ih (fun y hy => h y (by simp [hy]))

theorem zip_map_all {α β} (f : α → β) (P : α × β → Bool) : ∀ (l : List α),
    (l.zip (l.map f)).all P = l.all (fun a => P (a, f a))
  | [] => rfl
  | a :: l => by simp [zip_map_all f P l]

theorem toRes_panicWhy (r : Outcome) (h : ∀ p s, r ≠ .panic p s) : (r.toRes).panicWhy = none := by
  cases r <;> simp [Outcome.toRes, Res.panicWhy]
  exact absurd rfl (h _ _)

theorem toRes_wrapperOK (r : Outcome) : (r.toRes).wrapperOK = true := by
  cases r <;> simp [Outcome.toRes, Res.wrapperOK]

theorem versionOf_of_stamp {es : List (Key × YVal)} {n : Nat} (h : lookup kSchemaVersion es = some (.int n)) :
    versionOf (.obj es) = some n := by
  simp [versionOf, lookupE_eq_lookup, stampKey, h]

theorem stampedWith_of_lookup (es : List (Key × YVal)) (n : Nat)
    (h : lookup kSchemaVersion es = some (.int n)) : stampedWith n (some (.obj es)) = true := by
  simp [stampedWith, lookupE_eq_lookup, stampKey, h]

theorem migrate_stampOK (o : Oracles) (parsed : Option YVal) (t : Nat) (hd : DocLike parsed) :
    ((migrate o parsed t).toRes).stampOK t = true := by
  cases h : migrate o parsed t <;> simp [Outcome.toRes, Res.stampOK]
  obtain ⟨es, rfl, hs⟩ := migrate_up_obj o parsed t _ hd h
  exact stampedWith_of_lookup es t hs

theorem splitRun_of_up {o : Oracles} {p : Option YVal} {target k : Nat} {d1 : YVal}
    (h1 : migrate o p k = .up d1) (h2 : migrate o (some d1) target ≠ .same) :
    splitRun o p target k = (2, migrate o (some d1) target) := by
  unfold splitRun
  rw [h1]
  dsimp only
  cases hm : migrate o (some d1) target <;> first | rfl | exact absurd hm h2

/-- Case analysis of a run in two parts; `hstop` is the case `k = target`, where the second part has
nothing to do and the first part's document is returned. -/
theorem splitRun_cases {Q : Outcome → Prop} (o : Oracles) {parsed : Option YVal} (target k : Nat)
    (hd : DocLike parsed) (hrun : ∀ p, DocLike p → Q (migrate o p target))
    (hstop : ∀ es, lookup kSchemaVersion es = some (.int target) → Q (.up (.obj es)))
    (hfail : ∀ r, (∀ d, r ≠ .up d) → migrate o parsed k = r → Q r) :
    Q (splitRun o parsed target k).2 := by
  cases h1 : migrate o parsed k with
  | up d1 =>
    obtain ⟨es1, rfl, hs1⟩ := migrate_up_obj o parsed k d1 hd h1
    by_cases h2 : migrate o (some (.obj es1)) target = .same
    · obtain rfl : k = target :=
        Option.some.inj ((versionOf_of_stamp hs1).symm.trans (migrate_same_version o es1 target h2))
      simp only [splitRun, h1, h2]
      exact hstop es1 hs1
    · rw [splitRun_of_up h1 h2]
      exact hrun _ trivial
  | same => simp only [splitRun, h1]; exact hrun parsed hd
  | _ => simp only [splitRun, h1]; exact hfail _ nofun h1

theorem splitRun_stampOK (o : Oracles) (parsed : Option YVal) (target k : Nat) (hd : DocLike parsed) :
    (((splitRun o parsed target k).2).toRes).stampOK target = true :=
  splitRun_cases (Q := fun r => r.toRes.stampOK target = true) o target k hd
    (fun p hp => migrate_stampOK o p target hp) (fun es hs => stampedWith_of_lookup es target hs)
    fun r hr _ => by cases r <;> first | rfl | exact absurd rfl (hr _)

/-- The document of a case the version clauses speak of is a map `es`; a null document counts as the
empty map, as `Migrate` and the monitor's `frameInput` treat it. -/
theorem caseVersion_some {c : Case} {din0 : YVal} {cur : Nat} (hd : DocLike c.parsed) :
    caseVersion c = some (din0, cur) →
    c.parsed = some din0 ∧ cur ≤ c.target ∧ c.target ≤ 29 ∧
      ∃ es, versionOf (.obj es) = some cur ∧
        (∀ o, ReencodeStable o din0 = true → ReencodeStable o (.obj es) = true ∧ frameInput o din0 = .obj es) ∧
        (∀ o t, migrate o c.parsed t = migrate o (some (.obj es)) t) ∧
        ∀ o t k, splitRun o c.parsed t k = splitRun o (some (.obj es)) t k := by
  -- no document, no version, out of range answer `none`; the last exit alone has a result (`cur ≤ target ≤ 29`)
  fun_cases caseVersion c with
  | case4 d0 hp cur' hv hr =>
    intro h
    cases h
    rw [hp] at hd ⊢
    simp only [Bool.or_eq_true, decide_eq_true_eq, not_or, Nat.not_lt] at hr
    refine ⟨rfl, hr.1, hr.2, ?_⟩
    match din0, hd, hv with
    | .null, _, hv =>
      exact ⟨[], hv, fun _ _ => ⟨rfl, by simp [frameInput, reparse, reparseEntries]⟩, fun _ _ => rfl, fun _ _ _ => rfl⟩
    | .obj es, _, hv =>
      exact ⟨es, hv, fun o h => ⟨h, by simp [frameInput, reparse_clean o _ h]⟩, fun _ _ => rfl, fun _ _ _ => rfl⟩
  | _ => nofun

end AGH.C13
