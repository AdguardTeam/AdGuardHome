/-
C05 helper: the discipline behind the `drained_under` justification of a
channel send made while locks are held (guards.json `channel_ops`).

One buffered channel.  All senders run their "drain; send" pair inside one
lock, so the pairs of different senders do not interleave with each other;
receivers are not constrained at all and may take an element at any moment.
The trace below is the sequence of channel operations in the order they take
effect.  `sendOK` is what the extractor checks structurally (every send is
preceded, since the last send, by a drain); the theorem says that then no send
ever finds the buffer full, whatever the receivers do: the sender cannot block
on the channel while it holds its locks.
-/
namespace AGH.C05

inductive ChanStep where
  | drain   -- `for { select { case <-ch: default: break } }`: empties the buffer
  | send    -- `ch <- v`
  | recv    -- a receiver takes an element, if there is one
  deriving DecidableEq, Repr

/-- The buffer length after the trace; `none` if some send found the buffer full
(it would block). -/
def chanRun (cap : Nat) : Nat → List ChanStep → Option Nat
  | len, [] => some len
  | _, .drain :: r => chanRun cap 0 r
  | len, .recv :: r => chanRun cap (len - 1) r
  | len, .send :: r => if len < cap then chanRun cap (len + 1) r else none

/-- The flag: a drain has happened since the last send. -/
def sendOK : Bool → List ChanStep → Bool
  | _, [] => true
  | _, .drain :: r => sendOK true r
  | d, .recv :: r => sendOK d r
  | d, .send :: r => d && sendOK false r

theorem chanRun_isSome (cap : Nat) (hcap : 1 ≤ cap) (tr : List ChanStep) (len : Nat) (d : Bool)
    (hok : sendOK d tr = true) (hd : d = true → len = 0) : (chanRun cap len tr).isSome = true := by
  -- the cases of `sendOK`, in the order of its text (not of `ChanStep`): end of trace, drain, recv, send
  fun_induction sendOK d tr generalizing len with
  | case1 => rfl
  | case2 d r ih => exact ih 0 hok (fun _ => rfl)
  | case3 d r ih => exact ih (len - 1) hok (fun h => by rw [hd h])
  | case4 d r ih =>
    rw [Bool.and_eq_true] at hok
    cases hd hok.1
    exact (congrArg Option.isSome (if_pos (show 0 < cap from hcap))).trans (ih 1 hok.2 nofun)

/-- A send is only accepted after a drain, which empties the buffer: the length the
trace starts with does not matter. -/
theorem drained_send_never_blocks (cap : Nat) (hcap : 1 ≤ cap) (tr : List ChanStep)
    (len : Nat) (hok : sendOK false tr = true) :
    (chanRun cap len tr).isSome = true :=
  chanRun_isSome cap hcap tr len false hok (fun h => by cases h)

/-- Without the drain a second send can find the buffer full. -/
example : chanRun 1 0 [.send, .send] = none := by decide

example : sendOK false [.drain, .send, .recv, .drain, .send, .drain, .recv, .send] = true := by decide

end AGH.C05
