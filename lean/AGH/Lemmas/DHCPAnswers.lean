/-
C10 — what `HostByIP` / `MACByIP` / `IPByHost` answer, in terms of the table; the answers before and after a restart.
-/
import AGH.Lemmas.DHCPHostIdx
namespace AGH.C10
open AGH

variable {c : Conf} {s s' : State} {ip : Nat} {l : Lease}

theorem answers_at_lease (h : Inv c s) (hl : l ∈ s.leases) :
    s.hostByIP l.ip = l.host ∧ s.macByIP l.ip = (if l.static || decide (s.now < l.exp) then l.mac else []) := by
  have h1 : s.ips l.ip = some l.id := (h.ipsIff l.ip l.id).2 ⟨l, hl, rfl, rfl⟩
  unfold State.hostByIP State.macByIP
  rw [h1]
  simp only [Option.bind_some, deref_mem h hl]
  exact ⟨trivial, trivial⟩

theorem answers_absent (h : Inv c s) (ha : ∀ l ∈ s.leases, l.ip ≠ ip) :
    s.hostByIP ip = [] ∧ s.macByIP ip = [] := by
  unfold State.hostByIP State.macByIP
  cases hi : s.ips ip with
  | none => exact ⟨rfl, rfl⟩
  | some id =>
    obtain ⟨l, hl, he, _⟩ := (h.ipsIff ip id).1 hi
    exact absurd he (ha l hl)

theorem ipByHost_sound (h : Inv c s) {n : Bytes} (hne : s.ipByHost n ≠ 0) :
    ∃ l ∈ s.leases, l.host = n ∧ l.ip = s.ipByHost n := by
  unfold State.ipByHost at hne ⊢
  cases hh : s.hosts n with
  | none => rw [hh] at hne; exact absurd rfl hne
  | some id =>
    obtain ⟨l, hl, hid, hhost⟩ := h.hostsSound n id hh
    refine ⟨l, hl, hhost, ?_⟩
    rw [← hid, Option.bind_some, deref_mem h hl]

theorem ipByHost_complete (h : Inv2 True c s) (hl : l ∈ s.leases) (hne : l.host ≠ []) :
    s.ipByHost l.host = l.ip := by
  unfold State.ipByHost
  rw [h.2 trivial l hl hne]
  simp only [Option.bind_some, deref_mem h.1 hl]

theorem ipByHost_absent (h : Inv c s) {n : Bytes} (ha : ∀ l ∈ s.leases, l.host ≠ n) :
    s.ipByHost n = 0 := by
  unfold State.ipByHost
  cases hh : s.hosts n with
  | none => rfl
  | some id =>
    obtain ⟨l, hl, _, hhost⟩ := h.hostsSound n id hh
    exact absurd hhost (ha l hl)

theorem ipByHost_nil (h : Inv c s) : s.ipByHost [] = 0 := by
  unfold State.ipByHost
  rw [h.hostsNil]
  rfl

theorem answers_eq_of_perm (h : Inv2 True c s) (h' : Inv2 True c s')
    (hp : (s'.leases.map Lease.toDisk).Perm (s.leases.map Lease.toDisk)) :
    (∀ ip, s'.hostByIP ip = s.hostByIP ip) ∧ (∀ n, s'.ipByHost n = s.ipByHost n) := by
  -- both answers read the address and the name of a lease, which the file keeps
  have tr := exists_mem_of_map_perm hp
  have hto : ∀ l ∈ s.leases, ∃ l' ∈ s'.leases, l'.ip = l.ip ∧ l'.host = l.host :=
    fun l hl => (tr fun x => x.ip = l.ip ∧ x.host = l.host).2 ⟨l, hl, rfl, rfl⟩
  constructor
  · intro ip
    by_cases hex : ∃ l ∈ s.leases, l.ip = ip
    · obtain ⟨l, hl, rfl⟩ := hex
      obtain ⟨l', hl', e1, e2⟩ := hto l hl
      rw [(answers_at_lease h.1 hl).1, ← e1, (answers_at_lease h'.1 hl').1, e2]
    · rw [(answers_absent h.1 fun l hl e => hex ⟨l, hl, e⟩).1,
        (answers_absent h'.1 fun l hl e => hex ((tr (·.ip = ip)).1 ⟨l, hl, e⟩)).1]
  · intro n
    by_cases hne : n = []
    · rw [hne, ipByHost_nil h.1, ipByHost_nil h'.1]
    by_cases hex : ∃ l ∈ s.leases, l.host = n
    · obtain ⟨l, hl, rfl⟩ := hex
      obtain ⟨l', hl', e1, e2⟩ := hto l hl
      rw [ipByHost_complete h hl hne, ← e2, ipByHost_complete h' hl' (by rw [e2]; exact hne), e1]
    · rw [ipByHost_absent h.1 fun l hl e => hex ⟨l, hl, e⟩,
        ipByHost_absent h'.1 fun l hl e => hex ((tr (·.host = n)).1 ⟨l, hl, e⟩)]

end AGH.C10
