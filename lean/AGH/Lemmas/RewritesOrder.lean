/-
C06: the two halves of order independence.  On a tie-free table the result of
`processRewrites` does not depend on the sorter (`process_sorter_irrel`); the set of results
the code can produce, over all tie-breakings of the sort, depends only on the entries as a
multiset, not on their order (`outcome_set_perm`).
-/
import AGH.Lemmas.RewritesRun
namespace AGH.C06
open AGH AGH.Bytes AGH.C06.Spec

theorem OutEquiv.refl (a : Out) : OutEquiv a a := ⟨rfl, fun _ => ⟨rfl, List.Perm.refl _⟩⟩

theorem setRewriteResult_perm (canon : Bytes) {l₁ l₂ : List Entry} (qt : Nat)
    (hp : l₁.Perm l₂) (hn : ∀ e ∈ l₁, e.typ ≠ .CNAME) :
    OutEquiv (setRewriteResult ⟨true, canon, []⟩ l₁ qt) (setRewriteResult ⟨true, canon, []⟩ l₂ qt) := by
  have hn₂ : ∀ e ∈ l₂, e.typ ≠ .CNAME := fun e he => hn e (hp.symm.subset he)
  have v₁ := setRewriteResult_view ⟨true, canon, []⟩ l₁ qt hn
  have v₂ := setRewriteResult_view ⟨true, canon, []⟩ l₂ qt hn₂
  have hany : l₁.any (Spec.passesFamily · qt) = l₂.any (Spec.passesFamily · qt) := hp.any_eq
  cases h : l₁.any (Spec.passesFamily · qt)
  · rw [v₁.2 h, v₂.2 (hany ▸ h)]
    exact ⟨rfl, fun _ => ⟨rfl, by simpa using hp.filterMap _⟩⟩
  · have r₁ := v₁.1 h
    have r₂ := v₂.1 (hany ▸ h)
    exact ⟨by rw [r₁, r₂], fun hr => by rw [r₁] at hr; cases hr⟩

theorem unvisited_perm {t₁ t₂ : List Entry} (hp : t₁.Perm t₂) (visited : List Bytes) :
    unvisited t₁ visited = unvisited t₂ visited := by
  unfold unvisited
  exact (hp.filter _).length_eq

theorem find_sorter_irrel (s₁ s₂ : Sorter) {t : List Entry} {host : Bytes} {qt : Nat} (canon : Bytes)
    (htf : TieFree t qt) (hno : specCnames t host = []) :
    OutEquiv (setRewriteResult ⟨true, canon, []⟩ (findRewritesWith s₁ t host qt).1 qt)
      (setRewriteResult ⟨true, canon, []⟩ (findRewritesWith s₂ t host qt).1 qt) := by
  have hnoc := specCnames_eq_nil_iff.mp hno
  obtain ⟨hsub₁, hex₁, hw₁⟩ := find_most_specific s₁ qt hnoc
  obtain ⟨hsub₂, hex₂, hw₂⟩ := find_most_specific s₂ qt hnoc
  cases hall : (Spec.mostSpecific (candidates t host qt)).all (fun e => !Spec.isWild e)
  · -- one most specific wildcard entry each: same pattern, so (no ties) same type and address
    obtain ⟨a, ha, hwa⟩ := hw₁ hall
    obtain ⟨b, hb, _⟩ := hw₂ hall
    have haw := hsub₁ a (ha ▸ List.mem_singleton_self a)
    have hbw := hsub₂ b (hb ▸ List.mem_singleton_self b)
    obtain ⟨ma1, ma2, ma3⟩ := mem_candidates.mp (mostSpecific_subset _ a haw)
    obtain ⟨mb1, mb2, mb3⟩ := mem_candidates.mp (mostSpecific_subset _ b hbw)
    obtain ⟨ht, hi⟩ := htf.2 a ma1 b mb1 (hnoc a ma1 ma2) (hnoc b mb1 mb2) hwa
      (mostSpecific_domain_eq (fun e he => (mem_candidates.mp he).2.1) haw hbw) ma3 mb3
    rw [ha, hb]
    simp only [setRewriteResult, ht, hi]
    exact OutEquiv.refl _
  · -- the exact entries, in two orders
    exact setRewriteResult_perm _ _ ((hex₁ hall).trans (hex₂ hall).symm)
      (fun e he => not_cname_of_candidates hnoc e (find_mem_candidates he))

theorem chase_sorter_irrel (srt₁ srt₂ : Bytes → Sorter) (t : List Entry) (qt : Nat) (orig : Bytes)
    (htf : TieFree t qt) (host : Bytes) (visited : List Bytes) (canon : Bytes) :
    OutEquiv (chase srt₁ t qt orig host visited canon).out
      (chase srt₂ t qt orig host visited canon).out := by
  induction hn : unvisited t visited using Nat.strongRecOn generalizing host visited canon with
  | _ n ih =>
    -- which clause applies is decided by `specCnames t host`, the same for both runs
    rcases chase_iter srt₁ t qt orig host visited canon with ⟨hno, heq₁⟩ | ⟨a, ha, heq₁⟩ <;>
      rcases chase_iter srt₂ t qt orig host visited canon with ⟨hno₂, heq₂⟩ | ⟨b, hb, heq₂⟩
    · rw [heq₁, heq₂]; exact find_sorter_irrel _ _ canon htf hno
    · exact absurd hno (List.ne_nil_of_mem (mostSpecific_subset _ b hb))
    · exact absurd hno₂ (List.ne_nil_of_mem (mostSpecific_subset _ a ha))
    · -- both follow a most specific CNAME entry: same pattern, so (no ties) same answer
      obtain ⟨ma1, _, mac⟩ := mem_of_mostSpecific_cnames ha
      obtain ⟨mb1, _, mbc⟩ := mem_of_mostSpecific_cnames hb
      have hdom := mostSpecific_domain_eq (fun e he => (mem_specCnames.mp he).2.1) ha hb
      have hans : a.answer = b.answer := htf.1 a ma1 b mb1 mac mbc hdom
      rw [heq₁, heq₂, ← hans, ← hdom]
      by_cases h1 : a.answer = orig ∨ a.answer = a.domain
      · rw [if_pos h1, if_pos h1]; exact OutEquiv.refl _
      rw [if_neg h1, if_neg h1]
      by_cases h2 : a.answer = host
      · rw [if_pos h2, if_pos h2]; exact OutEquiv.refl _
      rw [if_neg h2, if_neg h2]
      by_cases h3 : visited.contains a.answer = true
      · rw [if_pos h3, if_pos h3]; exact OutEquiv.refl _
      rw [if_neg h3, if_neg h3]
      have hvf : visited.contains a.answer = false := by simpa using h3
      exact ih _ (hn ▸ unvisited_lt t visited a ma1 hvf) _ _ _ rfl

theorem process_sorter_irrel (srt₁ srt₂ : Bytes → Sorter) (t : List Entry) (h : Bytes) (qt : Nat)
    (htf : TieFree t qt) :
    OutEquiv (processRewritesWith srt₁ t h qt) (processRewritesWith srt₂ t h qt) := by
  unfold processRewritesWith
  cases hm : t.any (matchesHost · h)
  · rw [processRun_unmatched srt₁ qt hm, processRun_unmatched srt₂ qt hm]
    exact OutEquiv.refl _
  · rw [processRun_matched srt₁ qt hm, processRun_matched srt₂ qt hm]
    exact chase_sorter_irrel srt₁ srt₂ t qt h htf h [] []

/-- Carries the tie-breaking of `s` on `ref` over to every permutation of `ref`: in
`outcome_set_perm`, from the candidates of one table to those of a permuted one. -/
def transportSort (s : Sorter) (ref : List Entry) (l : List Entry) : List Entry :=
  if l.Perm ref then s.sort ref else stableSort l

theorem transportSort_perm (s : Sorter) (ref l : List Entry) : (transportSort s ref l).Perm l := by
  unfold transportSort
  split
  · next h => exact (s.perm ref).trans h.symm
  · exact stableSort_perm l

theorem transportSort_sorted (s : Sorter) (ref l : List Entry) :
    (transportSort s ref l).Pairwise (fun a b => cmp a b ≤ 0) := by
  unfold transportSort
  split
  · exact s.sorted ref
  · exact stableSort_sorted l

def transport (s : Sorter) (ref : List Entry) : Sorter :=
  ⟨transportSort s ref, transportSort_perm s ref, transportSort_sorted s ref⟩

/-- The loop reads sorter and table only through `findRewrites`: unfolded once, the two runs
are the same expression apart from the recursive call. -/
theorem chase_congr (s₁ s₂ : Bytes → Sorter) (t₁ t₂ : List Entry) (qt : Nat) (orig : Bytes)
    (hfind : ∀ host, findRewritesWith (s₁ host) t₁ host qt = findRewritesWith (s₂ host) t₂ host qt)
    (host : Bytes) (visited : List Bytes) (canon : Bytes) :
    chase s₁ t₁ qt orig host visited canon = chase s₂ t₂ qt orig host visited canon := by
  induction hn : unvisited t₁ visited using Nat.strongRecOn generalizing host visited canon with
  | _ n ih =>
    cases heq : (findRewritesWith (s₁ host) t₁ host qt).1 with
    | nil => rw [chase_nil heq, chase_nil (hfind host ▸ heq)]
    | cons rw tl =>
      rw [chase_cons heq, chase_cons (srt := s₂) (hfind host ▸ heq), ← hfind host]
      cases hv : visited.contains rw.answer
      · have hmem := findRewritesWith_subset (s₁ host) t₁ host qt rw (by rw [heq]; simp)
        rw [ih _ (hn ▸ unvisited_lt t₁ visited rw hmem hv) _ _ _ rfl]
      · rfl

theorem outcome_set_perm (s₁ : Bytes → Sorter) (t₁ t₂ : List Entry) (h : Bytes) (qt : Nat)
    (hp : t₁.Perm t₂) :
    ∃ s₂ : Bytes → Sorter, processRun s₂ t₂ h qt = processRun s₁ t₁ h qt := by
  refine ⟨fun host => transport (s₁ host) (candidates t₁ host qt), ?_⟩
  have hfind : ∀ host,
      findRewritesWith (s₁ host) t₁ host qt =
        findRewritesWith (transport (s₁ host) (candidates t₁ host qt)) t₂ host qt := by
    intro host
    refine Prod.ext ?_ ?_
    · rw [find_eq_cut, find_eq_cut]
      simp only [transport, transportSort, if_pos (candidates_perm hp host qt).symm]
    · rw [find_matched, find_matched]
      exact hp.any_eq
  have hany : t₁.any (matchesHost · h) = t₂.any (matchesHost · h) := hp.any_eq
  cases hm : t₁.any (matchesHost · h)
  · rw [processRun_unmatched s₁ qt hm, processRun_unmatched _ qt (hany ▸ hm)]
  · rw [processRun_matched s₁ qt hm, processRun_matched _ qt (hany ▸ hm)]
    exact (chase_congr s₁ _ t₁ t₂ qt h hfind h [] []).symm

end AGH.C06
