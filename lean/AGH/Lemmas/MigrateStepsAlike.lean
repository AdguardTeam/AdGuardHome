/-
C13, independence from partial runs: every step takes two documents that satisfy
the invariant `inv` and are read back equal to the same fault or to two such
documents again.  Each proof follows the step line by line with the rules of
`MigrateSim`; what it adds is where the values read and written may be Go-typed.
-/
import AGH.Lemmas.MigrateSim
namespace AGH.C13
open AGH

variable {o : Oracles}

theorem step1_alike : Respects o (inv o) migrateTo1 :=
  fun _ _ h => h.stamp 1

theorem step2_alike : Respects o (inv o) migrateTo2 :=
  Respects.stamp fun d d' hd => by
    refine SimBy.bind₂ (moveSelf_alike (inv_keyed o) hd (MoveOK.top (inv_keyed o) (by decide))) fun m m' e hm => ?_
    exact SimBy.orErr rfl fun _ => SimBy.ok hm

theorem step3_alike : Respects o (inv o) migrateTo3 :=
  Respects.stamp fun d d' hd => by
    refine hd.top_section kDns fun hr => ?_
    have hb := hr.sub_read .any (k := kBootstrapDns) (by decide)
    refine SimBy.ite hb.ok (fun _ => ?_) fun _ => SimBy.ok hd
    exact hd.top_back kDns (hr.sub_set (by decide) hb.v.arr1)

theorem v4Client_alike : Respects o (clean o) v4Client := by
  intro x y h
  cases h.eq
  cases x <;> first
    | exact h.set (clean_keyed o) kUseGlobalBlockedServices (Alike.refl rfl)
    | exact SimBy.ok h

theorem step4_alike : Respects o (inv o) migrateTo4 :=
  Respects.stamp fun d d' hd => by
    obtain ⟨hg, hc⟩ := hd.top_get (k := kClients) (by decide)
    rw [hg]
    split
    · rename_i xs hx
      refine SimBy.bindL (mapM'_alike v4Client_alike (hc _ hx)) fun ys ys' hys => ?_
      exact SimBy.ok (hd.top_put kClients (hys.sub_of_clean _))
    · exact SimBy.ok hd

theorem step5_alike : Respects o (inv o) migrateTo5 :=
  Respects.stamp fun d d' hd => by
    refine SimBy.bind₃ (moveVal_alike (inv_keyed o) (clean_keyed o) hd (Alike.refl rfl)
      (MoveOK.top (clean_keyed o) (by decide))) fun d1 d1' user user' e hd1 huser => ?_
    refine SimBy.orErr rfl fun _ => ?_
    have hp := hd1.top_read_clean .str (k := kAuthPass) (by decide)
    refine hp.orBail hd1 fun _ => ?_
    rw [← hp.v.eq]
    split
    · split
      · exact SimBy.error _
      · refine SimBy.bind (huser.set (clean_keyed o) kPassword (Alike.refl rfl)) fun u u' hu => ?_
        exact (hd1.top_del kAuthPass).top_set kUsers (hu.arr1.sub_of_clean _)
    · exact SimBy.error _

theorem v6Ids_clean {c : YVal} (hc : clean o c = true) (ids : List Key) :
    Yields (fun _ => True) (fun vs => cleanList o vs = true) (v6Ids c ids) := by
  induction ids with
  | nil => exact rfl
  | cons id rest ih =>
    unfold v6Ids
    dsimp only
    refine .guard ?_
    refine ih.bindL fun vs hvs => ?_
    split
    · exact hvs
    · exact Bool.and_eq_true_iff.mpr ⟨(clean_keyed o).read hc .str id, hvs⟩

theorem v6Client_alike : Respects o (clean o) v6Client := by
  intro x y h
  cases h.eq
  cases x <;> try exact SimBy.error _
  unfold v6Client
  cases hi : v6Ids _ [kIp, kMac] with
  | error e => exact SimBy.error _
  | ok ids => exact h.set (clean_keyed o) kIds (Alike.refl ((v6Ids_clean h.left _).elim hi))

theorem step6_alike : Respects o (inv o) migrateTo6 :=
  Respects.stamp fun d d' hd => by
    have hr := hd.top_read_clean .arr (k := kClients) (by decide)
    refine hr.orBail hd fun _ => ?_
    rw [← hr.v.eq]
    have hc := hr.v.left
    generalize (fieldVal .arr d kClients).v = v at hc ⊢
    split
    · exact SimBy.ok hd
    · refine SimBy.bindL (mapM'_alike v6Client_alike hc) fun ys ys' hys => ?_
      exact SimBy.ok (hd.top_put kClients (hys.sub_of_clean _))
    · exact SimBy.error _

theorem step7_alike : Respects o (inv o) migrateTo7 :=
  Respects.stamp fun d d' hd => by
    have hr := hd.top_read .obj kDhcp
    refine SimBy.ite hr.ok (fun _ => ?_) fun _ => SimBy.ok hd
    refine SimBy.bind₃ (moves_alike (subOK_keyed o _) (clean_keyed o) v7Moves hr.v (Alike.refl rfl)
      fun m hm => MoveOK.sub (clean_keyed o) ((by decide : ∀ m ∈ v7Moves, m.2.1 ∉ exc kDhcp) m hm))
      fun dhcp dhcp' v4 v4' e hdhcp hv4 => ?_
    refine SimBy.orErr rfl fun _ => ?_
    exact hd.top_back kDhcp (hdhcp.sub_set (by decide) hv4)

theorem step8_alike : Respects o (inv o) migrateTo8 :=
  Respects.stamp fun d d' hd => by
    refine hd.top_section kDns fun hr => ?_
    have hb := hr.sub_read .str (k := kBindHost) (by decide)
    refine hb.orBail hd fun _ => ?_
    exact hd.top_back kDns ((hr.sub_del kBindHost).sub_set (by decide) hb.v.arr1)

theorem step9_alike : Respects o (inv o) migrateTo9 :=
  Respects.stamp fun d d' hd => by
    refine hd.top_section kDns fun hr => ?_
    refine SimBy.bind₂ (moveSelf_alike (subOK_keyed o _) hr (MoveOK.sub (subOK_keyed o _) (by decide)))
      fun dns dns' e hdns => ?_
    exact SimBy.orErr rfl fun _ => SimBy.ok (hd.top_put kDns hdns)

theorem v10Ups_alike : Respects o (clean o) (v10Ups o) := by
  intro x y h
  cases h.eq
  cases x <;> try exact SimBy.error _
  unfold v10Ups
  dsimp only
  cases o.quic _
  · exact SimBy.error _
  · exact SimBy.ok (Alike.refl rfl)

theorem v10Field_alike {ex : List Key} {k : Key} (hk : k ∉ ex) :
    Respects o (subOK o ex) (v10Field o · k) := by
  intro m m' h
  have hr := h.sub_read .arr hk
  refine SimBy.orErr hr.err fun _ => ?_
  refine SimBy.ite hr.ok (fun _ => ?_) fun _ => SimBy.ok h
  rw [← hr.v.eq]
  have hc := hr.v.left
  generalize (fieldVal .arr m k).v = v at hc ⊢
  split
  · refine SimBy.bindL (mapM'_alike v10Ups_alike hc) fun ys ys' hys => ?_
    exact h.sub_set hk hys
  · exact SimBy.error _

theorem step10_alike : Respects o (inv o) (migrateTo10 o) :=
  Respects.stamp fun d d' hd => by
    refine hd.top_section kDns fun hr => ?_
    refine SimBy.bind (v10Field_alike (by decide) hr) fun dns1 dns1' h1 => ?_
    exact hd.top_back kDns (v10Field_alike (by decide) h1)

theorem step11_alike : Respects o (inv o) migrateTo11 :=
  Respects.stamp fun d d' hd => by
    have hr := hd.top_read_clean .int (k := kRlimitNofile) (by decide)
    refine SimBy.orErr hr.err fun _ => ?_
    exact (hd.top_del kRlimitNofile).top_set kOs
      (((Alike.refl rfl).cons kGroup (hr.v.cons kRlimitNofile (Alike.refl rfl))).sub_of_clean _)

theorem step12_alike : Respects o (inv o) migrateTo12 :=
  Respects.stamp fun d d' hd => by
    refine hd.top_section kDns fun hr => ?_
    -- a Go-typed duration may sit at this key; an int is asked for, so both sides read alike
    have hq := hr.sub_read_int kQuerylogInterval
    refine SimBy.orErr (by rw [hq.ok, hq.err]) fun _ => ?_
    exact hd.top_back kDns (hr.sub_set_exc (k := kQuerylogInterval) (by decide)
      (Alike.of_eq (by rw [hq.ok, hq.v.congr_of_er (intOf_er o)]) rfl))

theorem step13_alike : Respects o (inv o) migrateTo13 :=
  Respects.stamp fun d d' hd => by
    refine hd.top_section kDns fun hr => ?_
    refine hd.top_section kDhcp fun hh => ?_
    refine SimBy.bind₃ (moveVal_alike (subOK_keyed o _) (subOK_keyed o _) hr hh
      (MoveOK.sub (subOK_keyed o _) (by decide))) fun dns dns' dhcp dhcp' e hdns hdhcp => ?_
    refine SimBy.orErr rfl fun _ => ?_
    exact SimBy.ok ((hd.top_put kDns hdns).top_put kDhcp hdhcp)

theorem step14_alike : Respects o (inv o) migrateTo14 :=
  Respects.stamp fun d d' hd => by
    have hp := hd.top_read_clean .arr (k := kClients) (by decide)
    refine SimBy.orErr (by rw [hp.ok, hp.err]) fun _ => ?_
    have hpers := Alike.ite hp.ok hp.v (Alike.refl (a := .arr []) rfl)
    refine SimBy.bind (hd.top_set kClients
      ((hpers.cons kPersistent (Alike.refl rfl)).sub_of_clean _)) fun d1 d1' hd1 => ?_
    have hr := hd1.top_read .obj kDns
    refine SimBy.orErr hr.err fun _ => ?_
    refine SimBy.ite hr.ok (fun _ => ?_) fun _ => SimBy.ok hd1
    refine SimBy.bind₃ (moveVal_alike (subOK_keyed o _) (clean_keyed o) hr.v (Alike.refl rfl)
      (MoveOK.sub (clean_keyed o) (by decide))) fun dns dns' rt rt' e hdns hrt => ?_
    refine SimBy.orErr rfl fun _ => ?_
    exact SimBy.ok ((hd1.top_put kClients
      ((hpers.cons kPersistent (hrt.cons kRuntimeSources (Alike.refl rfl))).sub_of_clean _)).top_put kDns hdns)

theorem step15_alike : Respects o (inv o) migrateTo15 :=
  Respects.stamp fun d d' hd => by
    refine hd.top_section kDns fun hr => ?_
    have hq : Alike o (subOK o (exc kQuerylog)) v15Qlog v15Qlog := Alike.refl rfl
    refine SimBy.bind (hd.top_set kQuerylog hq) fun d1 d1' hd1 => ?_
    -- `querylog_interval`, possibly a Go-typed duration since v12, moves as `any` to `interval`
    refine SimBy.bind₃ (moves_alike (subOK_keyed o _) (subOK_keyed o _) v15Moves hr hq
      fun m hm => MoveOK.sub_exc ((by decide : ∀ m ∈ v15Moves,
        (m.1 = .str ∨ m.1 = .arr → m.2.1 ∉ exc kDns) ∧ (m.2.1 ∈ exc kDns → m.2.2 ∈ exc kQuerylog)) m hm))
      fun dns dns' ql ql' e hdns hql => ?_
    refine SimBy.orErr rfl fun _ => ?_
    exact SimBy.ok ((hd1.top_put kQuerylog hql).top_put kDns hdns)

theorem step16_alike : Respects o (inv o) migrateTo16 :=
  Respects.stamp fun d d' hd => by
    refine hd.top_section kDns fun hr => ?_
    have hst : Alike o (subOK o (exc kStatistics)) v16Stats v16Stats := Alike.refl rfl
    refine SimBy.bind (hd.top_set kStatistics hst) fun d1 d1' hd1 => ?_
    have hs := hr.sub_read .int (k := kStatisticsInterval) (by decide)
    refine hs.orBail hd1 fun _ => ?_
    rw [← hs.v.eq]
    refine SimBy.bind (?_ : SimBy (Alike o (subOK o (exc kStatistics))) (setK v16Stats _ _) (setK v16Stats _ _))
        fun st st' hst' =>
      SimBy.ok ((hd1.top_put kStatistics hst').top_put kDns
        (hr.sub_del kStatisticsInterval))
    -- the interval is written where a Go-typed value may sit, the flag where none may
    split
    · exact hst.sub_set (by decide) (Alike.refl rfl)
    · exact hst.sub_set_exc (by decide) (Alike.refl hs.v.left).excOK_of_clean

theorem step17_alike : Respects o (inv o) migrateTo17 :=
  Respects.stamp fun d d' hd => by
    refine hd.top_section kDns fun hr => ?_
    have he := hr.sub_read .bool (k := kEdnsClientSubnet) (by decide)
    exact hd.top_back kDns (hr.sub_set (by decide) (he.v.cons kEnabled (Alike.refl rfl)))

theorem step18_alike : Respects o (inv o) migrateTo18 :=
  Respects.stamp fun d d' hd => by
    refine hd.top_section kDns fun hr => ?_
    refine SimBy.bind (hr.sub_set (by decide) (Alike.refl rfl)) fun dns1 dns1' h1 => ?_
    refine SimBy.bind₃ (moveVal_alike (subOK_keyed o _) (clean_keyed o) h1 (Alike.refl rfl)
      (MoveOK.sub (clean_keyed o) (by decide))) fun dns2 dns2' ss ss' e h2 hss => ?_
    refine SimBy.orErr rfl fun _ => ?_
    exact SimBy.ok (hd.top_put kDns (h2.sub_put (by decide) hss))

theorem v19Client_alike : Respects o (clean o) v19Client := by
  intro x y h
  cases h.eq
  cases x <;> try exact SimBy.ok h
  refine SimBy.bind₃ (moveVal_alike (clean_keyed o) (clean_keyed o) h (Alike.refl rfl)
    (MoveOK.of_clean (clean_keyed o) fun _ hc => hc)) fun c c' ss ss' _ hc hss => ?_
  exact hc.set (clean_keyed o) kSafeSearch hss

theorem step19_alike : Respects o (inv o) migrateTo19 :=
  Respects.stamp fun d d' hd => by
    have hr := hd.top_read_clean .obj (k := kClients) (by decide)
    refine hr.orBail hd fun _ => ?_
    rw [← hr.v.eq]
    have hc := hr.v.left
    split
    · rename_i xs hg
      refine SimBy.bindL (mapM'_alike v19Client_alike ((clean_keyed o).get hc hg)) fun ys ys' hys => ?_
      exact SimBy.ok (hd.top_put kClients
        (((Alike.refl hc).put (clean_keyed o) kPersistent hys).sub_of_clean _))
    · exact SimBy.ok hd

theorem step20_alike : Respects o (inv o) migrateTo20 :=
  Respects.stamp fun d d' hd => by
    refine hd.top_section kStatistics fun hr => ?_
    have hi := hr.sub_read_int kInterval
    refine SimBy.orErr hi.err fun _ => ?_
    exact hd.top_back kStatistics (hr.sub_set_exc (k := kInterval) (by decide)
      (Alike.of_eq (by rw [hi.ok, hi.v.congr_of_er (intOf_er o)]) rfl))

theorem step21_alike : Respects o (inv o) migrateTo21 :=
  Respects.stamp fun d d' hd => by
    refine hd.top_section kDns fun hr => ?_
    refine SimBy.bind₃ (moveVal_alike (subOK_keyed o _) (clean_keyed o) hr (Alike.refl rfl)
      (MoveOK.sub (clean_keyed o) (by decide))) fun dns1 dns1' svcs svcs' e h1 hsvcs => ?_
    refine SimBy.orErr rfl fun _ => ?_
    exact hd.top_back kDns (h1.sub_set (by decide) hsvcs)

theorem v22Client_alike : Respects o (clean o) v22Client := by
  intro x y h
  cases h.eq
  cases x <;> try exact SimBy.error _
  have hs := h.read (clean_keyed o) .arr (k := kBlockedServices) fun _ c hc => not_isTypedLeaf_of_clean o c hc
  refine SimBy.orErr hs.err fun _ => ?_
  refine SimBy.ite hs.ok (fun _ => ?_) fun _ => SimBy.ok h
  exact h.set (clean_keyed o) kBlockedServices (hs.v.cons kIds (Alike.refl rfl))

theorem step22_alike : Respects o (inv o) migrateTo22 :=
  Respects.stamp fun d d' hd => by
    have hr := hd.top_read_clean .obj (k := kClients) (by decide)
    refine hr.orBail hd fun _ => ?_
    rw [← hr.v.eq]
    have hc := hr.v.left
    have hp := (Alike.refl hc).read (clean_keyed o) .arr (k := kPersistent)
      fun _ c hc => not_isTypedLeaf_of_clean o c hc
    refine hp.orBail hd fun _ => ?_
    have hx := hp.v.left
    generalize (fieldVal .arr (fieldVal .obj d kClients).v kPersistent).v = v at hx ⊢
    split
    · exact SimBy.ok hd
    · refine SimBy.bindL (mapM'_alike v22Client_alike hx) fun ys ys' hys => ?_
      exact SimBy.ok (hd.top_put kClients
        (((Alike.refl hc).put (clean_keyed o) kPersistent hys).sub_of_clean _))
    · exact SimBy.error _

theorem step23_alike : Respects o (inv o) (migrateTo23 o) :=
  Respects.stamp fun d d' hd => by
    have hh := hd.top_read_clean .str (k := kBindHost) (by decide)
    have hp := hd.top_read_clean .int (k := kBindPort) (by decide)
    have ht := hd.top_read_clean .int (k := kWebSessionTtl) (by decide)
    refine hh.orBail hd fun _ => ?_
    rw [← hh.eq, ← hp.eq, ← ht.eq]
    split
    · exact SimBy.error _
    · exact SimBy.error _
    · refine SimBy.orErr rfl fun _ => ?_
      refine SimBy.orErr rfl fun _ => ?_
      split
      · refine SimBy.bind (hd.top_set kHttp (Alike.refl rfl)) fun d1 d1' hd1 => ?_
        exact SimBy.ok (((hd1.top_del kBindHost).top_del kBindPort).top_del kWebSessionTtl)
      · exact SimBy.error _

theorem step24_alike : Respects o (inv o) migrateTo24 :=
  Respects.stamp fun d d' hd => by
    refine SimBy.bind₃ (moves_alike (inv_keyed o) (clean_keyed o) v24Moves hd (Alike.refl rfl)
      fun m hm => MoveOK.top (clean_keyed o) ((by decide : ∀ m ∈ v24Moves, exc m.2.1 = []) m hm))
      fun d1 d1' lg lg' e hd1 hlg => ?_
    refine SimBy.orErr rfl fun _ => ?_
    refine SimBy.ite (hlg.congr_of_er (isEmptyObj_er o)) (fun _ => SimBy.ok hd1) fun _ => ?_
    exact hd1.top_set kLog (hlg.sub_of_clean _)

theorem step25_alike : Respects o (inv o) migrateTo25 :=
  Respects.stamp fun d d' hd => by
    refine hd.top_section kHttp fun hr => ?_
    refine SimBy.bind₃ (moveVal_alike (inv_keyed o) (clean_keyed o) hd (Alike.refl rfl)
      (MoveOK.top (clean_keyed o) (by decide))) fun d1 d1' pp pp' e hd1 hpp => ?_
    refine SimBy.orErr rfl fun _ => ?_
    exact hd1.top_back kHttp (hr.sub_set (by decide) hpp)

theorem step26_alike : Respects o (inv o) migrateTo26 :=
  Respects.stamp fun d d' hd => by
    refine hd.top_section kDns fun hr => ?_
    have hf : Alike o (subOK o (exc kFiltering)) (.obj []) (.obj []) := Alike.refl rfl
    refine SimBy.bind₃ (moves_alike (subOK_keyed o _) (subOK_keyed o _) v26Moves hr hf
      fun m hm => MoveOK.sub (subOK_keyed o _) ((by decide : ∀ m ∈ v26Moves, m.2.1 ∉ exc kDns) m hm))
      fun dns dns' flt flt' e hdns hflt => ?_
    refine SimBy.orErr rfl fun _ => ?_
    refine SimBy.ite (hflt.congr_of_er (isEmptyObj_er o)) (fun _ => SimBy.ok (hd.top_put kDns hdns)) fun _ => ?_
    refine SimBy.bind (hd.top_set kFiltering hflt) fun d1 d1' hd1 => ?_
    exact SimBy.ok (hd1.top_put kDns hdns)

theorem cleanList_v27Host : ∀ xs, cleanList o xs = true → cleanList o (xs.map v27Host) = true
  | [], _ => rfl
  | x :: xs, h => by
    simp only [cleanList, List.map, Bool.and_eq_true] at h ⊢
    refine ⟨?_, cleanList_v27Host xs h.2⟩
    unfold v27Host
    split
    · split <;> first | rfl | exact h.1
    · exact h.1

theorem replaceDot_alike {key : Key} (hx : kIgnored ∉ exc key) : Respects o (inv o) (replaceDot · key) := by
  intro d d' hd
  have hr := hd.top_read .obj key
  refine SimBy.orErr hr.err fun _ => ?_
  refine SimBy.ite hr.ok (fun _ => ?_) fun _ => SimBy.ok hd
  have hi := hr.v.sub_read .arr hx
  refine SimBy.orErr hi.err fun _ => ?_
  refine SimBy.ite hi.ok (fun _ => ?_) fun _ => SimBy.ok hd
  obtain ⟨hg, hc⟩ := hr.v.sub_get hx
  rw [hg]
  split
  · rename_i xs hx'
    have hc := hc _ hx'
    simp only [clean] at hc
    exact SimBy.ok (hd.top_put key (hr.v.sub_put hx (Alike.refl (cleanList_v27Host xs hc))))
  · exact SimBy.ok hd

theorem step27_alike : Respects o (inv o) migrateTo27 :=
  Respects.stamp fun d d' hd => by
    refine SimBy.bind (replaceDot_alike (by decide) hd) fun d1 d1' hd1 => ?_
    exact replaceDot_alike (by decide) hd1

theorem step28_alike : Respects o (inv o) migrateTo28 :=
  Respects.stamp fun d d' hd => by
    refine hd.top_section kDns fun hr => ?_
    have hall := (hr.sub_read .bool (k := kAllServers) (by decide)).eq
    have hfast := (hr.sub_read .bool (k := kFastestAddr) (by decide)).eq
    refine SimBy.bind (hr.sub_set_exc (k := kUpstreamMode) (by decide)
      (Alike.of_eq (by rw [hall, hfast]) rfl)) fun dns dns' hdns => ?_
    exact SimBy.ok (hd.top_put kDns
      ((hdns.sub_del kAllServers).sub_del kFastestAddr))

theorem step29_alike : Respects o (inv o) (migrateTo29 o) :=
  Respects.stamp fun d d' hd => by
    have hfl := hd.top_read_clean .arr (k := kFilters) (by decide)
    refine hfl.orBail hd fun _ => ?_
    rw [← hfl.v.eq]
    split
    · rename_i xs _
      cases v29Paths xs with
      | error e => exact SimBy.error _
      | ok ps =>
        refine hd.top_section kFiltering fun hr => ?_
        exact hd.top_back kFiltering (hr.sub_set_exc (k := kSafeFsPatterns) (by decide) (Alike.refl rfl))
    · exact SimBy.error _

end AGH.C13
