/-
C09, the read path for EVERY state, reachable or not: `fillSeries` and
`dataFromUnits` never fail, nor do `loadUnits` and `getData` when the current
id and the limit are `uint32` values and the limit is not 0; what each series
and total of the answer is in terms of the units read; away from the id
wrap-around the units read are the hours of the window in order.
-/
import AGH.Lemmas.StatsBasic
namespace AGH.C09

/-- `accum` in closed form: what it leaves in slot `j` (`accum_spec`); `IsSeries.daily` is stated with it. -/
def slotSum (f : UnitDB → Nat) (slot : Nat → Nat) : List UnitDB → Nat → Nat → Nat
  | [], _, _ => 0
  | u :: us, i, j => (if slot i = j then f u else 0) + slotSum f slot us (i + 1) j

theorem addAt_spec (acc : List Nat) (k x : Nat) (h : k < acc.length) :
    ∃ a, addAt acc k x = some a ∧ a.length = acc.length ∧ a.sum = acc.sum + x ∧
      ∀ j, a.getD j 0 = acc.getD j 0 + (if k = j then x else 0) := by
  induction acc generalizing k with
  | nil => simp at h
  | cons b rest ih =>
    cases k with
    | zero =>
      refine ⟨(b + x) :: rest, by simp [addAt], by simp, by simp; omega, fun j => ?_⟩
      cases j <;> simp
    | succ k =>
      obtain ⟨a, h1, h2, h3, h4⟩ := ih k (by simpa using h)
      refine ⟨b :: a, by simp [addAt, h1], by simp [h2], by simp [h3]; omega, fun j => ?_⟩
      cases j with
      | zero => simp
      | succ j =>
        simp only [List.getD_cons_succ, h4 j]
        by_cases hkj : k = j <;> simp [hkj]

theorem addAt_append (pre rest : List Nat) (a x : Nat) :
    addAt (pre ++ a :: rest) pre.length x = some (pre ++ (a + x) :: rest) := by
  induction pre with
  | nil => simp [addAt]
  | cons b pre ih => simp [addAt, ih]

theorem accum_spec (f : UnitDB → Nat) (slot : Nat → Nat) (us : List UnitDB) (i : Nat) (acc : List Nat)
    (h : ∀ j, i ≤ j → j < i + us.length → slot j < acc.length) :
    ∃ a, accum f slot us i acc = .ok a ∧ a.length = acc.length ∧ a.sum = acc.sum + (us.map f).sum ∧
      ∀ j, a.getD j 0 = acc.getD j 0 + slotSum f slot us i j := by
  induction us generalizing i acc with
  | nil => exact ⟨acc, by simp [accum], rfl, by simp, fun j => by simp [slotSum]⟩
  | cons u us ih =>
    obtain ⟨a1, e1, l1, s1, g1⟩ := addAt_spec acc (slot i) (f u) (h i (Nat.le_refl _) (by simp))
    obtain ⟨a, e2, l2, s2, g2⟩ :=
      ih (i + 1) a1 (fun j hj1 hj2 => by rw [l1]; exact h j (by omega) (by simp; omega))
    refine ⟨a, by simp [accum, e1, e2], by omega, by simp [s2, s1]; omega, fun j => ?_⟩
    rw [g2, g1, slotSum]
    omega

theorem accum_id (f : UnitDB → Nat) (us : List UnitDB) (pre : List Nat) :
    accum f id us pre.length (pre ++ List.replicate us.length 0) = .ok (pre ++ us.map f) := by
  induction us generalizing pre with
  | nil => simp [accum]
  | cons u us ih =>
    have := ih (pre ++ [f u])
    simp only [List.length_cons, List.replicate_succ, accum, id, addAt_append]
    simp only [List.length_append, List.length_cons, List.length_nil, List.append_assoc,
      List.cons_append, List.nil_append] at this
    simpa using this

theorem getD_replicate_zero (n j : Nat) : (List.replicate n 0).getD j 0 = 0 := by
  rw [List.getD_eq_getElem?_getD, List.getElem?_replicate]
  split <;> rfl

/-- `countHours cur d` is `d - 1` whole days and 1 … 24 hours of the current day. -/
theorem countHours_bounds (cur d : Nat) (hd : 1 ≤ d) :
    (d - 1) * 24 + 1 ≤ countHours cur d ∧ countHours cur d ≤ d * 24 := by
  simp only [countHours]
  split <;> omega

/-- The daily series skip fewer than two days' worth of the oldest hours. -/
theorem countHours_skipped (cur n : Nat) (hn : 24 ≤ n) : n - countHours cur (n / 24) < 48 := by
  have h1 := Nat.div_add_mod n 24
  have h2 := Nat.mod_lt n (show 0 < 24 by decide)
  generalize n / 24 = d at *
  generalize n % 24 = m at *
  have := (countHours_bounds cur d (by omega)).1
  omega

/-- `a` is what `fillSeries f units cur` returns: below 192 units (8 days) the per-unit values in order; from 192 on
one slot per whole day, filled from the last `countHours` units (the day-aligned tail), so that the total misses
exactly the head that was skipped.  `daily` takes the length as an `n` of its own so that a caller puts in
`s.limitHours` without rewriting under `take`/`drop`. -/
structure IsSeries (f : UnitDB → Nat) (units : List UnitDB) (cur : Nat) (a : List Nat) : Prop where
  hourly : ¬ units.length / 24 > 7 → a = units.map f
  daily : ∀ n, units.length = n → n / 24 > 7 →
    a.length = n / 24 ∧
    a.sum + sumBy f (units.take (n - countHours cur (n / 24))) = sumBy f units ∧
    ∀ j, a.getD j 0 = slotSum f (· / 24) (units.drop (n - countHours cur (n / 24))) 0 j

theorem IsSeries.sum_hourly {f : UnitDB → Nat} {units : List UnitDB} {cur : Nat} {a : List Nat}
    (h : IsSeries f units cur a) (hh : ¬ units.length / 24 > 7) : a.sum = sumBy f units := by
  rw [h.hourly hh]; rfl

theorem IsSeries.sum_le {f : UnitDB → Nat} {units : List UnitDB} {cur : Nat} {a : List Nat}
    (h : IsSeries f units cur a) : a.sum ≤ sumBy f units := by
  by_cases hd : units.length / 24 > 7
  · have := (h.daily _ rfl hd).2.1
    omega
  · exact Nat.le_of_eq (h.sum_hourly hd)

/-- `fillSeries` never fails: the daily slice bounds and every index are in range. -/
theorem fillSeries_spec (f : UnitDB → Nat) (units : List UnitDB) (cur : Nat) :
    ∃ a, fillSeries f units cur = .ok (decide (units.length / 24 > 7), a) ∧ IsSeries f units cur a := by
  by_cases h : units.length / 24 > 7
  · have hc := (countHours_bounds cur (units.length / 24) (by omega)).2
    have hlen : ¬ countHours cur (units.length / 24) > units.length := by
      have : units.length / 24 * 24 ≤ units.length := Nat.div_mul_le_self ..
      omega
    have hslot : ∀ j, 0 ≤ j →
        j < 0 + (units.drop (units.length - countHours cur (units.length / 24))).length →
        j / 24 < (List.replicate (units.length / 24) 0).length := by
      intro j _ hj
      rw [List.length_drop] at hj
      rw [List.length_replicate]
      omega
    obtain ⟨a, e, l, s, g⟩ := accum_spec f (· / 24) _ 0 (List.replicate (units.length / 24) 0) hslot
    refine ⟨a, ?_, fun h' => absurd h h', fun n hn _ => hn ▸ ⟨by rw [l, List.length_replicate], ?_, ?_⟩⟩
    · simp only [fillSeries, h, if_true, hlen, if_false, e, decide_true]
    · rw [s, List.sum_replicate_nat, Nat.mul_zero, Nat.zero_add, Nat.add_comm]
      exact sum_map_take_drop f units _
    · intro j
      rw [g j, getD_replicate_zero, Nat.zero_add]
  · refine ⟨units.map f, ?_, fun _ => rfl, fun n hn h' => absurd (hn ▸ h') h⟩
    have := accum_id f units []
    simp only [List.length_nil, List.nil_append] at this
    simp only [fillSeries, h, if_false, this, decide_false]

structure IsAnswer (units : List UnitDB) (cur : Nat) (r : Resp) : Prop where
  days : r.days = decide (units.length / 24 > 7)
  dnsQueries : IsSeries (·.nTotal) units cur r.dnsQueries
  blockedFiltering : IsSeries (·.nResult 2) units cur r.blockedFiltering
  replacedSafebrowsing : IsSeries (·.nResult 3) units cur r.replacedSafebrowsing
  replacedParental : IsSeries (·.nResult 5) units cur r.replacedParental
  numDNSQueries : r.numDNSQueries = sumBy (·.nTotal) units
  numBlockedFiltering : r.numBlockedFiltering = sumBy (·.nResult 2) units
  numReplacedSafebrowsing : r.numReplacedSafebrowsing = sumBy (·.nResult 3) units
  numReplacedSafesearch : r.numReplacedSafesearch = sumBy (·.nResult 4) units
  numReplacedParental : r.numReplacedParental = sumBy (·.nResult 5) units

theorem dataFromUnits_spec (units : List UnitDB) (cur : Nat) :
    ∃ r, dataFromUnits units cur = .ok r ∧ IsAnswer units cur r := by
  obtain ⟨q, eq, hq⟩ := fillSeries_spec (·.nTotal) units cur
  obtain ⟨b, eb, hb⟩ := fillSeries_spec (·.nResult 2) units cur
  obtain ⟨sb, esb, hsb⟩ := fillSeries_spec (·.nResult 3) units cur
  obtain ⟨p, ep, hp⟩ := fillSeries_spec (·.nResult 5) units cur
  have h : dataFromUnits units cur = .ok
      { days := decide (units.length / 24 > 7)
        dnsQueries := q, blockedFiltering := b, replacedSafebrowsing := sb, replacedParental := p
        numDNSQueries := sumBy (·.nTotal) units
        numBlockedFiltering := sumBy (·.nResult 2) units
        numReplacedSafebrowsing := sumBy (·.nResult 3) units
        numReplacedSafesearch := sumBy (·.nResult 4) units
        numReplacedParental := sumBy (·.nResult 5) units } := by
    simp only [dataFromUnits, eq, eb, esb, ep, bind, Except.bind, pure, Except.pure]
  exact ⟨_, h, rfl, hq, hb, hsb, hp, rfl, rfl, rfl, rfl, rfl⟩

/-- The `limit - 1` stored units that `loadUnits` reads, oldest first. -/
def storedUnits (s : State) (limit : Nat) : List UnitDB :=
  (List.range (sub32 s.curr.id (add32 (sub32 s.curr.id limit) 1))).map
    fun k => (s.db.get (add32 (add32 (sub32 s.curr.id limit) 1) k)).getD UnitDB.empty

def unitsOf (s : State) (limit : Nat) : List UnitDB := storedUnits s limit ++ [s.curr.serialize]

theorem mem_unitsOf {s : State} {limit : Nat} {u : UnitDB} (hu : u ∈ unitsOf s limit) :
    u = s.curr.serialize ∨ u = UnitDB.empty ∨ ∃ k, (k, u) ∈ s.db := by
  rcases List.mem_append.mp hu with hu | hu
  · obtain ⟨k, _, rfl⟩ := List.mem_map.mp hu
    cases hg : s.db.get _ with
    | none => exact .inr (.inl rfl)
    | some v => exact .inr (.inr ⟨_, DB.mem_of_get_some hg⟩)
  · exact .inl (List.mem_singleton.mp hu)

theorem loadUnits_eq (s : State) (limit : Nat) :
    loadUnits s limit =
      if (unitsOf s limit).length ≠ limit then .error .unitsLen else .ok (unitsOf s limit, s.curr.id) := rfl

/-- `loadUnits` walks `limit - 1` ids from `cur - limit + 1` up to `cur`,
whether or not `cur - limit + 1` wraps around 2^32. -/
theorem loadUnits_count {cur limit : Nat} (hid : cur < U32) (hl1 : 1 ≤ limit) (hl2 : limit < U32) :
    sub32 cur (add32 (sub32 cur limit) 1) = limit - 1 := by
  -- `limit - 1` is the number that, added to the first id, gives `cur` again
  have h : add32 (limit - 1) (add32 (sub32 cur limit) 1) = cur := by
    rw [add32, add32, Nat.add_mod_mod, ← Nat.add_assoc, Nat.add_right_comm, Nat.sub_add_cancel hl1, Nat.add_comm]
    exact add32_sub32 hid hl2
  have hfirst : add32 (sub32 cur limit) 1 < U32 := Nat.mod_lt _ (by decide)
  have := sub32_add32 (Nat.lt_of_le_of_lt (Nat.sub_le limit 1) hl2) hfirst
  rwa [h] at this

/-- `loadUnits` returns exactly `limit` units for every current hour and limit:
the "should not happen" panic is unreachable. -/
theorem unitsOf_length (s : State) (limit : Nat) (hid : s.curr.id < U32) (hl1 : 1 ≤ limit) (hl2 : limit < U32) :
    (unitsOf s limit).length = limit := by
  rw [unitsOf, storedUnits, List.length_append, List.length_map, List.length_range, loadUnits_count hid hl1 hl2]
  exact Nat.sub_add_cancel hl1

theorem getData_eq (s : State) (hid : s.curr.id < U32) (hl1 : 1 ≤ s.limitHours) (hl2 : s.limitHours < U32) :
    getData s = dataFromUnits (unitsOf s s.limitHours) s.curr.id := by
  have h0 : ¬ s.limitHours = 0 := by omega
  have hlen : ¬ (unitsOf s s.limitHours).length ≠ s.limitHours := fun h => h (unitsOf_length s _ hid hl1 hl2)
  unfold getData
  rw [if_neg h0, loadUnits_eq, if_neg hlen]

theorem getData_spec (s : State) (hid : s.curr.id < U32) (hl1 : 1 ≤ s.limitHours) (hl2 : s.limitHours < U32) :
    ∃ r, getData s = .ok r ∧ IsAnswer (unitsOf s s.limitHours) s.curr.id r :=
  getData_eq s hid hl1 hl2 ▸ dataFromUnits_spec _ _

theorem unitsOf_window (s : State) (limit : Nat) (hid : s.curr.id < U32) (hl1 : 1 ≤ limit)
    (hl2 : limit ≤ s.curr.id) :
    unitsOf s limit = (List.range limit).map fun k => s.unitAt (s.curr.id + 1 - limit + k) := by
  have hfirst : add32 (sub32 s.curr.id limit) 1 = s.curr.id + 1 - limit := by
    rw [sub32_eq hl2 hid, add32_eq (by omega), Nat.sub_add_comm hl2]
  -- `limit - 1` stored hours, then the current one
  rw [unitsOf, storedUnits, loadUnits_count hid hl1 (Nat.lt_of_le_of_lt hl2 hid), hfirst,
    ← Nat.sub_add_cancel hl1, List.range_succ, List.map_append, List.map_singleton, Nat.add_sub_cancel]
  congr 1
  · refine List.map_congr_left fun k hk => ?_
    have hk : s.curr.id + 1 - (limit - 1 + 1) + k < s.curr.id := by have := List.mem_range.mp hk; omega
    rw [add32_eq (Nat.lt_trans hk hid), State.unitAt, if_neg (Nat.ne_of_lt hk)]
  · rw [State.unitAt, if_pos (by omega)]

theorem unitsOf_congr (s1 s2 : State) (limit : Nat) (hc : s1.curr.id = s2.curr.id) (hid : s1.curr.id < U32)
    (hl1 : 1 ≤ limit) (hl2 : limit ≤ s1.curr.id)
    (hU : ∀ h, s1.curr.id + 1 - limit ≤ h → h ≤ s1.curr.id → s1.unitAt h = s2.unitAt h) :
    unitsOf s1 limit = unitsOf s2 limit := by
  rw [unitsOf_window s1 limit hid hl1 hl2, unitsOf_window s2 limit (hc ▸ hid) hl1 (hc ▸ hl2), ← hc]
  exact List.map_congr_left fun k hk => hU _ (Nat.le_add_right ..) (by have := List.mem_range.mp hk; omega)

end AGH.C09
