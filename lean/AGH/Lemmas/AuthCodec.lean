/-
C12: the sessions.db record codec.
-/
import AGH.Model.Auth
namespace AGH.C12

theorem length_be (n : Nat) : ∀ k, (be n k).length = k
  | 0 => rfl
  | k + 1 => by simp [be, length_be n k]

theorem unbe_be (n k : Nat) : unbe (be n k) = n % 256 ^ k := by
  induction k with
  | zero => simp [be, unbe, Nat.mod_one]
  | succ k ih =>
    simp only [be, unbe, length_be, ih]
    rw [Nat.pow_succ, Nat.mod_mul]
    rw [Nat.mul_comm (n / 256 ^ k % 256)]
    omega

theorem decode_encode (name : List Nat) (expire : Nat) (he : expire < u32) (hn : name.length < 65536) :
    decodeSess (encodeSess name expire) = some (name, expire) := by
  have h4 : (encodeSess name expire).take 4 = be expire 4 := by
    simp [encodeSess, length_be]
  have h2 : ((encodeSess name expire).drop 4).take 2 = be name.length 2 := by
    simp [encodeSess, length_be]
  have h6 : (encodeSess name expire).drop 6 = name := by
    have : encodeSess name expire = (be expire 4 ++ be name.length 2) ++ name := by simp [encodeSess]
    rw [this, List.drop_append_of_le_length (by simp [length_be])]
    simp [length_be]
  have hl : ¬ (encodeSess name expire).length < 6 := by
    simp [encodeSess, length_be]; omega
  unfold decodeSess
  simp only [hl, if_false, h4, h2, h6, unbe_be]
  have e1 : expire % 256 ^ 4 = expire := Nat.mod_eq_of_lt (by unfold u32 at he; omega)
  have e2 : name.length % 256 ^ 2 = name.length := Nat.mod_eq_of_lt (by omega)
  simp [e1, e2]

end AGH.C12
