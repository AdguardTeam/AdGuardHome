/-
C12 lemmas, session part: the relation between the session tables of the
model (memory map and sessions.db bucket) and what the spec remembers about
every token, kept by every operation.
-/
import AGH.Lemmas.AuthThrottle
namespace AGH.C12

/-- What the monitor's record `i` of token `t` says about the model's tables at the clock second `S`.
`bounds` brackets the stored expiry: the upper bound gives "authenticated only within `ttl` of the
last accepted request", the lower one "still valid within `ttl` of the creation"; `gone` covers a
token lazily deleted or dropped at a restart.  `S` is a parameter apart from `now` so that a clock
advance is monotonicity in `S` (`simSess_advance`). -/
structure TokRel (st : St) (sp : Spec) (S : Nat) (t : Nat) (i : TokInfo) : Prop where
  order : i.created ≤ i.lastOK ∧ i.lastOK ≤ S
  out : i.loggedOut = true → st.mem t = none
  bounds : ∀ s, st.mem t = some s → i.created + sp.ttl ≤ s.expire ∧ s.expire ≤ i.lastOK + sp.ttl
  gone : st.mem t = none → i.loggedOut = false → i.created + sp.ttl ≤ S

/-- The session relation between model and monitor at `now`.  `memDb`: between operations memory and
sessions.db agree, so a restart brings back what was there.  `unknown`, `fresh`: the tables hold no
token the monitor has no record of, and it has none from `nextTok` on, so the token a login issues
is new on both sides (`hnext`, `hlt` of `simSess_update` are there to keep `fresh`). -/
structure SimSess (st : St) (sp : Spec) (now : Nat) : Prop where
  ttl : st.ttl = sp.ttl
  ttlLt : sp.ttl < u32
  issued : sp.issued = st.nextTok
  memDb : ∀ t, st.mem t = st.db t
  unknown : ∀ t, sp.toks t = none → st.mem t = none
  fresh : ∀ t, st.nextTok ≤ t → sp.toks t = none
  rel : ∀ t i, sp.toks t = some i → TokRel st sp (nowS now) t i

theorem nowS_mono (now d : Nat) : nowS now ≤ nowS (now + d) :=
  Nat.div_le_div_right (Nat.le_add_right now d)

theorem simSess_advance {st : St} {sp : Spec} {now : Nat} (d : Nat) (h : SimSess st sp now) :
    SimSess st sp (now + d) := by
  have hm := nowS_mono now d
  refine { h with rel := fun t i hi => ?_ }
  have r := h.rel t i hi
  exact ⟨⟨r.order.1, Nat.le_trans r.order.2 hm⟩, r.out, r.bounds, fun h1 h2 => Nat.le_trans (r.gone h1 h2) hm⟩

theorem now32_eq {sp : Spec} {now : Nat} (h : noWrap sp now = true) : now32 now = nowS now := by
  simp only [noWrap, decide_eq_true_eq] at h
  exact Nat.mod_eq_of_lt (Nat.lt_of_le_of_lt (Nat.le_add_right _ _) h)

theorem newExpire_eq {sp : Spec} {now : Nat} (h : noWrap sp now = true) :
    (now32 now + sp.ttl) % u32 = nowS now + sp.ttl := by
  rw [now32_eq h]
  simp only [noWrap, decide_eq_true_eq] at h
  exact Nat.mod_eq_of_lt h

theorem tokRel_congr {st st' : St} {sp sp' : Spec} {S t : Nat} {i : TokInfo} (r : TokRel st sp S t i)
    (hm : st'.mem t = st.mem t) (ht : sp'.ttl = sp.ttl) : TokRel st' sp' S t i :=
  ⟨r.order, by rw [hm]; exact r.out, by rw [hm, ht]; exact r.bounds, by rw [hm, ht]; exact r.gone⟩

/-- `TokRel` read off the token's entry in the memory map: none, or the session `s`. -/
theorem TokRel.of_none {st : St} {sp : Spec} {S t : Nat} {i : TokInfo} (hm : st.mem t = none)
    (ho : i.created ≤ i.lastOK ∧ i.lastOK ≤ S) (hg : i.loggedOut = false → i.created + sp.ttl ≤ S) :
    TokRel st sp S t i :=
  ⟨ho, fun _ => hm, (fun _ hs => nomatch hm.symm.trans hs), fun _ => hg⟩

theorem TokRel.of_some {st : St} {sp : Spec} {S t : Nat} {i : TokInfo} {s : Sess} (hm : st.mem t = some s)
    (ho : i.created ≤ i.lastOK ∧ i.lastOK ≤ S) (hl : i.loggedOut = false)
    (hb : i.created + sp.ttl ≤ s.expire ∧ s.expire ≤ i.lastOK + sp.ttl) : TokRel st sp S t i :=
  ⟨ho, (fun h => nomatch hl.symm.trans h), fun _ hs' => Option.some.inj (hm.symm.trans hs') ▸ hb,
    fun hn => nomatch hm.symm.trans hn⟩

theorem known_lt {st : St} {sp : Spec} {now tok : Nat} {i : TokInfo} (h : SimSess st sp now)
    (hi : sp.toks tok = some i) : tok < st.nextTok :=
  Nat.lt_of_not_le fun hge => by rw [h.fresh tok hge] at hi; cases hi

/-- The shape of every change to the session tables but a restart's: the entry of one token `tok`,
known to the monitor afterwards, becomes `m`; the relation then has to be checked at `tok` only. -/
theorem simSess_update {st st' : St} {sp sp' : Spec} {now tok : Nat} (h : SimSess st sp now)
    (m : Option Sess) (i : TokInfo)
    (hmem : st'.mem = fun t => if t = tok then m else st.mem t)
    (hdb : st'.db = fun t => if t = tok then m else st.db t)
    (htoks : sp'.toks = fun t => if t = tok then some i else sp.toks t)
    (httl : st'.ttl = st.ttl) (hsttl : sp'.ttl = sp.ttl)
    (hnext : st.nextTok ≤ st'.nextTok) (hiss : sp'.issued = st'.nextTok) (hlt : tok < st'.nextTok)
    (hrel : st'.mem tok = m → TokRel st' sp' (nowS now) tok i) : SimSess st' sp' now := by
  refine ⟨by rw [httl, hsttl]; exact h.ttl, by rw [hsttl]; exact h.ttlLt, hiss, ?_, ?_, ?_, ?_⟩
  · intro t
    rw [hmem, hdb]
    dsimp only
    split
    · rfl
    · exact h.memDb t
  · intro t ht
    rw [htoks] at ht
    rw [hmem]
    dsimp only at ht ⊢
    split
    · next e => rw [if_pos e] at ht; cases ht
    · next e => rw [if_neg e] at ht; exact h.unknown t ht
  · intro t ht
    rw [htoks]
    dsimp only
    split
    · next e => exact absurd hlt (Nat.not_lt.mpr (e ▸ ht))
    · exact h.fresh t (Nat.le_trans hnext ht)
  · intro t i' hi
    rw [htoks] at hi
    dsimp only at hi
    split at hi
    · next e => cases hi; subst e; exact hrel (by rw [hmem]; exact if_pos rfl)
    · next e => exact tokRel_congr (h.rel t i' hi) (by rw [hmem]; exact if_neg e) hsttl

theorem SimSess.frame {st : St} {sp : Spec} {now : Nat} (h : SimSess st sp now) (rl : Option Limiter)
    (ev : Nat) (f : FMap (List Nat)) :
    SimSess { st with rl := rl, evals := ev } { sp with fails := f } now :=
  ⟨h.ttl, h.ttlLt, h.issued, h.memDb, h.unknown, h.fresh, fun t i hi => tokRel_congr (h.rel t i hi) rfl rfl⟩

theorem simSess_newToken {st : St} {sp : Spec} {now : Nat} (h : SimSess st sp now)
    (hw : noWrap sp now = true) (user : Nat) (rl : Option Limiter) (f : FMap (List Nat)) :
    SimSess { st with rl := rl, mem := st.mem.set st.nextTok ⟨user, (now32 now + st.ttl) % u32⟩,
                      db := st.db.set st.nextTok ⟨user, (now32 now + st.ttl) % u32⟩,
                      nextTok := st.nextTok + 1, evals := st.evals + 1 }
      { sp with fails := f, toks := sp.toks.set st.nextTok ⟨nowS now, nowS now, false⟩,
                issued := sp.issued + 1 } now := by
  have he : (now32 now + st.ttl) % u32 = nowS now + sp.ttl := h.ttl ▸ newExpire_eq hw
  exact simSess_update h (some ⟨user, (now32 now + st.ttl) % u32⟩) ⟨nowS now, nowS now, false⟩
    rfl rfl rfl rfl rfl (Nat.le_succ _) (congrArg (· + 1) h.issued) (Nat.lt_succ_self _) fun hm =>
    .of_some hm ⟨Nat.le_refl _, Nat.le_refl _⟩ rfl ⟨Nat.le_of_eq he.symm, Nat.le_of_eq he⟩

theorem logout_absent {st : St} {tok : Nat} (hm : st.mem tok = none) (hd : st.db tok = none) :
    logout st tok = st := by
  have e1 : st.mem.erase tok = st.mem := (FMap.eq_update_self hm).symm
  have e2 : st.db.erase tok = st.db := (FMap.eq_update_self hd).symm
  unfold logout
  rw [e1, e2]

theorem simSess_logout {st : St} {sp : Spec} {now : Nat} (h : SimSess st sp now) (tok : Nat) :
    SimSess (logout st tok) (specStep sp now (.logout tok) .done).2 now := by
  dsimp only [specStep]
  cases hi : sp.toks tok with
  | none =>
    have hm := h.unknown tok hi
    rw [logout_absent hm ((h.memDb tok).symm.trans hm)]
    exact h
  | some i =>
    have hlt : tok < st.nextTok := known_lt h hi
    exact simSess_update h none { i with loggedOut := true } rfl rfl rfl rfl rfl (Nat.le_refl _) h.issued
      hlt fun hm => .of_none hm (h.rel tok i hi).order (fun hl => nomatch hl)

theorem known_of_mem {st : St} {sp : Spec} {now tok : Nat} {s : Sess} (h : SimSess st sp now)
    (hm : st.mem tok = some s) :
    ∃ i, sp.toks tok = some i ∧ i.loggedOut = false ∧ TokRel st sp (nowS now) tok i := by
  cases hi : sp.toks tok with
  | none => exact nomatch hm.symm.trans (h.unknown tok hi)
  | some i =>
    have r := h.rel tok i hi
    refine ⟨i, rfl, ?_, r⟩
    cases hl : i.loggedOut with
    | false => rfl
    | true => exact nomatch hm.symm.trans (r.out hl)

theorem simSess_request {st : St} {sp : Spec} {now : Nat} (h : SimSess st sp now)
    (hw : noWrap sp now = true) (tok : Nat) :
    (specStep sp now (.request tok) (.auth ((checkSession st now tok).1 == .ok))).1 = true ∧
    SimSess (checkSession st now tok).2
      (specStep sp now (.request tok) (.auth ((checkSession st now tok).1 == .ok))).2 now := by
  have h32 := now32_eq hw
  have hne : (now32 now + st.ttl) % u32 = nowS now + sp.ttl := h.ttl ▸ newExpire_eq hw
  -- an accepted request: the tables differ from those of `st` only in the expiry `e` of `tok`
  have accepted : ∀ (s : Sess) (st' : St) (e : Nat), st.mem tok = some s → ¬ s.expire ≤ now32 now →
      st'.mem = (fun t => if t = tok then some { s with expire := e } else st.mem t) →
      st'.db = (fun t => if t = tok then some { s with expire := e } else st.db t) →
      st'.ttl = st.ttl → st'.nextTok = st.nextTok →
      (e = s.expire ∨ e = nowS now + sp.ttl) →
      (specStep sp now (.request tok) (.auth true)).1 = true ∧
      SimSess st' (specStep sp now (.request tok) (.auth true)).2 now := by
    intro s st' e hm hexp hmem hdb httl hnt he
    obtain ⟨i, hi, hlo, r⟩ := known_of_mem h hm
    have hb := r.bounds s hm
    have hup : nowS now < i.lastOK + sp.ttl := Nat.lt_of_lt_of_le (Nat.not_le.mp (h32 ▸ hexp)) hb.2
    have hspec : specStep sp now (.request tok) (.auth true) =
        (true, { sp with toks := sp.toks.set tok { i with lastOK := nowS now } }) := by
      dsimp only [specStep]
      simp [hi, hlo, hup]
    rw [hspec]
    refine ⟨rfl, simSess_update h _ { i with lastOK := nowS now } hmem hdb rfl httl rfl
      (Nat.le_of_eq hnt.symm) (h.issued.trans hnt.symm) (hnt ▸ known_lt h hi) fun hm' => ?_⟩
    refine .of_some hm' ⟨Nat.le_trans r.order.1 r.order.2, Nat.le_refl _⟩ hlo ?_
    rcases he with rfl | rfl
    · exact ⟨hb.1, Nat.le_trans hb.2 (Nat.add_le_add_right r.order.2 _)⟩
    · exact ⟨Nat.add_le_add_right (Nat.le_trans r.order.1 r.order.2) _, Nat.le_refl _⟩
  -- a refused one: the monitor agrees if the token's window, should it know the token, has closed
  have refused : ∀ st' : St, SimSess st' sp now →
      (∀ i, sp.toks tok = some i → i.loggedOut = false → i.created + sp.ttl ≤ nowS now) →
      (specStep sp now (.request tok) (.auth false)).1 = true ∧
      SimSess st' (specStep sp now (.request tok) (.auth false)).2 now := by
    intro st' hs hclosed
    dsimp only [specStep]
    cases hi : sp.toks tok with
    | none => exact ⟨rfl, hs⟩
    | some i =>
      dsimp only
      refine ⟨?_, hs⟩
      cases hlo : i.loggedOut with
      | true => rfl
      | false => simp [Nat.not_lt.mpr (hclosed i hi hlo)]
  have hc := checkSession_checks st now tok
  generalize checkSession st now tok = res at hc ⊢
  cases hc with
  | absent hm => exact refused st h fun i hi hlo => (h.rel tok i hi).gone hm hlo
  | expired s hm hexp =>
    -- lazily deleted from both tables
    obtain ⟨i, hi, _, r⟩ := known_of_mem h hm
    have hclosed : i.created + sp.ttl ≤ nowS now := Nat.le_trans (r.bounds s hm).1 (h32 ▸ hexp)
    have hlt : tok < st.nextTok := known_lt h hi
    refine refused _ ?_ fun i' hi' _ => Option.some.inj (hi.symm.trans hi') ▸ hclosed
    exact simSess_update h none i rfl rfl (FMap.eq_update_self hi) rfl rfl (Nat.le_refl _) h.issued hlt
      fun hm' => .of_none hm' r.order fun _ => hclosed
  | kept s hm hexp =>
    exact accepted s st s.expire hm hexp (FMap.eq_update_self hm)
      (FMap.eq_update_self ((h.memDb tok).symm.trans hm)) rfl rfl (Or.inl rfl)
  | refreshed s hm hexp => exact accepted s _ _ hm hexp rfl rfl rfl rfl (Or.inr hne)

theorem restart_mem {st : St} {t : Nat} (h : st.mem t = st.db t) (now : Nat) :
    (restart st now).mem t = (st.mem t).filter (fun s => !decide (s.expire ≤ now32 now)) := by
  rw [h]
  rfl

theorem simSess_restart {st : St} {sp : Spec} {now : Nat} (h : SimSess st sp now) (hw : noWrap sp now = true) :
    SimSess (restart st now) { sp with fails := FMap.empty } now := by
  have hmem : ∀ t, (restart st now).mem t = (st.mem t).filter (fun s => !decide (s.expire ≤ nowS now)) :=
    fun t => now32_eq hw ▸ restart_mem (h.memDb t) now
  refine ⟨h.ttl, h.ttlLt, h.issued, fun t => rfl, ?_, h.fresh, ?_⟩
  · intro t ht; rw [hmem, h.unknown t ht]; rfl
  · intro t i hi
    have r := h.rel t i hi
    refine ⟨r.order, fun hl => by rw [hmem, r.out hl]; rfl, ?_, ?_⟩
    · intro s hs
      rw [hmem] at hs
      obtain ⟨hs, _⟩ := Option.filter_eq_some_iff.mp hs
      exact r.bounds s hs
    · intro hn hl
      rw [hmem] at hn
      cases hm : st.mem t with
      | none => exact r.gone hm hl
      | some s0 =>
        -- dropped at the restart because it had expired
        rw [hm, Option.filter_some] at hn
        split at hn
        · cases hn
        · next hc =>
          simp only [Bool.not_eq_true', decide_eq_false_iff_not, Decidable.not_not] at hc
          exact Nat.le_trans (r.bounds s0 hm).1 hc

end AGH.C12
