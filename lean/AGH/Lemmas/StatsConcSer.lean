/-
C09: serializability of the generic concurrent model — if every operation
holds `confMu` around all its shared accesses (exclusively when it writes),
then in every reachable state in which no writer holds `confMu` the shared
state is that of a sequential execution of the operations that have released
`confMu`, in release order.
-/
import AGH.Model.StatsConc
namespace AGH.C09

variable {L : Type}

theorem execBody_nil (p : State × L) : execBody ([] : List (Instr L)) p = p := rfl

theorem execBody_cons (i : Instr L) (b : List (Instr L)) (p : State × L) :
    execBody (i :: b) p = execBody b (execI i p) := rfl

theorem execBody_append (a b : List (Instr L)) (p : State × L) :
    execBody (a ++ b) p = execBody b (execBody a p) := by
  simp [execBody, List.foldl_append]

theorem execI_ro (i : Instr L) (h : i.readOnly) (p : State × L) : (execI i p).1 = p.1 := by
  cases i with
  | act f => exact h p.1 p.2
  | lock l m g => rfl
  | unlock l m g => rfl

theorem execBody_ro (b : List (Instr L)) (h : ∀ i ∈ b, i.readOnly) (p : State × L) :
    (execBody b p).1 = p.1 := by
  induction b generalizing p with
  | nil => rfl
  | cons i b ih =>
    exact (ih (fun j hj => h j (List.mem_cons_of_mem _ hj)) (execI i p)).trans
      (execI_ro i (h i (List.mem_cons_self ..)) p)

theorem Setup.seq_append (S : Setup L) (h : List Nat) (t : Nat) :
    S.seq (h ++ [t]) = (S.effect t (S.seq h)).1 := by
  simp [Setup.seq, List.foldl_append]

/-- Where thread `t` is, relative to the operations committed so far (`hist`). -/
inductive Phase (S : Setup L) (σ : Sys L) (hist : List Nat) (t : Nat) : Prop where
  | idle (hp : S.progs t = none) (hth : σ.th t = ⟨[], S.loc0 t⟩)
      (hw : (σ.lk .conf).writer ≠ some t) (hrd : t ∉ (σ.lk .conf).readers) (hh : t ∉ hist)
  | before (p : CProg L) (hp : S.progs t = some p) (hth : σ.th t = ⟨p.code, S.loc0 t⟩)
      (hw : (σ.lk .conf).writer ≠ some t) (hrd : t ∉ (σ.lk .conf).readers) (hh : t ∉ hist)
  | insideW (p : CProg L) (hp : S.progs t = some p) (hm : p.mode = .W) (done todo : List (Instr L))
      (hb : p.body = done ++ todo)
      (hrest : (σ.th t).rest = todo ++ [.unlock .conf .W (fun _ => true)])
      (hw : (σ.lk .conf).writer = some t) (hh : t ∉ hist)
      (hst : (σ.st, (σ.th t).loc) = execBody done (S.seq hist, S.loc0 t))
  | insideR (p : CProg L) (hp : S.progs t = some p) (hm : p.mode = .R) (done todo : List (Instr L))
      (hb : p.body = done ++ todo)
      (hrest : (σ.th t).rest = todo ++ [.unlock .conf .R (fun _ => true)])
      (hw : (σ.lk .conf).writer ≠ some t) (hrd : t ∈ (σ.lk .conf).readers) (hh : t ∉ hist)
      (hloc : (σ.th t).loc = (execBody done (S.seq hist, S.loc0 t)).2)
  | after (p : CProg L) (hp : S.progs t = some p) (hrest : (σ.th t).rest = [])
      (hw : (σ.lk .conf).writer ≠ some t) (hrd : t ∉ (σ.lk .conf).readers)
      (h1 h2 : List Nat) (hh : hist = h1 ++ t :: h2)
      (hloc : (σ.th t).loc = (S.effect t (S.seq h1)).2)

/-- `t` holds the lock in mode `m`. -/
def LockSt.holds (ls : LockSt) (t : Nat) : Mode → Prop
  | .W => ls.writer = some t
  | .R => t ∈ ls.readers

/-- What an RWMutex guarantees: a writer excludes readers, a reader is registered once. -/
structure LockSt.OK (ls : LockSt) : Prop where
  excl : ∀ w, ls.writer = some w → ls.readers = []
  rnodup : ls.readers.Nodup

namespace LockSt
variable {ls : LockSt} {m : Mode} {t t' : Nat}

theorem can_writer (hc : ls.can m = true) : ls.writer = none := by
  cases m with
  | W => simp [can] at hc; exact hc.1
  | R => simpa [can] using hc

theorem OK.free_of_reader (ok : ls.OK) (hr : t ∈ ls.readers) : ls.writer = none := by
  cases hw : ls.writer with
  | none => rfl
  | some w => rw [ok.excl w hw] at hr; cases hr

/-- Two threads hold the lock together only as readers. -/
theorem OK.two (ok : ls.OK) (hh : ls.holds t m) (ht : t' ≠ t) (h' : ls.writer = some t' ∨ t' ∈ ls.readers) :
    ls.writer = none := by
  rcases h' with h' | h'
  · cases m with
    | W => rw [show ls.writer = some t from hh] at h'; exact absurd (Option.some.inj h').symm ht
    | R => exact ok.free_of_reader hh
  · exact ok.free_of_reader h'

/-- Acquiring keeps the guarantees, makes `t` a holder and changes nobody else's holding. -/
theorem OK.acq (ok : ls.OK) (hc : ls.can m = true) (hr : t ∉ ls.readers) :
    (ls.acq t m).OK ∧ (ls.acq t m).holds t m ∧ ∀ t', t' ≠ t →
      ((ls.acq t m).writer = some t' ↔ ls.writer = some t') ∧ (t' ∈ (ls.acq t m).readers ↔ t' ∈ ls.readers) := by
  have hw := can_writer hc
  cases m with
  | W =>
    simp [can] at hc
    exact ⟨⟨fun _ _ => hc.2, ok.rnodup⟩, rfl, fun t' ht => by simp [LockSt.acq, hw, Ne.symm ht]⟩
  | R =>
    exact ⟨⟨fun w h => by simp [LockSt.acq, hw] at h, List.nodup_cons.mpr ⟨hr, ok.rnodup⟩⟩, List.mem_cons_self ..,
      fun t' ht => by simp [LockSt.acq, ht]⟩

/-- Releasing keeps the guarantees, leaves `t` no holder and changes nobody else's holding. -/
theorem OK.rel (ok : ls.OK) (hh : ls.holds t m) :
    (ls.rel t m).OK ∧ ((ls.rel t m).writer ≠ some t ∧ t ∉ (ls.rel t m).readers) ∧ ∀ t', t' ≠ t →
      ((ls.rel t m).writer = some t' ↔ ls.writer = some t') ∧ (t' ∈ (ls.rel t m).readers ↔ t' ∈ ls.readers) := by
  cases m with
  | W =>
    have hw : ls.writer = some t := hh
    exact ⟨⟨fun w h => by simp [LockSt.rel] at h, ok.rnodup⟩, by simp [LockSt.rel, ok.excl t hw],
      fun t' ht => by simp [LockSt.rel, hw, Ne.symm ht]⟩
  | R =>
    have hw := ok.free_of_reader hh
    exact ⟨⟨fun w h => by simp [LockSt.rel, hw] at h, ok.rnodup.erase _⟩,
      ⟨by simp [LockSt.rel, hw], fun h => ((List.Nodup.mem_erase_iff ok.rnodup).mp h).1 rfl⟩,
      fun t' ht => by simp [LockSt.rel, List.mem_erase_of_ne ht]⟩

end LockSt

/-- Holds in every reachable state, `hist` being the operations committed so far in release order.  `free` is the
content: no writer holds `confMu` ⇒ the shared state is the sequential reference `S.seq hist`. -/
structure CInv (S : Setup L) (σ : Sys L) (hist : List Nat) : Prop where
  nodup : hist.Nodup
  ph : ∀ t, Phase S σ hist t
  free : (σ.lk .conf).writer = none → σ.st = S.seq hist
  lok : (σ.lk .conf).OK

/-- `insideW` and `insideR` in one: `t` holds `confMu` in mode `m` with `done` executed.  For a reader `hst` follows from
`CInv.free`, since the body reads only. -/
structure Inside (S : Setup L) (σ : Sys L) (hist : List Nat) (t : Nat) (p : CProg L) (m : Mode)
    (done todo : List (Instr L)) : Prop where
  hp : S.progs t = some p
  hm : p.mode = m
  hb : p.body = done ++ todo
  hrest : (σ.th t).rest = todo ++ [.unlock .conf m (fun _ => true)]
  hold : (σ.lk .conf).holds t m
  hh : t ∉ hist
  hst : (σ.st, (σ.th t).loc) = execBody done (S.seq hist, S.loc0 t)

theorem Inside.phase {S : Setup L} {σ : Sys L} {hist : List Nat} {t : Nat} {p : CProg L} {m : Mode}
    {done todo : List (Instr L)} (h : Inside S σ hist t p m done todo) (ok : (σ.lk .conf).OK) : Phase S σ hist t := by
  obtain ⟨hp, hm, hb, hrest, hold, hh, hst⟩ := h
  cases m with
  | W => exact .insideW p hp hm done todo hb hrest hold hh hst
  | R =>
    exact .insideR p hp hm done todo hb hrest (by rw [ok.free_of_reader hold]; simp) hold hh
      (congrArg Prod.snd hst)

/-- A thread other than the one that moved keeps its phase.  `hin`: a thread inside its section must see neither the
shared state nor the reference `S.seq hist` move; that holds because while it is inside only READERS can commit. -/
theorem Phase.transfer {S : Setup L} {σ σ' : Sys L} {hist ext : List Nat} {t' : Nat}
    (ph : Phase S σ hist t') (hth : σ'.th t' = σ.th t')
    (hW : (σ'.lk .conf).writer = some t' ↔ (σ.lk .conf).writer = some t')
    (hR : t' ∈ (σ'.lk .conf).readers ↔ t' ∈ (σ.lk .conf).readers)
    (hext : t' ∉ ext)
    (hin : (σ.lk .conf).writer = some t' ∨ t' ∈ (σ.lk .conf).readers →
      σ'.st = σ.st ∧ S.seq (hist ++ ext) = S.seq hist) :
    Phase S σ' (hist ++ ext) t' := by
  have hmem : t' ∉ hist → t' ∉ hist ++ ext := by
    intro h hm
    rcases List.mem_append.mp hm with h' | h'
    · exact h h'
    · exact hext h'
  cases ph with
  | idle hp hth0 hw hrd hh =>
    exact .idle hp (by rw [hth, hth0]) (fun h => hw (hW.mp h)) (fun h => hrd (hR.mp h)) (hmem hh)
  | before p hp hth0 hw hrd hh =>
    exact .before p hp (by rw [hth, hth0]) (fun h => hw (hW.mp h)) (fun h => hrd (hR.mp h)) (hmem hh)
  | insideW p hp hm done todo hb hrest hw hh hst =>
    obtain ⟨e1, e2⟩ := hin (Or.inl hw)
    exact .insideW p hp hm done todo hb (by rw [hth]; exact hrest) (hW.mpr hw) (hmem hh)
      (by rw [hth, e1, e2]; exact hst)
  | insideR p hp hm done todo hb hrest hw hrd hh hloc =>
    obtain ⟨_, e2⟩ := hin (Or.inr hrd)
    exact .insideR p hp hm done todo hb (by rw [hth]; exact hrest) (fun h => hw (hW.mp h)) (hR.mpr hrd) (hmem hh)
      (by rw [hth, e2]; exact hloc)
  | after p hp hrest hw hrd h1 h2 hh hloc =>
    exact .after p hp (by rw [hth]; exact hrest) (fun h => hw (hW.mp h)) (fun h => hrd (hR.mp h))
      h1 (h2 ++ ext) (by rw [hh]; simp) (by rw [hth]; exact hloc)

theorem Phase.keep {S : Setup L} {σ σ' : Sys L} {hist : List Nat} {t' : Nat}
    (ph : Phase S σ hist t') (hth : σ'.th t' = σ.th t')
    (hW : (σ'.lk .conf).writer = some t' ↔ (σ.lk .conf).writer = some t')
    (hR : t' ∈ (σ'.lk .conf).readers ↔ t' ∈ (σ.lk .conf).readers)
    (hin : (σ.lk .conf).writer = some t' ∨ t' ∈ (σ.lk .conf).readers → σ'.st = σ.st) :
    Phase S σ' hist t' := by
  have := ph.transfer (ext := []) hth hW hR (by simp) (fun h => ⟨hin h, by simp⟩)
  simpa using this

theorem nodup_snoc {l : List Nat} {t : Nat} (h : l.Nodup) (ht : t ∉ l) : (l ++ [t]).Nodup := by
  rw [List.nodup_append]
  exact ⟨h, by simp, by intro a ha b hb; simp at hb; subst hb; exact fun e => ht (e ▸ ha)⟩

theorem setTh_same (th : Nat → Thread L) (t : Nat) (v : Thread L) : setTh th t v t = v := by simp [setTh]
theorem setTh_ne (th : Nat → Thread L) {t t' : Nat} (v : Thread L) (h : t' ≠ t) : setTh th t v t' = th t' := by
  simp [setTh, h]
theorem setLk_same (lk : Lk → LockSt) (l : Lk) (v : LockSt) : setLk lk l v l = v := by simp [setLk]
theorem setLk_ne (lk : Lk → LockSt) {l l' : Lk} (v : LockSt) (h : l' ≠ l) : setLk lk l v l' = lk l' := by
  simp [setLk, h]

theorem Sys.step_inner {σ σ' : Sys L} {t : Nat} {i : Instr L} {r : List (Instr L)}
    (hrest : (σ.th t).rest = i :: r) (hnc : i.isConf = false) (hs : σ.step t = some σ') :
    σ'.lk .conf = σ.lk .conf ∧ σ'.st = (execI i (σ.st, (σ.th t).loc)).1 ∧
      σ'.th = setTh σ.th t ⟨r, (execI i (σ.st, (σ.th t).loc)).2⟩ := by
  have hl : ∀ {l m g}, i = .lock l m g ∨ i = .unlock l m g → l ≠ .conf := by
    intro l m g h hc
    subst hc
    rcases h with rfl | rfl <;> cases hnc
  cases i with
  | act f =>
    simp only [Sys.step, hrest, Option.some.injEq] at hs
    subst hs
    exact ⟨rfl, rfl, rfl⟩
  | lock l m g =>
    simp only [Sys.step, hrest] at hs
    split at hs
    · split at hs
      · cases hs
        exact ⟨setLk_ne _ _ (hl (Or.inl rfl)).symm, rfl, rfl⟩
      · cases hs
    · cases hs
      exact ⟨rfl, rfl, rfl⟩
  | unlock l m g =>
    simp only [Sys.step, hrest] at hs
    split at hs
    · cases hs
      exact ⟨setLk_ne _ _ (hl (Or.inr rfl)).symm, rfl, rfl⟩
    · cases hs
      exact ⟨rfl, rfl, rfl⟩

/-- A step of a thread inside its section, writer or reader alike. -/
theorem CInv.inside_step {S : Setup L} {σ σ' : Sys L} {hist : List Nat} {t : Nat} {p : CProg L} {m : Mode}
    {done todo : List (Instr L)} (hi : CInv S σ hist) (wf : p.WF) (h : Inside S σ hist t p m done todo)
    (hs : σ.step t = some σ') : ∃ hist', CInv S σ' hist' := by
  cases todo with
  | nil =>
    -- releasing confMu: the operation commits
    have hrest := h.hrest
    simp only [List.nil_append] at hrest
    simp only [Sys.step, hrest, if_true, Option.some.injEq] at hs
    subst hs
    have heff : S.effect t (S.seq hist) = (σ.st, (σ.th t).loc) := by
      simp only [Setup.effect, h.hp, h.hb, List.append_nil]; exact h.hst.symm
    have hseq : S.seq (hist ++ [t]) = σ.st := by rw [S.seq_append, heff]
    obtain ⟨lok', ⟨hw, hr⟩, hoth⟩ := hi.lok.rel h.hold
    refine ⟨hist ++ [t], { nodup := nodup_snoc hi.nodup h.hh, ph := ?_, free := fun _ => hseq.symm, lok := lok' }⟩
    intro t'
    by_cases ht : t' = t
    · subst ht
      exact .after p h.hp (by simp [setTh_same]) hw hr hist [] rfl (by simp only [setTh_same, heff])
    · refine (hi.ph t').transfer (σ' := _) (ext := [t]) (setTh_ne _ _ ht) (hoth t' ht).1 (hoth t' ht).2
        (by simp [ht]) ?_
      -- another thread inside: both are readers, the state is the reference and this commit leaves it there
      exact fun h' => ⟨rfl, hseq.trans (hi.free (hi.lok.two h.hold ht h'))⟩
  | cons i todo =>
    obtain ⟨hlk, hst, hth⟩ := Sys.step_inner (by simpa using h.hrest) (wf.noConf i (by rw [h.hb]; simp)) hs
    -- with no writer `t` is a reader, and its step reads only
    have hsame : (σ.lk .conf).writer = none → σ'.st = σ.st := by
      intro hw
      cases m with
      | W => rw [show (σ.lk .conf).writer = some t from h.hold] at hw; cases hw
      | R => exact hst.trans (execI_ro i (wf.ro h.hm i (by rw [h.hb]; simp)) _)
    have lok' : (σ'.lk .conf).OK := by rw [hlk]; exact hi.lok
    refine ⟨hist, { nodup := hi.nodup, ph := ?_, free := ?_, lok := lok' }⟩
    · intro t'
      by_cases ht : t' = t
      · subst ht
        refine Inside.phase (m := m) (done := done ++ [i]) (todo := todo)
          ⟨h.hp, h.hm, by rw [h.hb]; simp, by rw [hth, setTh_same], by rw [hlk]; exact h.hold, h.hh, ?_⟩ lok'
        rw [hst, hth, setTh_same, execBody_append, ← h.hst]; rfl
      · exact (hi.ph t').keep (by rw [hth, setTh_ne _ _ ht]) (by rw [hlk]) (by rw [hlk])
          (fun h' => hsame (hi.lok.two h.hold ht h'))
    · intro hw
      rw [hlk] at hw
      rw [hsame hw]; exact hi.free hw

theorem cinv_step {S : Setup L} (hwf : ∀ t p, S.progs t = some p → p.WF) {σ σ' : Sys L} {hist : List Nat}
    (hi : CInv S σ hist) (t : Nat) (hs : σ.step t = some σ') : ∃ hist', CInv S σ' hist' := by
  cases hi.ph t with
  | idle hp hth hw hrd hh => simp [Sys.step, hth] at hs
  | after p hp hrest hw hrd h1 h2 hh hloc => simp [Sys.step, hrest] at hs
  | before p hp hth hw hrd hh =>
    have hrest : (σ.th t).rest = .lock .conf p.mode (fun _ => true) ::
        (p.body ++ [.unlock .conf p.mode (fun _ => true)]) := by rw [hth]; rfl
    have hloc : (σ.th t).loc = S.loc0 t := by rw [hth]
    simp only [Sys.step, hrest, if_true] at hs
    by_cases hcan : (σ.lk .conf).can p.mode = true
    · simp only [hcan, if_true, Option.some.injEq] at hs
      subst hs
      have hfree := hi.free (LockSt.can_writer hcan)
      obtain ⟨lok', hold, hoth⟩ := hi.lok.acq hcan hrd
      refine ⟨hist, { nodup := hi.nodup, ph := ?_, free := fun _ => hfree, lok := lok' }⟩
      intro t'
      by_cases ht : t' = t
      · subst ht
        refine Inside.phase (m := p.mode) (done := []) (todo := p.body)
          ⟨hp, rfl, rfl, by simp [setTh_same], hold, hh, ?_⟩ lok'
        simp only [setTh_same, execBody_nil, hloc, hfree]
      · exact (hi.ph t').keep (setTh_ne _ _ ht) (hoth t' ht).1 (hoth t' ht).2 (fun _ => rfl)
    · simp [hcan] at hs
  | insideW p hp hm done todo hb hrest hw hh hst =>
    exact hi.inside_step (hwf t p hp) ⟨hp, hm, hb, hrest, hw, hh, hst⟩ hs
  | insideR p hp hm done todo hb hrest hw hrd hh hloc =>
    have wf := hwf t p hp
    -- no writer beside a reader: the state is the reference, which the read-only `done` has not moved
    have hst : (σ.st, (σ.th t).loc) = execBody done (S.seq hist, S.loc0 t) :=
      Prod.ext ((hi.free (hi.lok.free_of_reader hrd)).trans
        (execBody_ro done (fun j hj => wf.ro hm j (by rw [hb]; simp [hj])) (S.seq hist, S.loc0 t)).symm) hloc
    exact hi.inside_step wf ⟨hp, hm, hb, hrest, hrd, hh, hst⟩ hs

theorem cinv_init (S : Setup L) : CInv S S.initSys [] := by
  refine { nodup := List.nodup_nil, ph := ?_, free := fun _ => rfl, lok := ⟨?_, List.nodup_nil⟩ }
  · intro t
    cases hp : S.progs t with
    | none => exact .idle hp (by simp [Setup.initSys, Setup.code, hp]) (by simp [Setup.initSys]) (by simp [Setup.initSys]) (by simp)
    | some p =>
      exact .before p hp (by simp [Setup.initSys, Setup.code, hp]) (by simp [Setup.initSys]) (by simp [Setup.initSys]) (by simp)
  · intro w h; simp [Setup.initSys] at h

theorem cinv_reach {S : Setup L} (hwf : ∀ t p, S.progs t = some p → p.WF) {σ : Sys L}
    (hr : Reach S.initSys σ) : ∃ hist, CInv S σ hist := by
  induction hr with
  | refl => exact ⟨[], cinv_init S⟩
  | step t _ hs ih =>
    obtain ⟨hist, hi⟩ := ih
    exact cinv_step hwf hi t hs

theorem reach_serializable {S : Setup L} (hwf : ∀ t p, S.progs t = some p → p.WF) {σ : Sys L}
    (hr : Reach S.initSys σ) :
    ∃ hist : List Nat, hist.Nodup ∧ (∀ t ∈ hist, ∃ p, S.progs t = some p) ∧
      (∀ t p, S.progs t = some p → (σ.th t).rest = [] →
        ∃ h1 h2, hist = h1 ++ t :: h2 ∧ (σ.th t).loc = (S.effect t (S.seq h1)).2) ∧
      ((σ.lk .conf).writer = none → σ.st = S.seq hist) := by
  obtain ⟨hist, hi⟩ := cinv_reach hwf hr
  refine ⟨hist, hi.nodup, fun t ht => ?_, fun t p hp hrest => ?_, hi.free⟩
  · cases hi.ph t with
    | idle hp hth hw hrd hh => exact absurd ht hh
    | before p hp hth hw hrd hh => exact absurd ht hh
    | insideW p hp hm done todo hb hr' hw hh => exact absurd ht hh
    | insideR p hp hm done todo hb hr' hw hrd hh => exact absurd ht hh
    | after p hp => exact ⟨p, hp⟩
  · cases hi.ph t with
    | idle hp' => rw [hp] at hp'; cases hp'
    | before p' hp' hth => rw [hth] at hrest; simp [CProg.code] at hrest
    | insideW p' hp' hm done todo hb hr' => rw [hr'] at hrest; simp at hrest
    | insideR p' hp' hm done todo hb hr' => rw [hr'] at hrest; simp at hrest
    | after p' hp' hr' hw hrd h1 h2 hh hloc => exact ⟨h1, h2, hh, hloc⟩

end AGH.C09
