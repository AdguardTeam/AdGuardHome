/-
C10 — the clauses of the specification read on the observation `obsOf c s` of a model state: the nine of `specCore`
(`specCore_step`), `reservationsKept` and `hostIndexSound` from `Inv`, `diskMirror` from `Mirror` (`obs_diskMirror`).
`answersAgree`, `hostIndexComplete` and the restart clauses are proved on the state only (`answers_at_lease`,
`HostComplete`, `restart_restores`, `answers_eq_of_perm`).
-/
import AGH.Lemmas.DHCPStep
namespace AGH.C10
open AGH

variable {O : Oracle} {c : Conf} {s : State} {op : Op}

theorem pairwiseB_of_nodup {α β : Type} [BEq β] [LawfulBEq β] (g : α → β) :
    ∀ L : List α, (L.map g).Nodup → pairwiseB (fun a b => g a != g b) L = true := by
  intro L
  induction L with
  | nil => intro _; rfl
  | cons x xs ih =>
    intro h
    rw [List.map_cons, List.nodup_cons] at h
    unfold pairwiseB
    rw [Bool.and_eq_true]
    refine ⟨?_, ih h.2⟩
    rw [List.all_eq_true]
    intro y hy
    simp only [bne_iff_ne, ne_eq]
    intro e
    exact h.1 (List.mem_map.2 ⟨y, hy, e.symm⟩)

theorem nodup_filter_map {α β : Type} (g : α → β) (p : α → Bool) (L : List α) (h : (L.map g).Nodup) :
    ((L.filter p).map g).Nodup :=
  List.Nodup.sublist ((List.filter_sublist (l := L) (p := p)).map g) h

theorem all_view {L : List Lease} {p : LeaseV → Bool} :
    (L.map Lease.view).all p = true ↔ ∀ l ∈ L, p l.view = true := by
  rw [List.all_map, List.all_eq_true]
  rfl

theorem any_view {L : List Lease} {p : LeaseV → Bool} :
    (L.map Lease.view).any p = true ↔ ∃ l ∈ L, p l.view = true := by
  rw [List.any_map, List.any_eq_true]
  rfl

theorem obs_noSharedIP (h : Inv c s) : noSharedIP (obsOf c s) = true := by
  unfold noSharedIP
  apply pairwiseB_of_nodup (fun (a : LeaseV) => a.ip)
  apply nodup_filter_map
  show ((s.leases.map Lease.view).map (·.ip)).Nodup
  rw [List.map_map]; exact h.ipNodup

theorem obs_oneLeasePerClient (h : Inv c s) : oneLeasePerClient (obsOf c s) = true := by
  unfold oneLeasePerClient
  apply pairwiseB_of_nodup (fun (a : LeaseV) => a.mac)
  apply nodup_filter_map
  show ((s.leases.map Lease.view).map (·.mac)).Nodup
  rw [List.map_map]; exact h.macNodup

theorem obs_dynInPool (hc : validate c = true) (h : Inv c s) : dynInPool c (obsOf c s) = true := by
  unfold dynInPool
  refine all_view.2 fun l hl => ?_
  cases hs : l.static
  · obtain ⟨h1, h2⟩ := h.dynPool l hl hs
    have hg : l.ip ≠ c.gw := by
      intro e; exact (validate_spec hc).2.1 ⟨e ▸ h1, e ▸ h2⟩
    simp [Lease.view, hs, inPool, h1, h2, hg]
  · simp [Lease.view, hs]

theorem obs_dynNotReserved (h : Inv c s) : dynNotReserved (obsOf c s) = true := by
  unfold dynNotReserved
  refine all_view.2 fun l hl => ?_
  cases hs : l.static
  · simp only [Lease.view, hs, Bool.false_or]
    refine all_view.2 fun r hr => ?_
    cases hrs : r.static
    · simp [Lease.view, hrs]
    · simp only [Lease.view, hrs, Bool.not_true, Bool.false_or, bne_iff_ne, ne_eq]
      intro e
      have : r = l := nodup_map_inj h.ipNodup hr hl e
      rw [this, hs] at hrs; cases hrs
  · simp [Lease.view, hs]

theorem obs_bitsAgree (h : Inv c s) : bitsAgree c (obsOf c s) = true := by
  unfold bitsAgree
  simp only [obsOf, List.length_map, List.length_range, beq_self_eq_true, Bool.true_and, Bool.and_true]
  rw [List.all_eq_true]
  intro k hk
  rw [List.mem_range] at hk
  have hget : ((List.range (c.stop + 1 - c.start)).map s.bits).getD k false = s.bits k := by
    simp [List.getD, hk]
  rw [hget, beq_iff_eq, Bool.eq_iff_iff, h.bitsIff k, any_view]
  -- at an offset inside the pool the bound on the address holds by itself
  refine exists_congr fun l => and_congr_right fun _ => ?_
  simp only [Lease.view, beq_iff_eq]
  exact ⟨fun h => h.1, fun h => ⟨h, by omega⟩⟩

theorem mem_dedup {α : Type} [DecidableEq α] {x : α} {L : List α} : x ∈ L → x ∈ dedup L := by
  fun_induction dedup L with
  | case1 => exact id
  | case2 y ys hy ih =>
    intro h
    rcases List.mem_cons.1 h with rfl | h'
    · exact ih hy
    · exact ih h'
  | case3 y ys _ ih =>
    intro h
    rcases List.mem_cons.1 h with rfl | h'
    · exact List.mem_cons_self
    · exact List.mem_cons_of_mem _ (ih h')

/-- `Q` is what the index promises of key and lease: the lease has that address, that name. -/
theorem entriesOf_sound {κ : Type} (h : Inv c s) {keys : List κ} {f : κ → Option Nat}
    {Q : κ → Lease → Prop} (hf : ∀ k id, f k = some id → ∃ l ∈ s.leases, l.id = id ∧ Q k l)
    {e : Entry κ} (he : e ∈ entriesOf s keys f) :
    ∃ i l, e.pos = some i ∧ (s.leases.map Lease.view)[i]? = some l.view ∧ e.tgt = l.view ∧ Q e.key l := by
  obtain ⟨k, _, hk⟩ := List.mem_filterMap.1 he
  cases hfk : f k with
  | none => rw [hfk] at hk; cases hk
  | some id =>
    obtain ⟨l0, hl0, hid, hq⟩ := hf k id hfk
    have hd : s.deref id = some l0 := by rw [← hid]; exact deref_mem h hl0
    rw [hfk] at hk
    simp only [hd, Option.some.injEq] at hk
    subst hk
    have hlt : List.findIdx (fun l => l.id == id) s.leases < s.leases.length :=
      List.findIdx_lt_length_of_exists ⟨l0, hl0, by simp [hid]⟩
    have hp := List.findIdx_getElem (p := fun l : Lease => l.id == id) (xs := s.leases) (w := hlt)
    have heq : s.leases[List.findIdx (fun l => l.id == id) s.leases] = l0 :=
      nodup_map_inj h.idNodup (List.getElem_mem hlt) hl0 (by rw [hid]; simpa using hp)
    refine ⟨List.findIdx (fun l => l.id == id) s.leases, l0, ?_, ?_, rfl, hq⟩
    · show posOfId s.leases id = some _
      unfold posOfId
      exact if_pos hlt
    · rw [List.getElem?_map, List.getElem?_eq_getElem hlt, heq]
      rfl

theorem obs_ipIndexAgree (h : Inv c s) : ipIndexAgree (obsOf c s) = true := by
  unfold ipIndexAgree
  rw [Bool.and_eq_true]
  constructor
  · rw [List.all_eq_true]
    intro e he
    obtain ⟨i, l, hpos, hget, htgt, hq⟩ := entriesOf_sound h (Q := fun k l => l.ip = k)
      (fun k id hk => by
        obtain ⟨l, hl, hip, hid⟩ := (h.ipsIff k id).1 hk
        exact ⟨l, hl, hid, hip⟩) he
    rw [hpos, htgt]
    show ((s.leases.map Lease.view)[i]?.any (fun l => l.ip == e.key) && l.view.ip == e.key) = true
    rw [hget, ← hq]
    simp [Lease.view]
  · refine all_view.2 fun l hl => ?_
    rw [List.any_eq_true]
    refine ⟨{ key := l.ip, pos := posOfId s.leases l.id, tgt := l.view }, ?_, by simp [Lease.view]⟩
    simp only [obsOf, entriesOf]
    refine List.mem_filterMap.2 ⟨l.ip, mem_dedup (List.mem_append.2 (.inr (List.mem_map.2 ⟨l, hl, rfl⟩))), ?_⟩
    have : s.ips l.ip = some l.id := (h.ipsIff l.ip l.id).2 ⟨l, hl, rfl, rfl⟩
    rw [this]
    simp only []
    rw [deref_mem h hl]

theorem obs_hostIndexSound (h : Inv c s) : hostIndexSound (obsOf c s) = true := by
  unfold hostIndexSound
  rw [List.all_eq_true]
  intro e he
  obtain ⟨i, l, hpos, hget, _, hq⟩ := entriesOf_sound h (Q := fun k l => l.host = k) h.hostsSound he
  rw [hpos]
  show (s.leases.map Lease.view)[i]?.any (fun l => l.host == e.key) = true
  rw [hget, ← hq]
  simp [Lease.view]

theorem mem_poolAddrs {a : Nat} : a ∈ poolAddrs c ↔ c.start ≤ a ∧ a < c.start + (c.stop + 1 - c.start) := by
  unfold poolAddrs
  rw [List.mem_map]
  constructor
  · rintro ⟨k, hk, rfl⟩
    exact ⟨Nat.le_add_right _ _, Nat.add_lt_add_left (List.mem_range.1 hk) _⟩
  · rintro ⟨h1, h2⟩
    exact ⟨a - c.start, List.mem_range.2 (Nat.sub_lt_left_of_lt_add h1 h2), Nat.add_sub_cancel' h1⟩

theorem reply_clause {r : Reply} {b : Bool} (h : r.rc = 1 → r.yi ≠ 0 → b = true) :
    (r.rc != 1 || r.yi == 0 || b) = true := by
  by_cases hrc : r.rc = 1
  · by_cases hyi : r.yi = 0
    · simp [hyi]
    · simp [h hrc hyi]
  · simp [hrc]

theorem obs_replyRecorded :
    replyRecorded (obsOf c (step O c s op).1) op (step O c s op).2 = true := by
  unfold replyRecorded
  cases hm : op.mac? with
  | none => rfl
  | some m =>
    refine reply_clause (fun hrc hyi => ?_)
    obtain ⟨l, hl, h1, h2⟩ := step_recorded hm hrc hyi
    exact any_view.2 ⟨l, hl, by simp [Lease.view, h1, h2]⟩

theorem obs_reservedOK (h : Inv c s) :
    reservedOK (obsOf c (step O c s op).1) op (step O c s op).2 = true := by
  unfold reservedOK
  cases hm : op.mac? with
  | none => rfl
  | some m =>
    refine reply_clause (fun hrc hyi => all_view.2 fun l' hl' => ?_)
    by_cases hmm : l'.mac = m
    · simp [Lease.view, step_reply_ip h hm hrc hyi hl' hmm]
    · simp [Lease.view, hmm]

theorem obs_offerLive (hpos : 0 < c.start) (h : Inv c s) :
    offerLive c (obsOf c s) op (step O c s op).2 = true := by
  unfold offerLive
  cases op with
  | discover m =>
    simp only []
    cases hcond : (validMAC m && (obsOf c s).leases.all (fun l => l.mac != m) && someFree c (obsOf c s))
    · rfl
    · simp only [Bool.and_eq_true] at hcond
      obtain ⟨⟨hv, hall⟩, hfree⟩ := hcond
      have hnew : ∀ l ∈ s.leases, l.mac ≠ m := by
        intro l hl
        simpa [Lease.view] using all_view.1 hall l hl
      have hfree' : ∃ a, c.start ≤ a ∧ a ≤ c.stop ∧ ∀ l ∈ s.leases, l.ip = a → l.static = false ∧ l.exp < s.now := by
        unfold someFree at hfree
        rw [List.any_eq_true] at hfree
        obtain ⟨a, ha, hal⟩ := hfree
        obtain ⟨h1, h2⟩ := mem_poolAddrs.1 ha
        refine ⟨a, h1, by omega, ?_⟩
        intro l hl hla
        have := all_view.1 hal l hl
        simp only [Lease.view, hla, bne_self_eq_false, Bool.false_or, Bool.not_eq_true', held, obsOf,
          Bool.or_eq_false_iff, decide_eq_false_iff_not, Nat.not_le] at this
        exact this
      obtain ⟨r1, r2, r3, _⟩ := step_discover_offer (O := O) h hv hnew hfree'
      have : (step O c s (.discover m)).2.yi ≠ 0 := by omega
      rw [r1, r2]
      simp [this]
  | _ => rfl

theorem specCore_step (hc : validate c = true) (hpos : 0 < c.start)
    (h : Inv c s) :
    specCore c (obsOf c s) op (step O c s op).2 (obsOf c (step O c s op).1) = true := by
  have hi' := Inv_step (O := O) (op := op) h
  unfold specCore specCoreWhy
  rw [obs_noSharedIP hi', obs_oneLeasePerClient hi', obs_dynInPool hc hi', obs_dynNotReserved hi', obs_reservedOK h,
    obs_replyRecorded, obs_offerLive hpos h, obs_bitsAgree hi', obs_ipIndexAgree hi']
  rfl

theorem obs_reservationsOf (c : Conf) (s : State) :
    reservationsOf (obsOf c s) = ((statics s).map Lease.view).map LeaseV.norm := by
  unfold reservationsOf statics
  show ((s.leases.map Lease.view).filter (·.static)).map LeaseV.norm = _
  rw [List.filter_map]
  rfl

theorem reservationsKept_eq (o : Obs) (op : Op) (o' : Obs) :
    reservationsKept o op o' = (!op.isDHCP || reservationsOf o == reservationsOf o') := by
  cases op <;> rfl

theorem obs_reservationsKept (h : Inv c s) :
    reservationsKept (obsOf c s) op (obsOf c (step O c s op).1) = true := by
  rw [reservationsKept_eq]
  cases hd : op.isDHCP
  · rfl
  · rw [obs_reservationsOf, obs_reservationsOf, step_statics h hd, beq_self_eq_true]
    rfl

theorem sameBag_of_perm {a b : List LeaseV} (h : a.Perm b) : sameBag a b = true := by
  unfold sameBag
  rw [Bool.and_eq_true]
  refine ⟨by simpa using h.length_eq, ?_⟩
  rw [List.all_eq_true]
  intro x _
  unfold countOf
  simpa using (h.filter (· == x)).length_eq

theorem norm_toDisk (l : Lease) : LeaseV.norm l.toDisk = LeaseV.norm l.view := by
  unfold LeaseV.norm Lease.toDisk Lease.view
  cases l.static <;> simp

theorem obs_diskMirror (h : Mirror s) : diskMirror (obsOf c s) = true := by
  unfold diskMirror
  rcases h with ⟨d, hd, hp⟩ | ⟨hd, hl⟩
  · rw [show (obsOf c s).disk = some d from hd]
    apply sameBag_of_perm
    have h2 : (s.leases.map Lease.toDisk).map LeaseV.norm = (s.leases.map Lease.view).map LeaseV.norm := by
      rw [List.map_map, List.map_map]
      apply List.map_congr_left
      intro l _
      exact norm_toDisk l
    exact h2 ▸ hp.map LeaseV.norm
  · rw [show (obsOf c s).disk = none from hd, show (obsOf c s).leases = [].map Lease.view from congrArg _ hl]
    rfl

theorem obs_disk_step (h : Inv c s) (hne : op ≠ .restart)
    (hnr : ∀ d, op ≠ .reorder d) :
    (diskMirror (obsOf c s) && !diskMirror (obsOf c (step O c s op).1)) = false := by
  rcases step_store_or_same (O := O) h hne hnr with hs | ⟨h1, h2⟩
  · rw [obs_diskMirror hs.mirror]; simp
  · have : diskMirror (obsOf c (step O c s op).1) = diskMirror (obsOf c s) := by
      unfold diskMirror obsOf
      simp only [h1, h2]
    rw [this]; cases diskMirror (obsOf c s) <;> rfl

end AGH.C10
