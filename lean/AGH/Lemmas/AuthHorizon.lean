/-
C12: a token whose stored copies carry an expiry `≤ B` is never authenticated while the uint32
clock reads `≥ B` (`stale_run`); behind the theorems on the uint32 time horizon and on the two
steps of logout.
-/
import AGH.Lemmas.AuthRun
namespace AGH.C12

def StaleAt (tbl : FMap Sess) (tok B : Nat) : Prop := ∀ s, tbl tok = some s → s.expire ≤ B

/-- `file`: the copy in sessions.db is stale as well; without that a restart could bring a
younger copy back. -/
def Stale (file : Bool) (st : St) (tok B : Nat) : Prop :=
  tok < st.nextTok ∧ StaleAt st.mem tok B ∧ (file = true → StaleAt st.db tok B)

theorem staleAt_erase_self (tbl : FMap Sess) (tok B : Nat) : StaleAt (tbl.erase tok) tok B :=
  fun _ hs => nomatch (FMap.erase_self _ _).symm.trans hs

theorem staleAt_set_self (tbl : FMap Sess) (tok : Nat) (s : Sess) : StaleAt (tbl.set tok s) tok s.expire :=
  fun _ hs => Nat.le_of_eq (congrArg Sess.expire (Option.some.inj ((FMap.set_self _ _ _).symm.trans hs))).symm

theorem StaleAt.erase {tbl : FMap Sess} {tok B : Nat} (h : StaleAt tbl tok B) (t : Nat) :
    StaleAt (tbl.erase t) tok B := fun s hs => by
  by_cases e : tok = t
  · rw [e, FMap.erase_self] at hs
    cases hs
  · exact h s ((FMap.erase_ne _ e).symm.trans hs)

theorem StaleAt.set_ne {tbl : FMap Sess} {tok B t : Nat} (h : StaleAt tbl tok B) (hne : tok ≠ t) (s' : Sess) :
    StaleAt (tbl.set t s') tok B :=
  fun s hs => h s ((FMap.set_ne _ _ hne).symm.trans hs)

theorem Stale.tables {file : Bool} {st st' : St} {tok B : Nat} (h : Stale file st tok B)
    (f : FMap Sess → FMap Sess) (hf : ∀ tbl, StaleAt tbl tok B → StaleAt (f tbl) tok B)
    (hn : st.nextTok ≤ st'.nextTok) (hm : st'.mem = f st.mem) (hd : st'.db = f st.db) : Stale file st' tok B :=
  ⟨Nat.lt_of_lt_of_le h.1 hn, hm ▸ hf _ h.2.1, fun e => hd ▸ hf _ (h.2.2 e)⟩

/-- at every operation of the history the uint32 clock reads at least `B`; what it reads in
between, while the clock only advances, is not asked -/
def timesGE (B : Nat) : Nat → List Ev → Prop
  | _, [] => True
  | now, .advance d :: evs => timesGE B (now + d) evs
  | now, .op _ :: evs => B ≤ now32 now ∧ timesGE B now evs

def noRestartEv : List Ev → Bool
  | [] => true
  | .op .restart :: _ => false
  | _ :: evs => noRestartEv evs

theorem stale_refused {file : Bool} {st : St} {tok B now : Nat} (h : Stale file st tok B) (hB : B ≤ now32 now) :
    (checkSession st now tok).1 ≠ .ok := fun hok => by
  obtain ⟨s, hs, he⟩ := (checkSession_ok_iff st now tok).mp hok
  exact he (Nat.le_trans (h.2.1 s hs) hB)

theorem stale_step {file : Bool} {st : St} {tok B now : Nat} (h : Stale file st tok B) (hB : B ≤ now32 now)
    (o : Op) (ho : file = false → o ≠ .restart) :
    Stale file (step st now o).2 tok B ∧ (o = .request tok → (step st now o).1 = .auth false) := by
  refine ⟨?_, fun e => e ▸ congrArg Obs.auth (beq_eq_false_iff_ne.mpr (stale_refused h hB))⟩
  have hd := step_does st now o
  generalize step st now o = r at hd ⊢
  cases hd with
  | blocked _ _ => exact h
  | failed _ _ => exact h
  | loggedIn req user _ =>
    exact h.tables (·.set st.nextTok _) (fun _ ht => ht.set_ne (Nat.ne_of_lt h.1) _) (Nat.le_succ _) rfl rfl
  | passed _ _ => exact h
  | request t =>
    have hc := checkSession_checks st now t
    generalize checkSession st now t = r at hc ⊢
    cases hc with
    | absent _ => exact h
    | expired _ _ _ => exact h.tables (·.erase t) (fun _ ht => ht.erase t) (Nat.le_refl _) rfl rfl
    | kept _ _ _ => exact h
    | refreshed s hs he =>
      -- the session re-dated is a live one, so not that of `tok`
      have hne : tok ≠ t := fun e => he (Nat.le_trans (h.2.1 s (e ▸ hs)) hB)
      exact h.tables (·.set t _) (fun _ ht => ht.set_ne hne _) (Nat.le_refl _) rfl rfl
  | logout t => exact h.tables (·.erase t) (fun _ ht => ht.erase t) (Nat.le_refl _) rfl rfl
  | restart =>
    -- both tables are reloaded from the file, minus what has expired
    cases file with
    | false => exact absurd rfl (ho rfl)
    | true =>
      have : StaleAt (restart st now).mem tok B := fun s hs =>
        h.2.2 rfl s (Option.filter_eq_some_iff.mp hs).1
      exact ⟨h.1, this, fun _ => this⟩

theorem stale_run {file : Bool} (tok B : Nat) (evs : List Ev) (st : St) (now : Nat)
    (h : Stale file st tok B) (ht : timesGE B now evs) (hn : file = false → noRestartEv evs = true) :
    Stale file (runM st now evs).1 tok B ∧
    ∀ e ∈ traceM st now evs, e.2.1 = .request tok → e.2.2 = .auth false := by
  fun_induction traceM st now evs with
  | case1 => exact ⟨h, fun e he => nomatch he⟩
  | case2 st now d evs ih => exact ih h ht hn
  | case3 st now o evs ih =>
    have ho : file = false → o ≠ .restart := fun hf e => by subst e; cases hn hf
    have hn' : file = false → noRestartEv evs = true := fun hf => by
      have := hn hf
      cases o <;> first | exact this | cases this
    obtain ⟨h1, h2⟩ := stale_step h ht.1 o ho
    obtain ⟨r1, r2⟩ := ih h1 ht.2 hn'
    refine ⟨r1, fun e he hr => ?_⟩
    rcases List.mem_cons.mp he with rfl | he
    · exact h2 hr
    · exact r2 e he hr

theorem timesGE_mono {B B' : Nat} (h : B' ≤ B) : ∀ (evs : List Ev) (now : Nat), timesGE B now evs → timesGE B' now evs
  | [], _, _ => trivial
  | .advance d :: evs, now, ht => timesGE_mono h evs (now + d) ht
  | .op _ :: evs, now, ht => ⟨Nat.le_trans h ht.1, timesGE_mono h evs now ht.2⟩

theorem timesGE_zero : ∀ (evs : List Ev) (now : Nat), timesGE 0 now evs
  | [], _ => trivial
  | .advance d :: evs, now => timesGE_zero evs (now + d)
  | .op _ :: evs, now => ⟨Nat.zero_le _, timesGE_zero evs now⟩

theorem logout_two_steps (st : St) (tok : Nat) : logout st tok = logoutFile (logoutMem st tok) tok := rfl

/-- `C12_logout_final` on the model alone: neither the monitor nor the time horizon enters. -/
theorem logout_final (st : St) (now tok : Nat) (hissued : tok < st.nextTok) (evs : List Ev) (t : Nat) :
    (checkSession (runM (logout st tok) now evs).1 t tok).1 ≠ .ok := by
  -- after the logout no copy of the token's session is left, and none can come back
  have h0 : Stale true (logout st tok) tok 0 :=
    ⟨hissued, staleAt_erase_self _ _ _, fun _ => staleAt_erase_self _ _ _⟩
  have hfin := (stale_run tok 0 evs _ now h0 (timesGE_zero evs now) (fun e => nomatch e)).1
  exact stale_refused hfin (Nat.zero_le _)

end AGH.C12
