/-
C04 lemmas: under the invariant, what a map lookup followed by
`uidToClient[...]` finds (`Inv.deref`), and what `clashes` decides: its loops are
one loop over five kinds of identifier, which finds a clash exactly when an
identifier is mapped to another UID.  Core Lean only.
-/
import AGH.Lemmas.ClientsInv
namespace AGH.C04
open AGH AGH.Bytes
open AGH.C03 (IP Prefix)

/-- `uidToClient[existing]` is never nil. -/
def NoDangling {κ : Type} (ci : Index) (look : κ → Option UID) : Prop :=
  ∀ k u, look k = some u → (ci.client u).isSome = true

theorem MapInv.noDangling {κ : Type} {ci : Index} {m : FMap κ} {ids : Client → List κ}
    (h : MapInv m ci.clients ids) (hu : UidsDistinct ci.clients) : NoDangling ci m := by
  intro k u hk
  obtain ⟨c, hc, hcu, _⟩ := (h k u).mp hk
  rw [(Index.client_eq_some hu).mpr ⟨hc, hcu⟩]
  rfl

theorem Inv.deref_uid {ci : Index} (h : Inv ci) {c : Client} (hc : c ∈ ci.clients) :
    ci.deref (some c.uid) = .found c := by
  show (match ci.client c.uid with | some c => Look.found c | none => Look.dangling) = _
  rw [(Index.client_eq_some h.uids).mpr ⟨hc, rfl⟩]

theorem Inv.deref {κ : Type} {ci : Index} (h : Inv ci) {m : FMap κ} {ids : Client → List κ}
    (hm : MapInv m ci.clients ids) (k : κ) :
    (∀ c, ci.deref (m k) = .found c ↔ (c ∈ ci.clients ∧ k ∈ ids c)) ∧
    (ci.deref (m k) = .none ↔ ∀ c ∈ ci.clients, k ∉ ids c) ∧ ci.deref (m k) ≠ .dangling := by
  have huid : ∀ {c}, c ∈ ci.clients → k ∈ ids c → m k = some c.uid := fun hc hkc =>
    (hm k _).mpr ⟨_, hc, rfl, hkc⟩
  cases hk : m k with
  | none =>
    exact ⟨fun c => ⟨nofun, fun ⟨hc, hkc⟩ => nomatch hk.symm.trans (huid hc hkc)⟩,
      ⟨fun _ c hc hkc => (nomatch hk.symm.trans (huid hc hkc)), fun _ => rfl⟩, nofun⟩
  | some u =>
    obtain ⟨d, hd, rfl, hkd⟩ := (hm k u).mp hk
    rw [h.deref_uid hd]
    refine ⟨fun c => ?_, ⟨nofun, fun hall => absurd hkd (hall d hd)⟩, nofun⟩
    rw [Look.found.injEq]
    constructor
    · rintro rfl
      exact ⟨hd, hkd⟩
    · rintro ⟨hc, hkc⟩
      exact h.uids.eq_of_uid hd hc (Option.some.inj (hk.symm.trans (huid hc hkc)))

theorem Inv.deref_found_iff {κ : Type} {ci : Index} (h : Inv ci) {m : FMap κ} {ids : Client → List κ}
    (hm : MapInv m ci.clients ids) (k : κ) (c : Client) :
    ci.deref (m k) = .found c ↔ (c ∈ ci.clients ∧ k ∈ ids c) :=
  (h.deref hm k).1 c

theorem Inv.deref_none_iff {κ : Type} {ci : Index} (h : Inv ci) {m : FMap κ} {ids : Client → List κ}
    (hm : MapInv m ci.clients ids) (k : κ) : ci.deref (m k) = .none ↔ ∀ c ∈ ci.clients, k ∉ ids c :=
  (h.deref hm k).2.1

theorem Inv.deref_ne_dangling {κ : Type} {ci : Index} (h : Inv ci) {m : FMap κ} {ids : Client → List κ}
    (hm : MapInv m ci.clients ids) (k : κ) : ci.deref (m k) ≠ .dangling :=
  (h.deref hm k).2.2

theorem Inv.findByName_found_iff {ci : Index} (h : Inv ci) (n : Bytes) (c : Client) :
    ci.findByName n = .found c ↔ (c ∈ ci.clients ∧ c.name = n) :=
  (h.deref_found_iff h.names n c).trans (and_congr_right fun _ => List.mem_singleton.trans eq_comm)

theorem Inv.findByMAC_found_iff {ci : Index} (h : Inv ci) {m : MAC} (hok : macOK m = true) (c : Client) :
    ci.findByMAC m = some (.found c) ↔ (c ∈ ci.clients ∧ m ∈ c.macs) := by
  rw [Index.findByMAC, if_pos hok, Option.some.injEq]
  exact h.deref_found_iff h.macs m c

theorem Inv.findByIP_of_mem {ci : Index} (h : Inv ci) {a : IP} {c : Client} (ha : a ∈ c.ips)
    (hc : c ∈ ci.clients) : ci.findByIP a = .found c := by
  rw [Index.findByIP, (h.ips a c.uid).mpr ⟨c, hc, rfl, ha⟩]
  exact h.deref_uid hc

/-- The cases are the exits of `clashIn`: no identifier left, one mapped to another UID, one mapped to
`uid`, one not mapped. -/
theorem clashIn_false_iff {κ : Type} {ci : Index} {look : κ → Option UID} (uid : UID)
    (hd : NoDangling ci look) (ks : List κ) :
    clashIn ci look uid ks = false ↔ FreeFor look uid ks := by
  fun_induction clashIn ci look uid ks with
  | case1 => exact ⟨fun _ => FreeFor.nil, fun _ => rfl⟩
  | case2 k rest e hk hne =>
    rw [hd k e hk]
    exact ⟨nofun, fun h => absurd (h k List.mem_cons_self e hk) (bne_iff_ne.mp hne)⟩
  | case3 k rest e hk he ih =>
    rw [ih, FreeFor.cons_iff]
    have he : e = uid := Decidable.not_not.mp (mt bne_iff_ne.mpr he)
    exact (and_iff_right fun u hu => Option.some.inj (hk ▸ hu) ▸ he).symm
  | case4 k rest hk ih =>
    rw [ih, FreeFor.cons_iff]
    exact (and_iff_right fun u hu => nomatch hk.symm.trans hu).symm

/-- The cases are the exits of `clashCIDs`: no ClientID left, one of another client, one mapped to a UID
without client (`hd` excludes it), one mapped to `uid`, one not mapped. -/
theorem clashCIDs_eq {ci : Index} (uid : UID) (hd : NoDangling ci ci.clientIDToUID) (ks : List Bytes) :
    clashCIDs ci uid ks = if clashIn ci ci.clientIDToUID uid ks then .err .cidClash else .ok := by
  fun_induction clashCIDs ci uid ks with
  | case1 => rfl
  | case2 k rest e hk hne => simp only [clashIn, hk, hne, hd k e hk, if_true]
  | case3 k rest e hk _ hc => cases hc ▸ hd k e hk
  | case4 k rest e hk he ih => simp only [clashIn, hk, he]; exact ih
  | case5 k rest hk ih => simp only [clashIn, hk]; exact ih

theorem clashMACs_spec {ci : Index} (uid : UID) (hd : NoDangling ci ci.macToUID) (ks : List MAC) :
    (clashMACs ci uid ks = .ok ↔ ks.all macOK = true ∧ clashIn ci ci.macToUID uid ks = false) ∧
    (clashMACs ci uid ks = .panic → ks.all macOK = false) := by
  induction ks with
  | nil => exact ⟨⟨fun _ => ⟨rfl, rfl⟩, fun _ => rfl⟩, nofun⟩
  | cons k rest ih =>
    rw [List.all_cons, clashIn.eq_2 ci ci.macToUID, clashMACs]
    cases hok : macOK k with
    | false => exact ⟨⟨nofun, fun h => nomatch h.1⟩, fun _ => rfl⟩
    | true =>
      cases hk : ci.macToUID k with
      | none => exact ih
      | some e =>
        dsimp only
        cases hb : e != uid with
        | false => exact ih
        | true =>
          rw [hd k e hk]
          exact ⟨⟨nofun, fun h => nomatch h.2⟩, nofun⟩

theorem subnetLook_eq {ci : Index} (h : SMInv ci.subnetToUID) (s : Prefix) :
    ci.subnetLook s = ci.subnetToUID.vals s := by
  unfold Index.subnetLook
  cases hv : ci.subnetToUID.vals s with
  | none =>
    refine if_neg fun hc => ?_
    have := (h.dom s).mp (List.contains_iff_mem.mp hc)
    rw [hv] at this
    cases this
  | some u => exact if_pos (List.contains_iff_mem.mpr ((h.dom s).mpr (by rw [hv]; rfl)))

theorem ite_err_ok {b : Bool} {e : Err} {r : Res} :
    (if b then .err e else r) = .ok ↔ b = false ∧ r = .ok := by
  cases b
  · exact ⟨fun h => ⟨rfl, h⟩, fun h => h.2⟩
  · exact ⟨nofun, nofun⟩

theorem ite_err_panic {b : Bool} {e : Err} {r : Res} (h : (if b then .err e else r) = .panic) :
    r = .panic := by
  cases b
  · exact h
  · cases h

theorem Inv.clashesRest_eq {ci : Index} (h : Inv ci) (c : Client) :
    ci.clashesRest c =
      if clashIn ci ci.clientIDToUID c.uid c.cids then .err .cidClash
      else if clashIn ci ci.ipToUID c.uid c.ips then .err .ipClash
      else if clashIn ci ci.subnetToUID.vals c.uid c.subnets then .err .subnetClash
      else clashMACs ci c.uid c.macs := by
  unfold Index.clashesRest
  rw [clashCIDs_eq c.uid (h.cids.noDangling h.uids), funext (subnetLook_eq h.sm)]
  cases clashIn ci ci.clientIDToUID c.uid c.cids <;> rfl

theorem Inv.clashes_eq {ci : Index} (h : Inv ci) (c : Client) :
    ci.clashes c =
      if clashIn ci ci.nameToUID c.uid [c.name] then .err .nameClash else ci.clashesRest c := by
  rw [clashIn.eq_2 ci ci.nameToUID]
  unfold Index.clashes Index.findByName Index.deref
  cases hn : ci.nameToUID c.name with
  | none => rfl
  | some u =>
    obtain ⟨e, he⟩ := Option.isSome_iff_exists.mp (h.names.noDangling h.uids _ u hn)
    cases Index.uid_of_client he
    simp only [he, Option.isSome_some]
    cases e.uid != c.uid <;> rfl

theorem Inv.clashes_ok_iff {ci : Index} (h : Inv ci) (c : Client) :
    ci.clashes c = .ok ↔ (NoClash ci c ∧ ∀ m ∈ c.macs, macOK m = true) := by
  rw [h.clashes_eq c, h.clashesRest_eq c, ite_err_ok, ite_err_ok, ite_err_ok, ite_err_ok,
    (clashMACs_spec c.uid (h.macs.noDangling h.uids) c.macs).1, List.all_eq_true,
    clashIn_false_iff c.uid (h.names.noDangling h.uids),
    clashIn_false_iff c.uid (h.cids.noDangling h.uids),
    clashIn_false_iff c.uid (h.ips.noDangling h.uids),
    clashIn_false_iff c.uid (h.subs.noDangling h.uids),
    clashIn_false_iff c.uid (h.macs.noDangling h.uids)]
  constructor
  · rintro ⟨hn, hc, hi, hs, hok, hm⟩
    exact ⟨⟨hn, hc, hi, hs, hm⟩, hok⟩
  · rintro ⟨⟨hn, hc, hi, hs, hm⟩, hok⟩
    exact ⟨hn, hc, hi, hs, hok, hm⟩

theorem Inv.noClash {ci : Index} (h : Inv ci) {c : Client} (hcl : ci.clashes c = .ok) : NoClash ci c :=
  ((h.clashes_ok_iff c).mp hcl).1

theorem Inv.clashes_panic {ci : Index} (h : Inv ci) {c : Client} (hp : ci.clashes c = .panic) :
    ∃ m ∈ c.macs, macOK m = false := by
  rw [h.clashes_eq c, h.clashesRest_eq c] at hp
  have := (clashMACs_spec c.uid (h.macs.noDangling h.uids) c.macs).2
    (ite_err_panic (ite_err_panic (ite_err_panic (ite_err_panic hp))))
  simpa only [List.all_eq_false, Bool.not_eq_true] using this

end AGH.C04
