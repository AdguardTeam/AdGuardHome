/-
C12: the model simulates the spec monitor — one step, then whole histories.
-/
import AGH.Lemmas.AuthSession
namespace AGH.C12

def Sim (st : St) (sp : Spec) (now : Nat) : Prop := SimThr st sp now ∧ SimSess st sp now

theorem sim_init (ma bm ttl now : Nat) : Sim (St.init ma bm ttl) (Spec.init ma bm ttl) now := by
  constructor
  · apply simThr_of_thrExact
    unfold ThrExact St.init Spec.init
    by_cases h : ma > 0 ∧ bm > 0
    · rw [if_pos h]
      exact ⟨decide_eq_true h, rfl, rfl, fun a => rfl⟩
    · rw [if_neg h]
      exact decide_eq_false h
  · exact ⟨rfl, Nat.mod_lt _ (by decide), rfl, fun _ => rfl, fun _ _ => rfl, fun _ _ => rfl,
      fun t i hi => nomatch hi⟩

theorem sim_advance {st : St} {sp : Spec} {now : Nat} (d : Nat) (h : Sim st sp now) : Sim st sp (now + d) :=
  ⟨simThr_advance d h.1, simSess_advance d h.2⟩

theorem login_evals (st : St) (now addr : Nat) (good : Bool) (user : Nat) :
    (login st now addr good user).2.evals =
      match (login st now addr good user).1 with
      | .tooMany _ => st.evals
      | _ => st.evals + 1 := by
  rw [show login st now addr good user = handleLogin st now ⟨addr, none, false⟩ good user from rfl,
    handleLogin_eq]
  split
  · rfl
  · cases good <;> rfl

theorem sim_step {st : St} {sp : Spec} {now : Nat} (h : Sim st sp now) (hw : noWrap sp now = true) (op : Op) :
    (specStep sp now op (step st now op).1).1 = true ∧
    Sim (step st now op).2 (specStep sp now op (step st now op).1).2 now := by
  suffices (specStep sp now op (step st now op).1).1 = true ∧
      SimSess (step st now op).2 (specStep sp now op (step st now op).1).2 now from
    ⟨this.1, simThr_step h.1 op, this.2⟩
  -- a login of either form is answered 429 exactly when the monitor demands it
  have hrej : ∀ addr, ¬ timeLeft st addr now > 0 → mustReject sp addr now = false :=
    fun addr hb => Bool.eq_false_iff.mpr fun e => hb ((timeLeft_pos h.1 addr).mpr e)
  have hd := step_does st now op
  generalize step st now op = r at hd ⊢
  cases hd with
  | blocked ho hb =>
    rcases ho with ⟨u, rfl⟩ | rfl <;> exact ⟨(timeLeft_pos h.1 _).mp hb, h.2.frame _ _ _⟩
  | failed ho hb =>
    rcases ho with ⟨u, rfl⟩ | rfl <;>
      exact ⟨by simp [specStep, attemptAddr, hrej _ hb], h.2.frame _ _ _⟩
  | loggedIn req user hb =>
    exact ⟨by simp [specStep, attemptAddr, hrej _ hb, h.2.issued], simSess_newToken h.2 hw user _ _⟩
  | passed req hb => exact ⟨by simp [specStep, attemptAddr, hrej _ hb], h.2.frame _ _ _⟩
  | request tok => exact simSess_request h.2 hw tok
  | logout tok => exact ⟨rfl, simSess_logout h.2 tok⟩
  | restart => exact ⟨rfl, simSess_restart h.2 hw⟩

theorem noWrapAll_congr (evs : List Ev) (now : Nat) (sp sp' : Spec) (ht : sp'.ttl = sp.ttl)
    (hn : noWrapAll sp now evs) : noWrapAll sp' now evs := by
  fun_induction noWrapAll sp now evs with
  | case1 => trivial
  | case2 now d evs ih => exact ih hn
  | case3 now o evs ih => exact ⟨by rw [noWrap, ht]; exact hn.1, ih hn.2⟩

/-- Model and monitor in lockstep over a history, the monitor fed what the model answered. -/
def runLock : St → Spec → Nat → List Ev → St × Spec × Nat
  | st, sp, now, [] => (st, sp, now)
  | st, sp, now, .advance d :: evs => runLock st sp (now + d) evs
  | st, sp, now, .op o :: evs =>
    runLock (step st now o).2 (specStep sp now o (step st now o).1).2 now evs

theorem sim_run (evs : List Ev) (st : St) (sp : Spec) (now : Nat) (h : Sim st sp now)
    (hw : noWrapAll sp now evs) :
    allOK st sp now evs ∧
    Sim (runLock st sp now evs).1 (runLock st sp now evs).2.1 (runLock st sp now evs).2.2 := by
  fun_induction runLock st sp now evs with
  | case1 => exact ⟨trivial, h⟩
  | case2 st sp now d evs ih => exact ih (sim_advance d h) hw
  | case3 st sp now o evs ih =>
    obtain ⟨hw1, hw2⟩ := hw
    obtain ⟨h1, h2⟩ := sim_step h hw1 o
    obtain ⟨r1, r2⟩ := ih h2 (noWrapAll_congr evs now sp _ (specStep_conf _ _ _ _).2.2.2 hw2)
    exact ⟨⟨by unfold specOK; rw [if_pos hw1]; exact h1, r1⟩, r2⟩

theorem runLock_conf (evs : List Ev) (st : St) (sp : Spec) (now : Nat) :
    (runLock st sp now evs).2.1.enabled = sp.enabled ∧ (runLock st sp now evs).2.1.max = sp.max ∧
    (runLock st sp now evs).2.1.blockDur = sp.blockDur ∧ (runLock st sp now evs).2.1.ttl = sp.ttl := by
  fun_induction runLock st sp now evs with
  | case1 => exact ⟨rfl, rfl, rfl, rfl⟩
  | case2 st sp now d evs ih => exact ih
  | case3 st sp now o evs ih =>
    obtain ⟨h1, h2, h3, h4⟩ := ih
    obtain ⟨c1, c2, c3, c4⟩ := specStep_conf sp now o (step st now o).1
    exact ⟨h1.trans c1, h2.trans c2, h3.trans c3, h4.trans c4⟩

theorem runLock_ttl : ∀ (evs : List Ev) (st : St) (sp : Spec) (now : Nat),
    (runLock st sp now evs).2.1.ttl = sp.ttl :=
  fun evs st sp now => (runLock_conf evs st sp now).2.2.2

end AGH.C12
