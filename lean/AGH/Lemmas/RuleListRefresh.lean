/-
C15 helper lemmas about the refresh state machine: `updateIntl` on a body
(`updateIntl_body`), `refreshOne` and the invariant `Consistent` it keeps, one
list after the two phases of `refreshStep` (`attemptOn`, `reloaded`:
`refreshStep_get`), that a refresh and a set_url request keep `InSync`
(`refreshStep_insync`, `setURLStep_insync`), the shapes of `setProps` /
`setDownload`, and what the refresh monitor says of one list (`refreshSpecWhy_*`).
Of the parser one fact enters: a body cut short never parses (`parse_incomplete`).
-/
import AGH.Lemmas.RuleListParse
namespace AGH.C15
open AGH AGH.Bytes

theorem updateIntl_body (k : Nat) (data : Bytes) (complete : Bool) :
    updateIntl k (.body data complete) =
      if (parse data complete).err = none ∧ (parse data complete).st.crc ≠ k then
        some ((parse data complete).st.count, (parse data complete).st.crc, (parse data complete).out)
      else none := by
  simp only [updateIntl, Option.isNone_iff_eq_none]

theorem updateIntl_none_of_fails {k : Nat} {f : Fetch} (h : fetchFails f = true) : updateIntl k f = none := by
  cases f with
  | fail => rfl
  | body data complete =>
    rw [updateIntl_body, if_neg]
    intro hh
    simp [fetchFails, hh.1] at h

theorem refreshOne_of_none {flt : Flt} {f : Fetch} (h : updateIntl flt.checksum f = none) :
    refreshOne flt f = flt := by
  simp [refreshOne, h]

theorem updateIntl_some {k : Nat} {f : Fetch} {c ck : Nat} {out : Bytes} (h : updateIntl k f = some (c, ck, out)) :
    ∃ data, f = .body data true ∧ (parse data true).err = none ∧ ck ≠ k ∧
      c = (parse data true).st.count ∧ ck = (parse data true).st.crc ∧ out = (parse data true).out := by
  cases f with
  | fail => simp [updateIntl] at h
  | body data complete =>
    rw [updateIntl_body] at h
    split at h
    · rename_i hc
      simp only [Option.some.injEq, Prod.mk.injEq] at h
      obtain ⟨rfl, rfl, rfl⟩ := h
      cases complete with
      | false => exact absurd hc.1 (parse_incomplete data)
      | true => exact ⟨data, rfl, hc.1, hc.2, rfl, rfl, rfl⟩
    · cases h

theorem refreshOne_cases (flt : Flt) (f : Fetch) :
    refreshOne flt f = flt ∨
    ∃ data, f = .body data true ∧ (parse data true).err = none ∧
      refreshOne flt f =
        ⟨flt.enabled, (parse data true).st.count, (parse data true).st.crc, some (parse data true).out⟩ := by
  unfold refreshOne
  cases hu : updateIntl flt.checksum f with
  | none => exact .inl rfl
  | some p =>
    obtain ⟨c, ck, out⟩ := p
    obtain ⟨data, hf, he, _, rfl, rfl, rfl⟩ := updateIntl_some hu
    exact .inr ⟨data, hf, he, rfl⟩

/-- The state of a list is either pristine or exactly what ONE successful,
complete download produced. -/
def Consistent (flt : Flt) : Prop :=
  (flt.file = none ∧ flt.count = 0 ∧ flt.checksum = 0) ∨
  ∃ data, (parse data true).err = none ∧ flt.file = some (parse data true).out ∧
    flt.count = (parse data true).st.count ∧ flt.checksum = (parse data true).st.crc

theorem Consistent.weak {flt : Flt} (h : Consistent flt) : WeakConsistent flt :=
  h.imp id fun ⟨data, he, hf, hc, hk⟩ => ⟨data, he, hf, .inr hc, .inr hk⟩

theorem refreshOne_eq_or_consistent (flt : Flt) (f : Fetch) :
    refreshOne flt f = flt ∨ Consistent (refreshOne flt f) :=
  (refreshOne_cases flt f).imp_right fun ⟨data, _, he, hr⟩ => by
    rw [hr]; exact .inr ⟨data, he, rfl, rfl, rfl⟩

theorem refreshOne_consistent {flt : Flt} (f : Fetch) (h : Consistent flt) : Consistent (refreshOne flt f) :=
  (refreshOne_eq_or_consistent flt f).elim (fun hr => by rw [hr]; exact h) id

theorem phase1_length (rq : Req) : ∀ (ls : List LState) (ins : List (Bool × Fetch)),
    (phase1 rq ls ins).length = ls.length := by
  intro ls ins
  fun_induction phase1 rq ls ins with
  | case1 l ls due f ins ih => exact congrArg Nat.succ ih
  | case2 => exact List.length_map _

/-- What phase 1 makes of list `l` given its input (`none`: the inputs have run out). -/
def phase1Entry (rq : Req) (l : LState) : Option (Bool × Fetch) → LState × Bool × Bool × Bool
  | some (due, f) =>
    if attempted rq l due then
      ({ l with flt := refreshOne l.flt f }, true, fetchFails f, (updateIntl l.flt.checksum f).isSome)
    else (l, false, false, false)
  | none => (l, false, false, false)

theorem phase1_getElem? (rq : Req) : ∀ (ls : List LState) (ins : List (Bool × Fetch)) (i : Nat),
    (phase1 rq ls ins)[i]? = ls[i]?.map fun l => phase1Entry rq l ins[i]?
  | [], ins, i => by cases ins <;> rfl
  | l :: ls, [], i => List.getElem?_map ..
  | l :: ls, (due, f) :: ins, 0 => rfl
  | l :: ls, (due, f) :: ins, i + 1 => phase1_getElem? rq ls ins i

/-- List `l` after phase 1 of a call whose input for it is `(due, f)`. -/
def attemptOn (rq : Req) (l : LState) (due : Bool) (f : Fetch) : LState :=
  if attempted rq l due then { l with flt := refreshOne l.flt f } else l

/-- List `x` after phase 2; `b`: the engine is rebuilt from the files. -/
def reloaded (b : Bool) (x : LState) : LState :=
  if b = true then { x with inForce := if x.flt.enabled then x.flt.file else none } else x

theorem phase1Entry_fst (rq : Req) (l : LState) (due : Bool) (f : Fetch) :
    (phase1Entry rq l (some (due, f))).1 = attemptOn rq l due f :=
  apply_ite Prod.fst ..

theorem attemptOn_flt (rq : Req) (l : LState) (due : Bool) (f : Fetch) :
    (attemptOn rq l due f).flt = if attempted rq l due then refreshOne l.flt f else l.flt := by
  unfold attemptOn
  split <;> rfl

theorem attemptOn_eq_self {rq : Req} {l : LState} {due : Bool} {f : Fetch}
    (hf : attempted rq l due = false ∨ updateIntl l.flt.checksum f = none) : attemptOn rq l due f = l := by
  unfold attemptOn
  rcases hf with hf | hf
  · rw [hf]; rfl
  · rw [refreshOne_of_none hf]; exact ite_self _

theorem reloaded_flt (b : Bool) (x : LState) : (reloaded b x).flt = x.flt := by
  cases b <;> rfl

theorem reloaded_eq_self {x : LState} (b : Bool) (hs : InSync x) : reloaded b x = x := by
  unfold reloaded
  rw [← hs]
  exact ite_self _

theorem reloaded_insync {b : Bool} {x : LState} (h : b = true ∨ InSync x) : InSync (reloaded b x) := by
  rcases h with rfl | h
  · rfl
  · rw [reloaded_eq_self b h]; exact h

theorem refreshStep_get (rq : Req) {ls : List LState} {ins : List (Bool × Fetch)} {i : Nat} {l : LState}
    {due : Bool} {f : Fetch} (hl : ls[i]? = some l) (hi : ins[i]? = some (due, f)) :
    ∃ b, (refreshStep rq ls ins)[i]? = some (reloaded b (attemptOn rq l due f)) := by
  have hg : (refreshStep rq ls ins)[i]? = ((phase1 rq ls ins)[i]?).map _ := List.getElem?_map ..
  rw [phase1_getElem?, hl, hi] at hg
  exact ⟨_, hg.trans (congrArg (fun x => some (reloaded _ x)) (phase1Entry_fst rq l due f))⟩

theorem refreshStep_unchanged (rq : Req) {ls : List LState} {ins : List (Bool × Fetch)} {i : Nat} {l : LState}
    {due : Bool} {f : Fetch} (hl : ls[i]? = some l) (hi : ins[i]? = some (due, f))
    (hs : InSync l) (hf : attempted rq l due = false ∨ updateIntl l.flt.checksum f = none) :
    (refreshStep rq ls ins)[i]? = some l := by
  obtain ⟨b, hg⟩ := refreshStep_get rq hl hi
  rw [hg, attemptOn_eq_self hf, reloaded_eq_self b hs]

theorem phase1_mem {rq : Req} {ls : List LState} {ins : List (Bool × Fetch)} {r : LState × Bool × Bool × Bool}
    (hr : r ∈ phase1 rq ls ins) : ∃ l ∈ ls, ∃ x, r = phase1Entry rq l x := by
  obtain ⟨i, hi⟩ := List.getElem?_of_mem hr
  rw [phase1_getElem?] at hi
  obtain ⟨l, hl, h⟩ := Option.map_eq_some_iff.mp hi
  exact ⟨l, List.mem_of_getElem? hl, _, h.symm⟩

theorem phase1Entry_updated (rq : Req) (l : LState) (due : Bool) (f : Fetch) :
    (phase1Entry rq l (some (due, f))).2.2.2 = (attempted rq l due && (updateIntl l.flt.checksum f).isSome) := by
  rw [phase1Entry]
  cases attempted rq l due <;> rfl

/-- If some list was really updated, the number of updated lists the code
computes is not zero (so the engine is rebuilt). -/
theorem updNum_pos (rq : Req) (ls : List LState) (ins : List (Bool × Fetch))
    (r : LState × Bool × Bool × Bool) (hr : r ∈ phase1 rq ls ins) (hu : r.2.2.2 = true) :
    (if rq.block then updCount false (phase1 rq ls ins) else 0) +
      (if rq.allow then updCount true (phase1 rq ls ins) else 0) ≠ 0 := by
  obtain ⟨l, _, _ | ⟨due, f⟩, rfl⟩ := phase1_mem hr
  · cases hu
  · rw [phase1Entry_updated, Bool.and_eq_true] at hu
    obtain ⟨hatt, hu⟩ := hu
    rw [phase1Entry, if_pos hatt] at hr
    have hnf : fetchFails f = false := Bool.eq_false_iff.mpr fun hf => by
      rw [updateIntl_none_of_fails hf] at hu; cases hu
    -- the array of `l` is selected,
    have hsel : (if l.allow then rq.allow else rq.block) = true := by
      simp only [attempted, Bool.and_eq_true] at hatt; exact hatt.1.1
    -- did not fail completely, and `l` is counted in it
    have hcount : updCount l.allow (phase1 rq ls ins) ≠ 0 := by
      have hne : netErr l.allow (phase1 rq ls ins) = false := by
        unfold netErr
        simp only [Bool.and_eq_false_iff, Bool.not_eq_false', List.all_eq_false, List.mem_filter]
        exact .inr ⟨_, ⟨hr, by simp⟩, by simp [hnf]⟩
      unfold updCount
      rw [hne, if_neg Bool.false_ne_true]
      exact Nat.ne_of_gt (List.length_pos_of_mem (List.mem_filter.mpr ⟨hr, by simpa using hu⟩))
    cases hla : l.allow with
    | false =>
      rw [hla] at hsel hcount
      simp only [Bool.false_eq_true, if_false] at hsel
      rw [hsel]; simp only [if_true]; omega
    | true =>
      rw [hla] at hsel hcount
      simp only [if_true] at hsel
      rw [hsel]; simp only [if_true]; omega

/-- `InSync` of `Spec/RuleList.lean`, stated here on the raw fields (it unfolds to this). -/
def insync (l : LState) : Prop := l.inForce = (if l.flt.enabled then l.flt.file else none)

theorem insync_iff (l : LState) : insync l ↔ InSync l := Iff.rfl

/-- Holds for `refreshFiltersIntl` as repaired by f646577 (rebuild although the
other array failed completely), which is what `refreshStep` models. -/
theorem refreshStep_insync (rq : Req) (ls : List LState) (ins : List (Bool × Fetch))
    (h : ∀ l ∈ ls, InSync l) : ∀ l' ∈ refreshStep rq ls ins, InSync l' := by
  intro l' hl'
  obtain ⟨r, hr, rfl⟩ := List.mem_map.mp hl'
  -- the engine is rebuilt, or `r` is an untouched list or a failed/unchanged attempt
  refine reloaded_insync ?_
  cases hu : r.2.2.2 with
  | true => exact .inl (bne_iff_ne.mpr (updNum_pos rq ls ins r hr hu))
  | false =>
    right
    obtain ⟨l, hl, _ | ⟨due, f⟩, rfl⟩ := phase1_mem hr
    · exact h l hl
    · rw [phase1Entry_updated, Bool.and_eq_false_iff, Option.isSome_eq_false_iff, Option.isNone_iff_eq_none] at hu
      rw [phase1Entry_fst, attemptOn_eq_self hu]
      exact h l hl

theorem setDownload_cases (old flt2 : Flt) (changed : Bool) (f : Fetch) :
    (∃ c k out, updateIntl flt2.checksum f = some (c, k, out) ∧
      setDownload old flt2 changed f = ⟨⟨true, c, k, some out⟩, changed, .ok true⟩) ∨
    (updateIntl flt2.checksum f = none ∧ fetchFails f = true ∧
      setDownload old flt2 changed f = ⟨⟨old.enabled, old.count, flt2.checksum, old.file⟩, false, .err⟩) ∨
    (updateIntl flt2.checksum f = none ∧ fetchFails f = false ∧
      setDownload old flt2 changed f = ⟨flt2, changed, .ok true⟩) := by
  fun_cases setDownload old flt2 changed f with
  | case1 c k out hu => exact .inl ⟨c, k, out, hu, rfl⟩
  | case2 hu hff => exact .inr (.inl ⟨hu, hff, rfl⟩)
  | case3 hu hff => exact .inr (.inr ⟨hu, Bool.eq_false_iff.mpr hff, rfl⟩)

/-- The shapes of `setProps`: refused duplicate; list disabled; nothing to
download; or a download (count and checksum zeroed after a URL change). -/
theorem setProps_cases (flt : Flt) (rq : SetReq) (f : Fetch) :
    (setProps flt rq f = ⟨flt, false, .err⟩) ∨
    (rq.enabled = false ∧
      setProps flt rq f = ⟨⟨false, 0, 0, flt.file⟩, rq.changed, .ok (rq.changed || flt.enabled)⟩) ∨
    (rq.enabled = true ∧ rq.changed = false ∧ flt.enabled = true ∧
      setProps flt rq f = ⟨⟨true, flt.count, flt.checksum, flt.file⟩, false, .ok false⟩) ∨
    (rq.enabled = true ∧ setProps flt rq f =
      setDownload flt ⟨true, if rq.changed then 0 else flt.count, if rq.changed then 0 else flt.checksum, flt.file⟩
        rq.changed f) := by
  obtain ⟨fe, cnt, ck, file⟩ := flt
  obtain ⟨changed, dup, en⟩ := rq
  cases en with
  | false =>
    cases changed with
    | false => cases fe <;> exact .inr (.inl ⟨rfl, rfl⟩)
    | true =>
      cases dup with
      | true => exact .inl rfl
      | false => cases fe <;> exact .inr (.inl ⟨rfl, rfl⟩)
  | true =>
    cases changed with
    | true =>
      cases dup with
      | true => exact .inl rfl
      | false => exact .inr (.inr (.inr ⟨rfl, rfl⟩))
    | false =>
      cases fe with
      | true => exact .inr (.inr (.inl ⟨rfl, rfl, rfl, rfl⟩))
      | false => exact .inr (.inr (.inr ⟨rfl, rfl⟩))

theorem setProps_no_restart (flt : Flt) (rq : SetReq) (f : Fetch) (h : (setProps flt rq f).res ≠ .ok true) :
    (setProps flt rq f).flt.enabled = flt.enabled ∧ (setProps flt rq f).flt.file = flt.file := by
  rcases setProps_cases flt rq f with h1 | ⟨_, h2⟩ | ⟨_, _, he, h3⟩ | ⟨_, h4⟩
  · rw [h1]; exact ⟨rfl, rfl⟩
  · rw [h2] at h ⊢
    -- no rebuild although the list is switched off: it was off already
    cases hfe : flt.enabled with
    | false => exact ⟨rfl, rfl⟩
    | true => rw [hfe, Bool.or_true] at h; exact absurd rfl h
  · rw [h3]; exact ⟨he.symm, rfl⟩
  · rw [h4] at h ⊢
    rcases setDownload_cases flt _ rq.changed f with ⟨c, k, out, _, hs⟩ | ⟨_, _, hs⟩ | ⟨_, _, hs⟩
    · rw [hs] at h; exact absurd rfl h
    · rw [hs]; exact ⟨rfl, rfl⟩
    · rw [hs] at h; exact absurd rfl h

theorem insync_set {ls : List LState} {i : Nat} {l : LState} {flt' : Flt} (hl : ls[i]? = some l)
    (he : flt'.enabled = l.flt.enabled) (hf : flt'.file = l.flt.file) (h : ∀ x ∈ ls, InSync x) :
    ∀ x ∈ ls.set i { l with flt := flt' }, InSync x := by
  intro x hx
  rcases List.mem_or_eq_of_mem_set hx with hm | rfl
  · exact h x hm
  · have := h l (List.mem_of_getElem? hl)
    unfold InSync at this ⊢
    simp only [he, hf]; exact this

theorem setURLStep_insync (ls : List LState) (i : Nat) (rq : SetReq) (f : Fetch)
    (h : ∀ l ∈ ls, InSync l) : ∀ l' ∈ (setURLStep ls i rq f).1, InSync l' := by
  fun_cases setURLStep ls i rq f with
  | case1 => exact h
  | case2 l hl o ls1 hres =>
    -- every list is reloaded from its file
    intro l' hl'
    obtain ⟨x, _, rfl⟩ := List.mem_map.mp hl'
    rfl
  | case3 l hl o ls1 hres =>
    exact insync_set hl (setProps_no_restart _ _ _ hres).1 (setProps_no_restart _ _ _ hres).2 h

/-- `h`: the monitor's clause `successful-refresh-kept-stale-version` does not apply. -/
theorem refreshSpecWhy_unchanged (i : Nat) (o : ListObs) (f : Fetch) (att : Bool) (ho : o.rewritten = false)
    (h : att = true → ∀ data, f = .body data true → htmlDoc data = false → binaryDoc data = false →
      (∀ l ∈ splitOn nl data, l.length < maxToken) → crcLines 0 (specLines data) = o.checksum) :
    refreshSpecWhy i o f att o = none := by
  unfold refreshSpecWhy
  cases att with
  | false => simp [ho]
  | true =>
    cases hb : fetchBad f with
    | true => simp [ho]
    | false =>
      cases f with
      | fail => rfl
      | body data c =>
        simp only [fetchBad, Bool.or_eq_false_iff, Bool.not_eq_false'] at hb
        obtain ⟨⟨rfl, hh⟩, hbin⟩ := hb
        by_cases hs : ∀ l ∈ splitOn nl data, l.length < maxToken
        · simp [ho, h rfl data rfl hh hbin hs]
        · simp [ho, hs]

theorem refreshSpecWhy_stored (i : Nat) (b a : ListObs) (data : Bytes)
    (hh : htmlDoc data = false) (hbin : binaryDoc data = false) (hck : a.checksum ≠ b.checksum)
    (hfile : a.file = some (normalForm data)) (hcnt : a.count = (specLines data).length)
    (hcrc : a.checksum = crcLines 0 (specLines data)) (hrc : a.reCount = a.count) (hrk : a.reCrc = a.checksum) :
    refreshSpecWhy i b (.body data true) true a = none := by
  have hck' : ¬ crcLines 0 (specLines data) = b.checksum := hcrc ▸ hck
  unfold refreshSpecWhy
  simp [fetchBad, hh, hbin, hck', hfile, hrc, hrk, hcnt, hcrc]

end AGH.C15
