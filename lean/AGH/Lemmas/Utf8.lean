/-
`unicode/utf8.DecodeRune` (model `decodeRune`, read by C17's `filepath.Match`
and by C15's `bytes.TrimSpace`): the three shapes of a decoded rune
(`decodeRune_shape`), and from them its width (`decodeRune_size`,
`decodeRune_take_width`) and which text behind a rune leaves it as it is
(`decodeRune_append`, `decodeRune_append_of_not_cont`).
-/
import AGH.Model.SafeFS
namespace AGH.C17
open AGH AGH.Bytes

/-! The branches of `decodeRune` are reached with `if_pos`/`if_neg` on the byte
ranges; unfolding the definition with `simp` costs far more. -/

theorem decodeRune_ascii {c : Nat} (t : Bytes) (h : c < 0x80) : decodeRune (c :: t) = (c, 1) :=
  if_pos h

theorem decodeRune_two {c : Nat} (t : Bytes) (h2 : ¬ c < 0xC2) (h3 : c < 0xE0) :
    decodeRune (c :: t) =
      match t with
      | b1 :: _ => if isCont b1 = true then ((c % 32) * 64 + b1 % 64, 2) else (runeError, 1)
      | _ => (runeError, 1) :=
  (if_neg fun h => h2 (Nat.lt_trans h (by decide))).trans ((if_neg h2).trans (if_pos h3))

theorem decodeRune_three {c : Nat} (t : Bytes) (h3 : ¬ c < 0xE0) (h4 : c < 0xF0) :
    decodeRune (c :: t) =
      match t with
      | b1 :: b2 :: _ =>
        if (decide ((if c = 0xE0 then 0xA0 else 0x80) ≤ b1) && decide (b1 ≤ if c = 0xED then 0x9F else 0xBF) &&
            isCont b2) = true
        then ((c % 16) * 4096 + (b1 % 64) * 64 + b2 % 64, 3) else (runeError, 1)
      | _ => (runeError, 1) :=
  (if_neg fun h => h3 (Nat.lt_trans h (by decide))).trans
    ((if_neg fun h => h3 (Nat.lt_trans h (by decide))).trans ((if_neg h3).trans (if_pos h4)))

theorem decodeRune_four {c : Nat} (t : Bytes) (h4 : ¬ c < 0xF0) (h5 : c < 0xF5) :
    decodeRune (c :: t) =
      match t with
      | b1 :: b2 :: b3 :: _ =>
        if (decide ((if c = 0xF0 then 0x90 else 0x80) ≤ b1) && decide (b1 ≤ if c = 0xF4 then 0x8F else 0xBF) &&
            isCont b2 && isCont b3) = true
        then ((c % 8) * 262144 + (b1 % 64) * 4096 + (b2 % 64) * 64 + b3 % 64, 4) else (runeError, 1)
      | _ => (runeError, 1) :=
  (if_neg fun h => h4 (Nat.lt_trans h (by decide))).trans
    ((if_neg fun h => h4 (Nat.lt_trans h (by decide))).trans
      ((if_neg fun h => h4 (Nat.lt_trans h (by decide))).trans ((if_neg h4).trans (if_pos h5))))

/-- The second byte of a three- or four-byte rune is taken from a sub-range of
the continuation bytes. -/
theorem isCont_of_range {lo hi b : Nat} (hlo : 0x80 ≤ lo) (hhi : hi ≤ 0xBF)
    (h : (decide (lo ≤ b) && decide (b ≤ hi)) = true) : isCont b = true := by
  simp only [Bool.and_eq_true, decide_eq_true_eq, isCont] at h ⊢
  omega

/-- The cases of `decodeRune`'s text, in its order: 1 no byte, 2 ASCII, 3 a stray continuation byte or an overlong lead
(`C0`, `C1`), then for each of the two-, three- and four-byte leads (4–6, 7–9, 10–12) accepted, bad continuation, too few
bytes, and 13 an invalid lead. -/
theorem decodeRune_shape (c : Nat) (t : Bytes) :
    (c < 0x80 ∧ decodeRune (c :: t) = (c, 1)) ∨
    (0x80 ≤ c ∧ decodeRune (c :: t) = (runeError, 1)) ∨
    (0xC2 ≤ c ∧ ∃ cs r0, t = cs ++ r0 ∧ cs ≠ [] ∧ (∀ b ∈ cs, isCont b = true) ∧
      (decodeRune (c :: t)).2 = cs.length + 1 ∧
      ∀ r, decodeRune (c :: (cs ++ r)) = decodeRune (c :: t)) := by
  generalize hs : c :: t = s
  fun_cases decodeRune s
  case case1 => cases hs
  case case2 h1 => cases hs; exact .inl ⟨h1, rfl⟩
  case case4 h1 h2 h3 b1 tl hb =>
    cases hs
    refine .inr (.inr ⟨Nat.le_of_not_lt h2, [b1], tl, rfl, List.cons_ne_nil _ _, ?_, rfl,
      fun r => (decodeRune_two _ h2 h3).trans (if_pos hb)⟩)
    intro b hm; rw [List.mem_singleton.mp hm]; exact hb
  case case7 h1 h2 h3 h4 lo hi b1 b2 tl hb =>
    cases hs
    refine .inr (.inr ⟨Nat.le_of_not_lt h2, [b1, b2], tl, rfl, List.cons_ne_nil _ _, ?_, rfl,
      fun r => (decodeRune_three _ h3 h4).trans (if_pos hb)⟩)
    rw [Bool.and_eq_true] at hb
    intro b hm
    rcases List.mem_cons.mp hm with rfl | hm
    · exact isCont_of_range (by unfold lo; split <;> decide) (by unfold hi; split <;> decide) hb.1
    · rw [List.mem_singleton.mp hm]; exact hb.2
  case case10 h1 h2 h3 h4 h5 lo hi b1 b2 b3 tl hb =>
    cases hs
    refine .inr (.inr ⟨Nat.le_of_not_lt h2, [b1, b2, b3], tl, rfl, List.cons_ne_nil _ _, ?_, rfl,
      fun r => (decodeRune_four _ h4 h5).trans (if_pos hb)⟩)
    rw [Bool.and_eq_true, Bool.and_eq_true] at hb
    intro b hm
    rcases List.mem_cons.mp hm with rfl | hm
    · exact isCont_of_range (by unfold lo; split <;> decide) (by unfold hi; split <;> decide) hb.1.1
    · rcases List.mem_cons.mp hm with rfl | hm
      · exact hb.1.2
      · rw [List.mem_singleton.mp hm]; exact hb.2
  -- what is left refuses: a stray continuation or invalid lead byte, too few bytes, a bad continuation
  all_goals cases hs; exact .inr (.inl ⟨Nat.le_of_not_lt ‹¬c < 0x80›, rfl⟩)

theorem decodeRune_size (s : Bytes) (hs : s ≠ []) :
    1 ≤ (decodeRune s).2 ∧ (decodeRune s).2 ≤ s.length := by
  match s, hs with
  | c :: t, _ =>
    rcases decodeRune_shape c t with ⟨_, h⟩ | ⟨_, h⟩ | ⟨_, cs, r0, rfl, _, _, h, _⟩
    · rw [h]; exact ⟨Nat.le_refl _, Nat.succ_le_succ (Nat.zero_le _)⟩
    · rw [h]; exact ⟨Nat.le_refl _, Nat.succ_le_succ (Nat.zero_le _)⟩
    · rw [h, List.length_cons, List.length_append]; omega

theorem decodeRune_single (b : Nat) (hb : 0x80 ≤ b) : decodeRune [b] = (runeError, 1) := by
  rcases decodeRune_shape b [] with ⟨h, _⟩ | ⟨_, h⟩ | ⟨_, cs, r0, h, hne, _⟩
  · omega
  · exact h
  · exact absurd (List.append_eq_nil_iff.mp h.symm).1 hne

theorem decodeRune_take_width (s : Bytes) (hs : s ≠ []) : decodeRune (s.take (decodeRune s).2) = decodeRune s := by
  match s, hs with
  | c :: t, _ =>
    rcases decodeRune_shape c t with ⟨hc, h⟩ | ⟨hc, h⟩ | ⟨_, cs, r0, rfl, _, _, hw, hr⟩
    · rw [h]; exact decodeRune_ascii _ hc
    · rw [h]; exact decodeRune_single c hc
    · rw [hw, List.take_succ_cons, List.take_left' rfl]
      have := hr []
      rwa [List.append_nil] at this

/-- The width-one error rune is excepted: it may stand for a truncated sequence
that more text completes. -/
theorem decodeRune_append (s b : Bytes) (h : ¬ ((decodeRune s).1 = runeError ∧ (decodeRune s).2 = 1))
    (hs : s ≠ []) : decodeRune (s ++ b) = decodeRune s := by
  match s, hs with
  | c :: t, _ =>
    rcases decodeRune_shape c t with ⟨hc, h'⟩ | ⟨_, h'⟩ | ⟨_, cs, r0, rfl, _, _, _, hr⟩
    · rw [h']; exact decodeRune_ascii _ hc
    · rw [h'] at h; exact absurd ⟨rfl, rfl⟩ h
    · rw [List.cons_append, List.append_assoc]; exact hr _

theorem decodeRune_append_of_not_cont (s b : Bytes) (hs : s ≠ [])
    (hb : ∀ x, b.head? = some x → isCont x = false) : decodeRune (s ++ b) = decodeRune s := by
  by_cases hv : (decodeRune s).1 = runeError ∧ (decodeRune s).2 = 1
  · match s, hs with
    | c :: t, _ =>
      have hs' : decodeRune (c :: t) = (runeError, 1) := Prod.ext hv.1 hv.2
      rw [hs', List.cons_append]
      rcases decodeRune_shape c (t ++ b) with ⟨hc, _⟩ | ⟨_, h'⟩ | ⟨_, cs, r0, hcs, _, hcont, _, hr⟩
      · rw [decodeRune_ascii t hc] at hs'
        rw [(Prod.mk.inj hs').1] at hc
        exact absurd hc (by decide)
      · exact h'
      · -- the continuation bytes accepted after `c` all lie in `t`, so `t` alone decodes alike
        have hpre : ∃ c', t = cs ++ c' := by
          rcases List.append_eq_append_iff.mp hcs with ⟨a', h1, h2⟩ | ⟨c', h1, _⟩
          · cases a' with
            | nil => exact ⟨[], by rw [h1, List.append_nil, List.append_nil]⟩
            | cons x a'' =>
              have hx := hcont x (by rw [h1]; simp)
              rw [hb x (by rw [h2]; rfl)] at hx
              cases hx
          · exact ⟨c', h1⟩
        obtain ⟨c', rfl⟩ := hpre
        rw [← hr c']; exact hs'
  · exact decodeRune_append s b hv hs

end AGH.C17
