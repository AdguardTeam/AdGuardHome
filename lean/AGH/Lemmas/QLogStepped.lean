/-
C07: the order of an answer for EVERY state — no hypothesis on the recorded
times, so also when the clock was stepped back between records: `search`
returns its entries newest first (no entry before one with a later time).
-/
import AGH.Lemmas.QLogSearch
import AGH.Spec.QLog
import AGH.Lemmas.InsertSort
namespace AGH.C07

def DescLe (l : List Entry) : Prop := l.Pairwise (fun a b => b.ts ≤ a.ts)

theorem isIns_insertDesc : Ins.IsIns (fun e x : Entry => x.ts < e.ts) insertDesc :=
  ⟨fun _ => rfl, fun _ _ _ => rfl⟩

theorem insertDesc_descLe (e : Entry) (l : List Entry) (h : DescLe l) : DescLe (insertDesc e l) :=
  isIns_insertDesc.pairwise (fun _ _ => Int.le_of_lt) (fun _ _ => Int.not_lt.1)
    (fun _ _ _ h1 h2 => Int.le_trans h2 h1) e h

theorem sortDesc_descLe : ∀ l : List Entry, DescLe (sortDesc l)
  | [] => List.Pairwise.nil
  | e :: rest => insertDesc_descLe e _ (sortDesc_descLe rest)

theorem newestFirst_of_descLe : ∀ l : List Entry, DescLe l → newestFirst (l.map (·.ts)) = true
  | [], _ => rfl
  | [_], _ => rfl
  | a :: b :: rest, h => by
    have h' := List.pairwise_cons.mp h
    have ih := newestFirst_of_descLe (b :: rest) h'.2
    simp only [List.map] at ih ⊢
    simp only [newestFirst, Bool.and_eq_true, decide_eq_true_eq]
    exact ⟨h'.1 b (by simp), ih⟩

theorem search_descLe (s : State) (p : Params) (es : List Entry) (o : Option Int)
    (h : search s p = .ok (es, o)) : DescLe es := by
  rw [search_unfold] at h
  -- the tests of `search_unfold` are written out: `split at h` finds them, at four times the cost of checking
  by_cases hl : p.limit = 0
  · rw [if_pos hl] at h
    cases h
    exact List.Pairwise.nil
  · rw [if_neg hl] at h
    dsimp only at h
    by_cases hf : ((searchMemory s p ++ (searchFiles s p).1).length : Int) > wrap64 (p.offset + p.limit) ∧
        wrap64 (p.offset + p.limit) < 0
    · rw [if_pos hf] at h
      cases h
    · rw [if_neg hf] at h
      generalize hE : sortDesc _ = E at h
      cases h
      split
      · exact List.Pairwise.nil
      · exact List.Pairwise.sublist (List.drop_sublist _ _) (hE ▸ sortDesc_descLe _)

end AGH.C07
