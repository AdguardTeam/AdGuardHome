/-
C01 / C02: the generated block responses meet the monitors' predicates
(`genDNSFilterMessage_syntheticOK_hostRuleIPs`, `genDNSFilterMessage_respBlockOK`,
`firstBlocked_replacement`); `handleMain` (which `handle` is outside `reserved`:
`handle_eq_main`) computed class by class of the spec, one `handleMain_*` lemma
per kind of outcome; and the echo of the question section (`Echoes`,
`Outcome.Sat`).
-/
import AGH.Lemmas.FilterMsg
import AGH.Lemmas.FilterResp
namespace AGH.Filter
open AGH AGH.Bytes

theorem reserved_parts (c : Conf) (q : Query) (h : reserved c q = false) :
    ¬(c.aaaaDisabled = true ∧ q.qtype = tAAAA) ∧ ¬((q.qtype = tA ∨ q.qtype = tAAAA) ∧ q.name = mozillaFQDN) ∧
    q.name ≠ healthcheckFQDN ∧ dhcpHost c q = none := by
  unfold reserved at h
  simp only [Bool.or_eq_false_iff] at h
  obtain ⟨⟨⟨h1, h2⟩, h3⟩, h4⟩ := h
  exact ⟨by simpa using h1, by simpa using h2, by simpa using h3, by simpa using h4⟩

theorem dhcpStage_none (e : Engines) (c : Conf) (u : Upstream) (q : Query) (h : reserved c q = false) :
    dhcpStage e c u q = none := by
  unfold dhcpStage
  rw [(reserved_parts c q h).2.2.2]

theorem handle_eq_main (e : Engines) (c : Conf) (u : Upstream) (q : Query) (h : reserved c q = false) :
    handle e c u q = handleMain e c u q := by
  obtain ⟨h1, h2, h3, _⟩ := reserved_parts c q h
  unfold handle shortCircuit
  rw [if_neg h1, if_neg h2, if_neg h3, dhcpStage_none e c u q h]

theorem filter_v6_eq_self (l : List IP) (b : Bool) (h : ∀ ip ∈ l, ip.v6 = b) :
    l.filter (fun ip => ip.v6 == b) = l :=
  List.filter_eq_self.mpr fun ip hip => by rw [h ip hip, beq_self_eq_true]

theorem genDNSFilterMessage_syntheticOK_hostRuleIPs (e : Engines) (hwf : EnginesWF e) (c : Conf) (q : Query) (res : Result)
    (hips : res.ips = hostRuleIPs e c (qhost q) q.qtype q.qtype) :
    syntheticOK c q (hostRuleIPs e c (qhost q) q.qtype q.qtype) (genDNSFilterMessage c q res) = true :=
  genDNSFilterMessage_syntheticOK c q res _ fun _ _ => by
    rw [hips, filter_v6_eq_self _ _ (hostRuleIPs_family e hwf c _ _)]

theorem genDNSFilterMessage_respBlockOK (e : Engines) (hwf : EnginesWF e) (c : Conf) (q : Query) (h : Bytes) (t : Nat) :
    respBlockOK c q t (hostRuleIPs e c h t t) (genDNSFilterMessage c q (blockResult e c h t)) = true := by
  have hfam := hostRuleIPs_family e hwf c h t
  unfold respBlockOK
  by_cases hquirk : c.mode = .default ∧ (q.qtype = tA ∨ q.qtype = tAAAA) ∧ t ≠ q.qtype ∧ hostRuleIPs e c h t t ≠ []
  · -- addresses of the other family
    obtain ⟨hm, hq, hne, hips⟩ := hquirk
    have hcross : ∀ ip ∈ (blockResult e c h t).ips, ip.v6 = !(q.qtype == tAAAA) := by
      intro ip hip
      rw [hfam ip hip]
      by_cases h1 : t = tA
      · rcases hq with hq | hq
        · exact absurd (h1.trans hq.symm) hne
        · rw [h1, hq]; rfl
      · by_cases h2 : t = tAAAA
        · rcases hq with hq | hq
          · rw [h2, hq]; rfl
          · exact absurd (h2.trans hq.symm) hne
        · exact absurd (hostRuleIPs_other e c h t h1 h2) hips
    rw [genDNSFilterMessage_cross_family c q _ hm hq hips hcross]
    have hqb : (q.qtype == tA || q.qtype == tAAAA) = true := by simpa using hq
    have hnb : (t != q.qtype) = true := by simpa using hne
    have hemp : (hostRuleIPs e c h t t).isEmpty = false := by simpa using hips
    simp only [hm, hqb, hnb, hemp, reply, beq_self_eq_true, List.isEmpty_nil, Bool.not_false, Bool.and_self,
      Bool.or_true]
  · have := genDNSFilterMessage_syntheticOK c q (blockResult e c h t) (if t = q.qtype then hostRuleIPs e c h t t else [])
      (by
        intro hm hq
        by_cases hne : t = q.qtype
        · rw [if_pos hne, ← hne, filter_v6_eq_self _ _ hfam]; rfl
        · rw [if_neg hne]
          exact Classical.byContradiction fun hips => hquirk ⟨hm, hq, hne, hips⟩)
    rw [this, Bool.true_or]

theorem firstBlocked_replacement (e : Engines) (hwf : EnginesWF e) (c : Conf) (q : Query) {rr : RR} {h : Bytes} {t : Nat}
    (hfb : firstBlocked e c rr = some (h, t)) :
    (respCandidates e c rr).any
      (fun (t', ips) => respBlockOK c q t' ips (genDNSFilterMessage c q (blockResult e c h t))) = true :=
  List.any_eq_true.mpr ⟨_, firstBlocked_candidate hfb, genDNSFilterMessage_respBlockOK e hwf c q h t⟩

theorem handleMain_verdict (e : Engines) (hwf : EnginesWF e) (c : Conf) (u : Upstream) (q : Query)
    (hpre : precededByOther e c q = false) :
    handleMain e c u q =
      if (verdict e c q).isFiltered then
        .done (blockedMessage c u q (verdict e c q)).1 (blockedMessage c u q (verdict e c q)).2
          (some { reason := (verdict e c q).reason, isFiltered := true, svcName := (verdict e c q).svcName,
                  origAnswer := none })
      else forwardStage e c u q (verdict e c q) := by
  unfold handleMain
  rw [checkHost_verdict e hwf c q hpre]
  dsimp only
  obtain ⟨hrw, hah⟩ := verdict_reason e c q
  rw [if_neg (fun h => hrw h.1), if_neg hrw, if_neg hah]

theorem blockedMessage_rules (c : Conf) (u : Upstream) (q : Query) (res : Result)
    (hr : res.reason = .blockList ∨ res.reason = .blockedService) :
    blockedMessage c u q res = (genDNSFilterMessage c q res, []) := by
  unfold blockedMessage
  rw [if_neg (fun h => by rcases hr with hr | hr <;> rw [hr] at h <;> cases h.2),
    if_neg (fun h => by rcases hr with hr | hr <;> rw [hr] at h <;> cases h.2)]

/-- A verdict of the rule engines or of a blocked service is answered locally:
nothing is asked of the upstream, not even for a block host. -/
theorem handleMain_ruleBlock (e : Engines) (hwf : EnginesWF e) (c : Conf) (u : Upstream) (q : Query)
    (hpre : precededByOther e c q = false) (hf : (verdict e c q).isFiltered = true)
    (hr : (verdict e c q).reason = .blockList ∨ (verdict e c q).reason = .blockedService) :
    handleMain e c u q = .done (genDNSFilterMessage c q (verdict e c q)) []
      (some { reason := (verdict e c q).reason, isFiltered := true, svcName := (verdict e c q).svcName,
              origAnswer := none }) := by
  rw [handleMain_verdict e hwf c u q hpre, if_pos hf, blockedMessage_rules c u q _ hr]

def forwardLog (r : Result) : QLog :=
  { reason := r.reason, isFiltered := false, svcName := r.svcName, origAnswer := none }

/-- A request of the forwarded class, by what the response filter does with the upstream's answer, in this
order: the filter does not apply; it applies and no record offends; it applies and `rr` is the first that does. -/
theorem handleMain_forward (e : Engines) (hwf : EnginesWF e) (c : Conf) (u : Upstream) (q : Query)
    (hpre : precededByOther e c q = false)
    (hb : blockedByRules e c q = false) (hs : serviceMayBlock e c q = false) (hob : otherBlocks e c q = false) :
    (respFilterApplies e c q = false →
      handleMain e c u q = .done (u.exchange q) [q] (some (forwardLog (verdict e c q)))) ∧
    (respFilterApplies e c q = true → (∀ rr ∈ u.answer, offending e c rr = false) →
      handleMain e c u q =
        .done { u.exchange q with answer := u.answer.map (stripC c) } [q] (some (forwardLog (verdict e c q)))) ∧
    (respFilterApplies e c q = true →
      ∀ {pre rr post h t}, u.answer = pre ++ rr :: post → (∀ x ∈ pre, offending e c x = false) →
        firstBlocked e c rr = some (h, t) →
        handleMain e c u q = .done (genDNSFilterMessage c q (blockResult e c h t)) [q]
          (some { reason := .blockList, isFiltered := true, svcName := [],
                  origAnswer := some (pre.map (stripC c) ++ stripC c rr :: post) })) := by
  have hv := (verdict_class e hwf c q hpre).2.2.2 hb hs hob
  have hcond : ((verdict e c q).reason = .allowList ∨ (!(settings c).protection) = true ∨
      (!(settings c).filtering) = true) ↔ respFilterApplies e c q = false := by
    rw [hv, settings_eq]
    unfold respFilterApplies
    cases protectionOn c <;> cases filteringOn c <;> cases allowedName e c (qhost q) q.qtype <;> simp
  have hon : respFilterApplies e c q = true → protectionOn c = true ∧ filteringOn c = true := by
    unfold respFilterApplies
    cases protectionOn c <;> cases filteringOn c <;> first | exact fun _ => ⟨rfl, rfl⟩ | exact fun h => nomatch h
  rw [handleMain_verdict e hwf c u q hpre, if_neg (by rw [hv]; split <;> exact fun h => nomatch h)]
  unfold forwardStage
  refine ⟨?_, ?_, ?_⟩
  · intro happ
    rw [if_pos (hcond.mpr happ)]
    rfl
  · intro happ hclean
    rw [if_neg (by rw [hcond, happ]; exact Bool.noConfusion),
      show (u.exchange q).answer = u.answer from rfl, filterAnswers_clean e hwf c (hon happ).1 (hon happ).2 _ hclean]
    rfl
  · intro happ pre rr post h t hsplit hpre' hfb
    rw [if_neg (by rw [hcond, happ]; exact Bool.noConfusion),
      show (u.exchange q).answer = u.answer from rfl, hsplit,
      filterAnswers_first e hwf c (hon happ).1 (hon happ).2 hpre' hfb]
    rfl

/-- the addresses of the legacy rewrite that parse -/
def rewriteIPs (e : Engines) (c : Conf) (q : Query) : List IP :=
  (C06.processRewritesWith e.srt c.rewrites (qhost q) q.qtype).ips.filterMap parseAddr

/-- empty when the rewrite has no canonical name -/
def rewriteCanon (e : Engines) (c : Conf) (q : Query) : Bytes :=
  (C06.processRewritesWith e.srt c.rewrites (qhost q) q.qtype).canon

theorem checkHost_rewritten (e : Engines) (c : Conf) (q : Query)
    (hf : filteringOn c = true) (hq : qhost q ≠ [])
    (hrw : legacyRewritten e c (qhost q) q.qtype = true) :
    checkHost e c (trimDot q.name) q.qtype (settings c) =
      .ok { reason := .rewritten, canon := rewriteCanon e c q, ipList := rewriteIPs e c q } := by
  rw [checkHost_eq, if_neg hq, hf, hrw, Bool.and_self, if_pos rfl]
  unfold legacyRewritten at hrw
  simp only [rewriteResult, hrw, if_true]
  rfl

theorem handleMain_rewritten (e : Engines) (c : Conf) (u : Upstream) (q : Query)
    (hf : filteringOn c = true) (hq : qhost q ≠ [])
    (hrw : legacyRewritten e c (qhost q) q.qtype = true) :
    handleMain e c u q =
      if rewriteCanon e c q ≠ [] ∧ rewriteIPs e c q = [] then
        .done { u.exchange { q with name := fqdn (rewriteCanon e c q) } with
                qname := q.name,
                answer := { name := q.name, ttl := c.ttl, data := .cname (fqdn (rewriteCanon e c q)) } ::
                  (u.exchange { q with name := fqdn (rewriteCanon e c q) }).answer }
          [{ q with name := fqdn (rewriteCanon e c q) }]
          (some { reason := .rewritten, isFiltered := false, svcName := [], origAnswer := none })
      else
        .done (cnameWithIPs c q (rewriteIPs e c q) (rewriteCanon e c q)) []
          (some { reason := .rewritten, isFiltered := false, svcName := [], origAnswer := none }) := by
  unfold handleMain
  rw [checkHost_rewritten e c q hf hq hrw]
  dsimp only
  by_cases h : rewriteCanon e c q ≠ [] ∧ rewriteIPs e c q = []
  · rw [if_pos h, if_pos ⟨rfl, h⟩]
  · rw [if_neg h, if_neg (fun hh => h hh.2)]
    rfl

theorem handleMain_hosts (e : Engines) (c : Conf) (u : Upstream) (q : Query)
    (hf : filteringOn c = true) (hq : qhost q ≠ [])
    (hrw : legacyRewritten e c (qhost q) q.qtype = false)
    (hk : hostsKnows e c (qhost q) q.qtype = true) :
    handleMain e c u q =
      .done (hostsResponse c q (matchSysHosts e c (qhost q) q.qtype (settings c)).hostVals) []
        (some { reason := .autoHosts, isFiltered := false, svcName := [], origAnswer := none }) := by
  have hfs : (settings c).filtering = true := by rw [settings_eq]; exact hf
  have hhit : (matchSysHosts e c (qhost q) q.qtype (settings c)).reason = .autoHosts := by
    rw [matchSysHosts_reason, hfs, hk]; rfl
  unfold handleMain
  rw [checkHost_eq, if_neg hq, hf, hrw, hk]
  simp only [Bool.and_false, Bool.and_true, Bool.false_eq_true, if_false, if_true, hhit, matchSysHosts_notFiltered,
    reduceCtorEq, false_and]

/-- the message carries the question of `q`, spelled as the client spelled it -/
def Echoes (q : Query) (m : Msg) : Prop := m.qname = q.name ∧ m.qtype = q.qtype

theorem Echoes.ite {q : Query} {p : Prop} [Decidable p] {a b : Msg} (ha : Echoes q a) (hb : Echoes q b) :
    Echoes q (if p then a else b) := by
  split <;> assumption

/-- `P` holds of the message and the upstream log of a completed outcome; nothing is asked of `.err`. -/
def Outcome.Sat (P : Msg → List Query → Prop) : Outcome → Prop
  | .err => True
  | .done m log _ => P m log

theorem Outcome.Sat.ite {P : Msg → List Query → Prop} {p : Prop} [Decidable p] {a b : Outcome}
    (ha : a.Sat P) (hb : b.Sat P) : (if p then a else b).Sat P := by
  split <;> assumption

theorem Outcome.Sat.done {P : Msg → List Query → Prop} {o : Outcome} (ho : o.Sat P)
    {m : Msg} {log : List Query} {ql : Option QLog} (h : o = .done m log ql) : P m log := by
  subst h; exact ho

theorem Outcome.Sat.mono {P Q : Msg → List Query → Prop} {o : Outcome} (ho : o.Sat P)
    (h : ∀ m log, P m log → Q m log) : o.Sat Q := by
  cases o with
  | err => trivial
  | done m log ql => exact h m log ho

theorem genForBlockingMode_echoes (c : Conf) (q : Query) (ips : List IP) : Echoes q (genForBlockingMode c q ips) := by
  have hnull : Echoes q (responseNullIP c q) := .ite ⟨rfl, rfl⟩ (.ite ⟨rfl, rfl⟩ ⟨rfl, rfl⟩)
  unfold genForBlockingMode
  cases c.mode
  · exact .ite ⟨rfl, rfl⟩ hnull
  · exact hnull
  · exact .ite ⟨rfl, rfl⟩ (.ite ⟨rfl, rfl⟩ ⟨rfl, rfl⟩)
  · exact ⟨rfl, rfl⟩
  · exact ⟨rfl, rfl⟩

theorem genDNSFilterMessage_echoes (c : Conf) (q : Query) (r : Result) : Echoes q (genDNSFilterMessage c q r) :=
  .ite (.ite ⟨rfl, rfl⟩ ⟨rfl, rfl⟩) (genForBlockingMode_echoes c q _)

theorem blockedMessage_echoes (c : Conf) (u : Upstream) (q : Query) (res : Result) :
    Echoes q (blockedMessage c u q res).1 := by
  have hbh : ∀ bh, Echoes q (genBlockedHost c u q bh).1 := by
    intro bh; cases bh <;> exact ⟨rfl, rfl⟩
  fun_cases blockedMessage c u q res
  · exact hbh _
  · exact hbh _
  · exact genDNSFilterMessage_echoes c q res

theorem forwardStage_echoes_and_log (e : Engines) (c : Conf) (u : Upstream) (q : Query) (res : Result) :
    (forwardStage e c u q res).Sat (fun m log => Echoes q m ∧ log = [q]) := by
  fun_cases forwardStage e c u q res
  · exact ⟨⟨rfl, rfl⟩, rfl⟩
  · trivial
  · exact ⟨genDNSFilterMessage_echoes c q _, rfl⟩
  · exact ⟨⟨rfl, rfl⟩, rfl⟩

theorem handleMain_echoes (e : Engines) (c : Conf) (u : Upstream) (q : Query) :
    (handleMain e c u q).Sat (fun m _ => Echoes q m) := by
  unfold handleMain
  cases checkHost e c (trimDot q.name) q.qtype (settings c) with
  | error _ => trivial
  | ok res =>
    exact .ite ⟨rfl, rfl⟩ (.ite (blockedMessage_echoes c u q res) (.ite ⟨rfl, rfl⟩ (.ite ⟨rfl, rfl⟩
      ((forwardStage_echoes_and_log e c u q res).mono fun _ _ h => h.1))))

theorem handle_echoes (e : Engines) (c : Conf) (u : Upstream) (q : Query) (hd : dhcpHost c q = none) :
    (handle e c u q).Sat (fun m _ => Echoes q m) := by
  unfold handle dhcpStage
  rw [hd]
  fun_cases shortCircuit c q
  · exact ⟨rfl, rfl⟩
  · exact ⟨rfl, rfl⟩
  · exact ⟨rfl, rfl⟩
  · exact handleMain_echoes e c u q

theorem handleMain_log (e : Engines) (hwf : EnginesWF e) (c : Conf) (u : Upstream) (q : Query)
    (hpre : precededByOther e c q = false) (hob : otherBlocks e c q = false) :
    (handleMain e c u q).Sat (fun _ log => ∀ x ∈ log, x = q) := by
  obtain ⟨hblk, hsvc, _, hfwd⟩ := verdict_class e hwf c q hpre
  cases hb : blockedByRules e c q with
  | true =>
    rw [handleMain_ruleBlock e hwf c u q hpre (hblk hb).1 (hblk hb).2.1]
    exact nofun
  | false =>
    cases hs : serviceMayBlock e c q with
    | true =>
      rw [handleMain_ruleBlock e hwf c u q hpre (hsvc hb hs).1 (Or.inr (hsvc hb hs).2.1)]
      exact nofun
    | false =>
      rw [handleMain_verdict e hwf c u q hpre, if_neg (by rw [hfwd hb hs hob]; split <;> exact fun h => nomatch h)]
      exact (forwardStage_echoes_and_log e c u q _).mono fun _ _ h x hx => List.mem_singleton.mp (h.2 ▸ hx)

end AGH.Filter
