/-
C08 lemmas: the anonymizer (`AnonymizeIP`), the canonical form of an address
and the mask predicate.

A valid address (a `net.IP` of 4 or 16 bytes) is of one of three kinds (IPv4,
IPv4-mapped, other IPv6);
`anonymize` and `keepBytes` have one equation per kind.  `anonymize` keeps a
prefix and pads with zeros (`anonymize_eq_take`), and changes neither the
length nor the kind (`is4in6_anonymize`); the rest follows by the `take` /
`drop` / `++` lemmas of `List`.
-/
import AGH.Spec.Record
namespace AGH.C08
open AGH AGH.Bytes

theorem zeros_length (n : Nat) : (zeros n).length = n := List.length_replicate

theorem is4in6_length {a : Bytes} (h : is4in6 a = true) : a.length = 16 := by
  simp only [is4in6, Bool.and_eq_true, beq_iff_eq] at h
  exact h.1.1

theorem is4in6_of_length_ne {a : Bytes} (h : a.length ≠ 16) : is4in6 a = false := by
  rw [is4in6, beq_false_of_ne h]
  rfl

theorem is4in6_congr {a b : Bytes} (hl : a.length = b.length) (ht : a.take 12 = b.take 12) :
    is4in6 a = is4in6 b := by
  have h10 : ∀ x : Bytes, x.take 10 = (x.take 12).take 10 := fun x => by rw [List.take_take]; rfl
  have h2 : ∀ x : Bytes, (x.drop 10).take 2 = (x.take 12).drop 10 := fun x => by rw [List.drop_take]
  unfold is4in6
  rw [hl, h10 a, h10 b, h2 a, h2 b, ht]

/-- Six bytes and ten zeros: bytes 10 and 11 are zero, not `ff ff`. -/
theorem is4in6_pad6 {x : Bytes} (h : x.length = 6) : is4in6 (x ++ zeros 10) = false := by
  have hd : (x ++ zeros 10).drop 10 = zeros 6 := by
    rw [List.drop_append, List.drop_of_length_le (by rw [h]; decide), h]
    rfl
  unfold is4in6
  rw [hd]
  exact Bool.and_false _

/-- How many leading bytes `AnonymizeIP` keeps: 2 of an IPv4 address (16 bits),
14 of an IPv4-mapped one (the prefix and the same 16 bits), 6 of an IPv6
address (48 bits). -/
def keepBytes (a : Bytes) : Nat := if a.length = 4 then 2 else if is4in6 a then 14 else 6

theorem anonymize_v4 {a : Bytes} (h : a.length = 4) : anonymize a = a.take 2 ++ zeros 2 := by
  rw [anonymize, if_pos (by rw [h]; rfl)]

theorem anonymize_4in6 {a : Bytes} (h : is4in6 a = true) : anonymize a = a.take 14 ++ zeros 2 := by
  rw [anonymize, if_neg (by rw [is4in6_length h]; decide), if_pos h]

theorem anonymize_v6 {a : Bytes} (h : a.length = 16) (h6 : is4in6 a = false) :
    anonymize a = a.take 6 ++ zeros 10 := by
  rw [anonymize, if_neg (by rw [h]; decide), if_neg (by rw [h6]; decide), if_pos (by rw [h]; rfl)]

theorem anonymize_other {a : Bytes} (h : ¬(a.length = 4 ∨ a.length = 16)) : anonymize a = a := by
  have h16 : a.length ≠ 16 := fun e => h (Or.inr e)
  rw [anonymize, if_neg fun e => h (Or.inl (eq_of_beq e)), is4in6_of_length_ne h16,
    if_neg Bool.false_ne_true, if_neg fun e => h16 (eq_of_beq e)]

theorem keepBytes_v4 {a : Bytes} (h : a.length = 4) : keepBytes a = 2 := by
  rw [keepBytes, if_pos h]

theorem keepBytes_4in6 {a : Bytes} (h : is4in6 a = true) : keepBytes a = 14 := by
  rw [keepBytes, if_neg (by rw [is4in6_length h]; decide), if_pos h]

theorem keepBytes_v6 {a : Bytes} (h : a.length = 16) (h6 : is4in6 a = false) : keepBytes a = 6 := by
  rw [keepBytes, if_neg (by rw [h]; decide), if_neg (by rw [h6]; decide)]

theorem addr_kinds {a : Bytes} (h : a.length = 4 ∨ a.length = 16) :
    a.length = 4 ∨ is4in6 a = true ∨ (a.length = 16 ∧ is4in6 a = false) := by
  rcases h with h | h
  · exact Or.inl h
  · cases h6 : is4in6 a
    · exact Or.inr (Or.inr ⟨h, rfl⟩)
    · exact Or.inr (Or.inl rfl)

theorem anonymize_eq_take (a : Bytes) (h : a.length = 4 ∨ a.length = 16) :
    anonymize a = a.take (keepBytes a) ++ zeros (a.length - keepBytes a) := by
  rcases addr_kinds h with h | h | ⟨h, h6⟩
  · rw [anonymize_v4 h, keepBytes_v4 h, h]
  · rw [anonymize_4in6 h, keepBytes_4in6 h, is4in6_length h]
  · rw [anonymize_v6 h h6, keepBytes_v6 h h6, h]

theorem keepBytes_le (a : Bytes) (h : a.length = 4 ∨ a.length = 16) : keepBytes a ≤ a.length := by
  rcases addr_kinds h with h | h | ⟨h, h6⟩
  · rw [keepBytes_v4 h, h]; decide
  · rw [keepBytes_4in6 h, is4in6_length h]; decide
  · rw [keepBytes_v6 h h6, h]; decide

theorem anonymize_length (a : Bytes) : (anonymize a).length = a.length := by
  by_cases h : a.length = 4 ∨ a.length = 16
  · have hk := keepBytes_le a h
    rw [anonymize_eq_take a h, List.length_append, List.length_take_of_le hk, zeros_length]
    exact Nat.add_sub_cancel' hk
  · rw [anonymize_other h]

theorem is4in6_anonymize (a : Bytes) : is4in6 (anonymize a) = is4in6 a := by
  by_cases h6 : is4in6 a = true
  · -- fourteen bytes are kept, twelve are looked at
    apply is4in6_congr (anonymize_length a)
    rw [anonymize_4in6 h6, List.take_append_of_le_length, List.take_take]
    · rfl
    · rw [List.length_take, is4in6_length h6]; decide
  · have h6' : is4in6 a = false := by simpa using h6
    by_cases h16 : a.length = 16
    · rw [anonymize_v6 h16 h6', h6']
      exact is4in6_pad6 (by rw [List.length_take, h16]; rfl)
    · rw [h6', is4in6_of_length_ne (by rw [anonymize_length]; exact h16)]

theorem keepBytes_anonymize (a : Bytes) : keepBytes (anonymize a) = keepBytes a := by
  unfold keepBytes
  rw [anonymize_length, is4in6_anonymize]

theorem anonymize_idem (a : Bytes) : anonymize (anonymize a) = anonymize a := by
  by_cases h : a.length = 4 ∨ a.length = 16
  · have hk := keepBytes_le a h
    rw [anonymize_eq_take (anonymize a) (by rw [anonymize_length]; exact h), keepBytes_anonymize,
      anonymize_length, anonymize_eq_take a h,
      List.take_left' (List.length_take_of_le hk)]
  · rw [anonymize_other h, anonymize_other h]

theorem anonymize_bytes (a : Bytes) (h : a.length = 4 ∨ a.length = 16) (i : Nat) :
    (i < keepBytes a → (anonymize a)[i]? = a[i]?) ∧
    (keepBytes a ≤ i → i < a.length → (anonymize a)[i]? = some 0) := by
  have hk := keepBytes_le a h
  have hl : (a.take (keepBytes a)).length = keepBytes a := List.length_take_of_le hk
  rw [anonymize_eq_take a h]
  constructor
  · intro hi
    rw [List.getElem?_append_left (by rw [hl]; exact hi), List.getElem?_take_of_lt hi]
  · intro hi hlt
    rw [List.getElem?_append_right (by rw [hl]; exact hi), hl, zeros, List.getElem?_replicate,
      if_pos (Nat.sub_lt_sub_right hi hlt)]

theorem canon_length (a : Bytes) (h : a.length = 4 ∨ a.length = 16) :
    (canon a).length = 4 ∨ (canon a).length = 16 := by
  unfold canon
  by_cases h6 : is4in6 a = true
  · rw [if_pos h6, List.length_drop, is4in6_length h6]
    exact Or.inl rfl
  · rw [if_neg h6]
    exact h

/-- A canonical address is never IPv4-mapped, so `canon` is idempotent. -/
theorem canon_canon (a : Bytes) : canon (canon a) = canon a := by
  unfold canon
  by_cases h6 : is4in6 a = true
  · have : is4in6 (a.drop 12) = false :=
      is4in6_of_length_ne (by rw [List.length_drop, is4in6_length h6]; decide)
    rw [if_pos h6, this]
    rfl
  · rw [if_neg h6, if_neg h6]

theorem masked_pad {x : Bytes} :
    (x.length = 2 → masked (x ++ zeros 2) = true) ∧ (x.length = 6 → masked (x ++ zeros 10) = true) := by
  constructor <;> intro h <;>
    simp only [masked, List.length_append, zeros_length, h, List.drop_left' h] <;> rfl

theorem masked_canon_anonymize (a : Bytes) (h : a.length = 4 ∨ a.length = 16) :
    masked (canon (anonymize a)) = true := by
  rw [canon, is4in6_anonymize]
  rcases addr_kinds h with h | h | ⟨h, h6⟩
  · rw [is4in6_of_length_ne (by rw [h]; decide), anonymize_v4 h]
    exact masked_pad.1 (by rw [List.length_take, h]; rfl)
  · -- bytes 12 and 13, then two zeros
    have hl := is4in6_length h
    rw [h, anonymize_4in6 h, if_pos rfl, List.drop_append_of_le_length (by rw [List.length_take, hl]; decide)]
    exact masked_pad.1 (by rw [List.length_drop, List.length_take, hl]; rfl)
  · rw [h6, anonymize_v6 h h6]
    exact masked_pad.2 (by rw [List.length_take, h]; rfl)

/-- `masked_canon_anonymize` of an address already in canonical form, which is what a record holds. -/
theorem canon_anonymize_canon (a : Bytes) (h : a.length = 4 ∨ a.length = 16) :
    masked (canon (anonymize (canon a))) = true :=
  masked_canon_anonymize (canon a) (canon_length a h)

end AGH.C08
