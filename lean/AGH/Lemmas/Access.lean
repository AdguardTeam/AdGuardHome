/-
C03 (access lists): prefix containment as equality of the leading bits; what
`processAccessClients` stores (`listsOf`), and what `IsBlockedClient` decides
in terms of the two lists as written (`addrListed`, `idListed`, `excluded`:
`decision_general`, `decision_in_scope`); `HandleBefore` as one test over that
decision and the blocked names (`handleBefore_eq`) and what its passing exit
implies (`handleBefore_pass`); at the end the two outcomes of `accessSet`.
-/
import AGH.Spec.Access
namespace AGH.C03
open AGH AGH.Bytes

theorem xor_eq_zero_iff (x y : Nat) : x ^^^ y = 0 ↔ x = y := by
  constructor
  · intro h
    apply Nat.eq_of_testBit_eq
    intro i
    have := congrArg (fun n => n.testBit i) h
    simp only [Nat.testBit_xor, Nat.zero_testBit] at this
    cases hx : x.testBit i <;> cases hy : y.testBit i <;> simp_all
  · rintro rfl
    exact Nat.xor_self x

/-- Go's "xor, shift, compare with zero" is "same network number". -/
theorem xor_shift_beq_zero (x y k : Nat) :
    ((x ^^^ y) >>> k == 0) = (x / 2 ^ k == y / 2 ^ k) := by
  rw [Nat.shiftRight_xor_distrib, Nat.shiftRight_eq_div_pow, Nat.shiftRight_eq_div_pow]
  apply Bool.eq_iff_iff.mpr
  simp only [beq_iff_eq]
  exact xor_eq_zero_iff _ _

theorem div_pow_eq_iff_bits (x y k : Nat) :
    x / 2 ^ k = y / 2 ^ k ↔ ∀ i, k ≤ i → x.testBit i = y.testBit i := by
  constructor
  · intro h i hi
    have := congrArg (fun n => n.testBit (i - k)) h
    simp only [Nat.testBit_div_two_pow] at this
    rwa [Nat.sub_add_cancel hi] at this
  · intro h
    apply Nat.eq_of_testBit_eq
    intro i
    simp only [Nat.testBit_div_two_pow]
    exact h (i + k) (Nat.le_add_left k i)

/-- `ipnet.Contains(ip.WithZone(""))` is the spec's CIDR membership. -/
theorem contains_withoutZone (p : Prefix) (ip : IP) :
    p.contains ip.withoutZone = inCIDR p ip := by
  cases ip with
  | invalid => rfl
  | v4 n => simp only [IP.withoutZone, Prefix.contains, inCIDR, xor_shift_beq_zero]
  | v6 n z =>
    simp only [IP.withoutZone, Prefix.contains, inCIDR, xor_shift_beq_zero, List.isEmpty_nil,
      Bool.true_and]

/-- The three containers `processAccessClients` builds from a list it accepts (`processFrom_eq_ok`). -/
def listsOf : List Entry → Lists
  | [] => {}
  | e :: es =>
    match e.parse with
    | .addr a => { listsOf es with ips := a :: (listsOf es).ips }
    | .pfx p => { listsOf es with nets := p :: (listsOf es).nets }
    | .none => { listsOf es with ids := e.raw :: (listsOf es).ids }

theorem processFrom_eq_ok (i : Nat) (es : List Entry) (acc l : Lists) :
    processFrom i es acc = .ok l ↔
      (∀ e ∈ es, e.parse = .none → C16.validLabel e.raw = true) ∧
      l = ⟨acc.ips ++ (listsOf es).ips, acc.nets ++ (listsOf es).nets, acc.ids ++ (listsOf es).ids⟩ := by
  induction es generalizing i acc with
  | nil =>
    simp only [processFrom, Except.ok.injEq, listsOf, List.append_nil,
      List.not_mem_nil, false_imp_iff, implies_true, true_and]
    exact eq_comm
  | cons e rest ih =>
    unfold processFrom listsOf
    rw [List.forall_mem_cons]
    cases hp : e.parse with
    | addr ip =>
      simp only [ih, reduceCtorEq, false_imp_iff, true_and, List.append_assoc, List.singleton_append]
    | pfx p =>
      simp only [ih, reduceCtorEq, false_imp_iff, true_and, List.append_assoc, List.singleton_append]
    | none =>
      by_cases hv : C16.validLabel e.raw = true
      · simp only [hv, if_true, ih, forall_const, true_and, List.append_assoc, List.singleton_append]
      · simp only [hv, if_false, reduceCtorEq, forall_const, false_and, Bool.false_eq_true]

theorem processAccessClients_ok {es : List Entry} {l : Lists} (h : processAccessClients es = .ok l) :
    l = listsOf es :=
  ((processFrom_eq_ok 0 es {} l).mp h).2

theorem processFrom_isOk (i : Nat) (es : List Entry) (acc : Lists) :
    (∃ l, processFrom i es acc = .ok l) ↔
      ∀ e ∈ es, e.parse = .none → C16.validLabel e.raw = true := by
  simp only [processFrom_eq_ok, exists_and_left, exists_eq, and_true]

/-- An accepted configuration is a function of the two lists, so the lemmas below speak of
`⟨listsOf al, listsOf bl⟩` and carry no acceptance hypothesis. -/
theorem newAccessCtx_ok {al bl : List Entry} {a : Access} :
    newAccessCtx al bl = .ok a → a = ⟨listsOf al, listsOf bl⟩ := by
  fun_cases newAccessCtx al bl with
  | case3 l ha l' hb =>
    intro h; cases h
    rw [processAccessClients_ok ha, processAccessClients_ok hb]
  | _ => nofun

/-- Address test of `isBlockedIP` against one pair of containers. -/
def addrHit (l : Lists) (ip : IP) : Bool :=
  l.ips.contains ip || l.nets.any (fun ipnet => ipnet.contains ip.withoutZone)

theorem addrListed_eq (es : List Entry) (ip : IP) :
    addrListed es ip = (ip.isValid && addrHit (listsOf es) ip) := by
  unfold addrListed
  congr 1
  induction es with
  | nil => rfl
  | cons e es ih =>
    rw [List.any_cons, ih, listsOf]
    cases e.parse with
    | addr a =>
      simp only [addrHit, List.contains_cons, Bool.or_assoc, Bool.beq_comm (a := ip) (b := a)]
    | pfx p =>
      simp only [addrHit, List.any_cons, contains_withoutZone, Bool.or_left_comm]
    | none => simp only [addrHit, Bool.false_or]

theorem idListed_eq (es : List Entry) (id : Bytes) :
    idListed es id = (decide (id ≠ []) && (listsOf es).ids.contains id) := by
  unfold idListed
  congr 1
  induction es with
  | nil => rfl
  | cons e es ih =>
    rw [List.any_cons, ih, listsOf]
    cases e.parse with
    | addr a => rfl
    | pfx p => rfl
    | none =>
      simp only [List.contains_cons, Bool.beq_comm (a := id) (b := e.raw)]
      rfl

theorem allowlistMode_listsOf (al : List Entry) (b : Lists) :
    Access.allowlistMode ⟨listsOf al, b⟩ = !al.isEmpty := by
  cases al with
  | nil => rfl
  | cons e es =>
    simp only [Access.allowlistMode, listsOf]
    cases e.parse <;> simp

/-- The flag of `isBlockedIP`'s three exits: `b` on a hit, `!b` otherwise. -/
theorem isBlockedIP_exits_fst {ρ : Type} (b : Bool) {c₁ c₂ : Bool} {r₁ r₂ r₃ : ρ} :
    (if c₁ then (b, r₁) else if c₂ then (b, r₂) else (!b, r₃)).1 =
      if b then c₁ || c₂ else !(c₁ || c₂) := by
  cases c₁ <;> cases c₂ <;> cases b <;> rfl

theorem isBlockedIP_fst (a : Access) (ip : IP) :
    (a.isBlockedIP ip).1 = if a.allowlistMode then !addrHit a.allowed ip else addrHit a.blocked ip := by
  unfold Access.isBlockedIP
  cases a.allowlistMode
  · exact isBlockedIP_exits_fst true
  · exact isBlockedIP_exits_fst false

/-- The flag of `IsBlockedClient`'s three exits, as a function of the mode and the two tests. -/
theorem isBlockedClient_exits_fst {ρ : Type} {m : Bool} (i : Bool) {c : Bool} {r r' : ρ} :
    (if m && i && c then (true, r) else if !m && (i || c) then (true, r') else (false, r')).1 =
      if m then i && c else i || c := by
  cases m <;> cases i <;> cases c <;> rfl

/-- The zero address counts as not blocked by IP. -/
theorem isBlockedClient_fst (a : Access) (ip : IP) (id : Bytes) :
    (a.isBlockedClient ip id).1 =
      if a.allowlistMode then (ip.isValid && (a.isBlockedIP ip).1) && a.isBlockedClientID id
      else (ip.isValid && (a.isBlockedIP ip).1) || a.isBlockedClientID id := by
  unfold Access.isBlockedClient
  cases ip.isValid
  · exact isBlockedClient_exits_fst false
  · exact isBlockedClient_exits_fst (a.isBlockedIP ip).1

theorem isBlockedClientID_listsOf (al bl : List Entry) (id : Bytes) :
    Access.isBlockedClientID ⟨listsOf al, listsOf bl⟩ id =
      if !al.isEmpty then !idListed al id else idListed bl id := by
  unfold Access.isBlockedClientID
  simp only [allowlistMode_listsOf, idListed_eq]
  by_cases hid : id = []
  · subst hid
    cases al.isEmpty <;> simp
  · cases al.isEmpty <;> simp [hid]

theorem decision_general {al bl : List Entry} {a : Access} (h : newAccessCtx al bl = .ok a)
    (ip : IP) (id : Bytes) :
    (a.isBlockedClient ip id).1 =
      if !al.isEmpty then (ip.isValid && !addrListed al ip) && !idListed al id
      else addrListed bl ip || idListed bl id := by
  rw [newAccessCtx_ok h, isBlockedClient_fst, isBlockedIP_fst, isBlockedClientID_listsOf,
    allowlistMode_listsOf, addrListed_eq, addrListed_eq]
  cases ip.isValid <;> cases al.isEmpty <;> simp

/-- `hs` is `inScope`, the domain of the property; it does not exclude the zero address. -/
theorem decision_in_scope {al bl : List Entry} {a : Access} (h : newAccessCtx al bl = .ok a)
    (ip : IP) (id : Bytes) (hs : (ip.isValid || al.isEmpty || idListed al id) = true) :
    (a.isBlockedClient ip id).1 = excluded al bl ip id := by
  rw [decision_general h, excluded]
  cases hv : ip.isValid with
  | true => cases al.isEmpty <;> simp
  | false =>
    have h1 : ∀ es, addrListed es ip = false := by intro es; simp [addrListed, hv]
    simp only [hv, Bool.false_or, Bool.or_eq_true] at hs
    cases he : al.isEmpty with
    | true => simp [h1]
    | false =>
      simp only [he, false_or, Bool.false_eq_true] at hs
      simp [h1, hs]

theorem preBlockedResponse_ne_pass (p : C16.Proto) : preBlockedResponse p ≠ .pass := by
  unfold preBlockedResponse
  split <;> exact fun h => nomatch h

theorem preBlockedResponse_eq_refusal (p : C16.Proto) : preBlockedResponse p = refusal p := by
  cases p <;> rfl

theorem handleBefore_eq (a : Access) (r : Request) :
    handleBefore a r =
      if (a.isBlockedClient r.addr r.effectiveID).1 || nameBlocked r then (preBlockedResponse r.proto, [])
      else match r.clientID with
        | .error _ => (.servfail, [])
        | .ok _ => (.pass, r.effectiveID) := by
  unfold handleBefore nameBlocked
  dsimp only
  cases (a.isBlockedClient r.addr r.effectiveID).1
  · simp only [Bool.false_eq_true, if_false, Bool.false_or, Bool.and_eq_true, beq_iff_eq]
    -- the two sides differ only in the `Decidable` instance of the test
    congr
  · rfl

theorem handleBefore_pass {a : Access} {r : Request} :
    (handleBefore a r).1 = .pass →
      (a.isBlockedClient r.addr r.effectiveID).1 = false ∧ nameBlocked r = false ∧ ∃ id, r.clientID = .ok id := by
  -- the exits of `handleBefore`: client blocked, name blocked (both `preBlockedResponse`), malformed ClientID (`.servfail`), pass
  fun_cases handleBefore a r with
  | case1 | case2 => exact fun h => absurd h (preBlockedResponse_ne_pass _)
  | case3 => nofun
  | case4 _ hc hn id hid =>
    refine fun _ => ⟨Bool.eq_false_iff.2 hc, Bool.eq_false_iff.2 fun h => hn ?_, id, hid⟩
    rwa [nameBlocked, Bool.and_eq_true, beq_iff_eq] at h

theorem accessSet_cases (cur : Access) (al bl : List Entry) (hosts : List Bytes) :
    ((accessSet cur al bl hosts).2 ≠ none ∧ (accessSet cur al bl hosts).1 = cur) ∨
    ((accessSet cur al bl hosts).2 = none ∧ newAccessCtx al bl = .ok (accessSet cur al bl hosts).1) := by
  fun_cases accessSet cur al bl hosts with
  | case1 | case2 => exact Or.inl ⟨nofun, rfl⟩
  | case3 _ a h => exact Or.inr ⟨rfl, h⟩

end AGH.C03
