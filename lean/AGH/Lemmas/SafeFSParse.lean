/-
C17 helper lemmas on the declarative pattern parser (`parseGlob`): it reads a
pattern term by term (`headTerm`, each term a non-empty piece of the text that
does not depend on what follows it), which is the relation `Parses`; there the
terms of a concatenation are the concatenated terms, and the fuel of
`parseGlobF` appears only in its two bridges to it (together
`parseGlob_eq_some_iff`).  Also
what parser and declarative matcher (`matchesT`) do with leading stars.
-/
import AGH.Lemmas.Utf8
import AGH.Spec.SafeFS
namespace AGH.C17
open AGH AGH.Bytes

/-- The cases are those of `classChar`'s text: no character, a refused one, an accepted one. -/
theorem classChar_local {s : Bytes} {r : Nat} {s1 : Bytes} : classChar s = some (r, s1) →
    (s1 ≠ [] ∧ s1.length < s.length) ∧ ∀ b, classChar (s ++ b) = some (r, s1 ++ b) := by
  fun_cases classChar s
  · intro h; cases h
  · intro h; cases h
  · next c cs body d hn =>
    unfold d at hn ⊢
    intro h; cases h
    simp only [not_or] at hn
    obtain ⟨h1, h2, hb, hd, hne⟩ := hn
    have hsz := decodeRune_size _ hb
    refine ⟨⟨hne, ?_⟩, fun b => ?_⟩
    · have : body.length ≤ (c :: cs).length := by
        unfold body
        split
        · exact Nat.le_succ _
        · exact Nat.le_refl _
      rw [List.length_drop]
      omega
    · have hbody' : (if c = cBsl then cs ++ b else c :: (cs ++ b)) = body ++ b := by
        unfold body; split <;> rfl
      rw [List.cons_append]
      unfold classChar
      dsimp only
      rw [hbody', decodeRune_append _ b hd hb, List.drop_append_of_le_length hsz.2, if_neg]
      simp only [not_or]
      exact ⟨h1, h2, by simp [hb], hd, by simp [hne]⟩

theorem head?_append_of_ne_nil {s b : Bytes} (h : s ≠ []) : (s ++ b).head? = s.head? := by
  cases s with
  | nil => exact absurd rfl h
  | cons a t => rfl

theorem parseRanges_local {f : Nat} {s : Bytes} {acc rs : List (Nat × Nat)} {rest : Bytes}
    (h : parseRanges f s acc = some (rs, rest)) :
    rest.length < s.length ∧
    ∀ b g, (s ++ b).length + 1 ≤ g → parseRanges g (s ++ b) acc = some (rs, rest ++ b) := by
  -- with the fuel `g` of the run on `s ++ b` fixed first, both runs unfold together and each test is decided once
  suffices ∀ (b : Bytes) (f : Nat) {s : Bytes} {acc rs : List (Nat × Nat)} {rest : Bytes},
      parseRanges f s acc = some (rs, rest) → ∀ g, s.length + b.length < g →
        rest.length < s.length ∧ parseRanges g (s ++ b) acc = some (rs, rest ++ b) from
    ⟨(this [] f h _ (Nat.lt_succ_self _)).1,
      fun b g hg => (this b f h g (by rwa [List.length_append] at hg)).2⟩
  clear h
  intro b f
  induction f with
  | zero => intro s acc rs rest h; cases h
  | succ f ih =>
    intro s acc rs rest h g hg
    obtain ⟨g, rfl⟩ := Nat.exists_eq_add_one_of_ne_zero (Nat.ne_of_gt (Nat.zero_lt_of_lt hg))
    have hs : s ≠ [] := by
      intro h0; subst h0; cases h
    -- a step that leaves `s'` of `s` leaves enough fuel
    have next : ∀ {s' : Bytes} {r : Nat × Nat}, s'.length < s.length → parseRanges f s' (r :: acc) = some (rs, rest) →
        rest.length < s.length ∧ parseRanges g (s' ++ b) (r :: acc) = some (rs, rest ++ b) := fun hl hrun =>
      have := ih hrun g (Nat.lt_of_lt_of_le (Nat.add_lt_add_right hl _) (Nat.le_of_lt_succ hg))
      ⟨Nat.lt_trans this.1 hl, this.2⟩
    unfold parseRanges at h ⊢
    rw [head?_append_of_ne_nil hs]
    by_cases hc : s.head? = some cRBr ∧ acc ≠ []
    · rw [if_pos hc] at h ⊢
      cases h
      rw [List.tail_append_of_ne_nil hs, List.length_tail]
      exact ⟨Nat.sub_one_lt (fun h0 => hs (List.length_eq_zero_iff.mp h0)), rfl⟩
    · rw [if_neg hc] at h ⊢
      cases h1 : classChar s with
      | none => rw [h1] at h; cases h
      | some p =>
        obtain ⟨lo, s1⟩ := p
        obtain ⟨⟨n1, l1⟩, a1⟩ := classChar_local h1
        rw [h1] at h
        rw [a1 b]
        dsimp only at h ⊢
        rw [head?_append_of_ne_nil n1]
        by_cases hd : s1.head? = some dash
        · rw [if_pos hd] at h ⊢
          cases h2 : classChar s1.tail with
          | none => rw [h2] at h; cases h
          | some q =>
            obtain ⟨hi, s3⟩ := q
            obtain ⟨⟨_, l2⟩, a2⟩ := classChar_local h2
            rw [h2] at h
            rw [List.tail_append_of_ne_nil n1, a2 b]
            rw [List.length_tail] at l2
            exact next (Nat.lt_trans (Nat.lt_of_lt_of_le l2 (Nat.sub_le _ _)) l1) h
        · rw [if_neg hd] at h ⊢
          exact next l1 h

theorem class_body_len (cs : Bytes) :
    (if (cs.head? == some cCaret) = true then cs.tail else cs).length ≤ cs.length := by
  split
  · rw [List.length_tail]; exact Nat.sub_le _ _
  · exact Nat.le_refl _

def escTerm : Bytes → Option (Term × Bytes)
  | [] => none
  | d :: ds => some (.lit d, ds)

def classTerm (cs : Bytes) : Option (Term × Bytes) :=
  match parseRanges ((if (cs.head? == some cCaret) = true then cs.tail else cs).length + 1)
      (if (cs.head? == some cCaret) = true then cs.tail else cs) [] with
  | none => none
  | some (rs, rest) => some (.cls (cs.head? == some cCaret) rs, rest)

/-- The first term of a pattern and the text behind it; `parseGlobF` iterates it (`parseGlobF_cons`). -/
def headTerm : Bytes → Option (Term × Bytes)
  | [] => none
  | c :: cs =>
    if c = cStar then some (.star, cs)
    else if c = cQuest then some (.any, cs)
    else if c = cBsl then escTerm cs
    else if c = cLBr then classTerm cs
    else some (.lit c, cs)

/-- By the cases of `headTerm`: in each, the text of `parseGlobF` computes to the same. -/
theorem parseGlobF_cons (f : Nat) (p : Bytes) (hp : p ≠ []) :
    parseGlobF (f + 1) p =
      match headTerm p with
      | none => none
      | some (t, rest) => (parseGlobF f rest).map (t :: ·) := by
  fun_cases headTerm p
  · exact absurd rfl hp
  · rfl
  · rfl
  · next ds _ _ => cases ds <;> rfl
  · show (match parseRanges _ _ [] with
      | none => none
      | some (rs, rest) => (parseGlobF f rest).map (Term.cls _ rs :: ·)) = _
    unfold classTerm
    cases parseRanges _ _ [] <;> rfl
  · next h1 h2 h3 h4 => exact (if_neg h1).trans ((if_neg h2).trans ((if_neg h3).trans (if_neg h4)))

theorem classTerm_local {cs : Bytes} {t : Term} {rest : Bytes} : classTerm cs = some (t, rest) →
    rest.length < cs.length ∧ ∀ b, classTerm (cs ++ b) = some (t, rest ++ b) := by
  fun_cases classTerm cs
  · intro h; cases h
  · next rs rest' hr =>
    intro h; cases h
    refine ⟨Nat.lt_of_lt_of_le (parseRanges_local hr).1 (class_body_len cs), fun b => ?_⟩
    unfold classTerm
    -- the class body is non-empty, so `head?`/`tail` see through the append
    have hcs : cs ≠ [] := by
      intro h0; subst h0; cases hr
    have hbody : (if ((cs ++ b).head? == some cCaret) = true then (cs ++ b).tail else cs ++ b)
        = (if (cs.head? == some cCaret) = true then cs.tail else cs) ++ b := by
      rw [head?_append_of_ne_nil hcs, List.tail_append_of_ne_nil hcs]
      split <;> rfl
    rw [hbody, head?_append_of_ne_nil hcs, (parseRanges_local hr).2 b _ (Nat.le_refl _)]

theorem headTerm_local {p : Bytes} {t : Term} {rest : Bytes} : headTerm p = some (t, rest) →
    rest.length < p.length ∧ ∀ b, headTerm (p ++ b) = some (t, rest ++ b) := by
  -- the exits: the empty pattern, `*`, `?`, `\` (what `escTerm` reads), `[` (what `classTerm` reads), any other byte
  fun_cases headTerm p
  · intro h; cases h
  · intro h; cases h
    exact ⟨Nat.lt_succ_self _, fun b => rfl⟩
  · intro h; cases h
    exact ⟨Nat.lt_succ_self _, fun b => rfl⟩
  · next ds _ _ =>
    intro h
    cases ds with
    | nil => cases h
    | cons d ds => cases h; exact ⟨Nat.lt_succ_of_lt (Nat.lt_succ_self _), fun b => rfl⟩
  · intro h
    exact ⟨Nat.lt_succ_of_lt (classTerm_local h).1, (classTerm_local h).2⟩
  · next h1 h2 h3 h4 =>
    intro h; cases h
    exact ⟨Nat.lt_succ_self _, fun b => (if_neg h1).trans ((if_neg h2).trans ((if_neg h3).trans (if_neg h4)))⟩

/-- `p` reads, term by term, as `ts`: the parser without its fuel. -/
inductive Parses : Bytes → List Term → Prop
  | nil : Parses [] []
  | cons {p rest : Bytes} {t : Term} {ts : List Term} :
      headTerm p = some (t, rest) → Parses rest ts → Parses p (t :: ts)

theorem Parses.append {a b : Bytes} {ta tb : List Term} (ha : Parses a ta) (hb : Parses b tb) :
    Parses (a ++ b) (ta ++ tb) := by
  induction ha with
  | nil => exact hb
  | cons hh _ ih => exact .cons ((headTerm_local hh).2 b) ih

theorem Parses.of_parseGlobF : ∀ (f : Nat) (p : Bytes) (t : List Term), parseGlobF f p = some t → Parses p t := by
  intro f
  induction f with
  | zero => intro p t h; cases h
  | succ f ih =>
    intro p t h
    cases p with
    | nil => cases h; exact .nil
    | cons c cs =>
      rw [parseGlobF_cons _ _ (List.cons_ne_nil _ _)] at h
      cases hh : headTerm (c :: cs) with
      | none => rw [hh] at h; cases h
      | some q =>
        rw [hh] at h
        obtain ⟨t', ht', rfl⟩ := Option.map_eq_some_iff.mp h
        exact .cons hh (ih _ _ ht')

/-- Every term uses up some of the pattern, so any fuel above its length is enough. -/
theorem Parses.parseGlobF {p : Bytes} {t : List Term} (h : Parses p t) :
    ∀ g, p.length < g → parseGlobF g p = some t := by
  induction h with
  | nil =>
    intro g hg
    cases g with
    | zero => cases hg
    | succ g => rfl
  | @cons p rest t0 ts hh _ ih =>
    intro g hg
    cases g with
    | zero => cases hg
    | succ g =>
      rw [parseGlobF_cons g p (fun h0 => by rw [h0] at hh; cases hh), hh]
      exact congrArg (Option.map (t0 :: ·))
        (ih g (Nat.lt_of_lt_of_le (headTerm_local hh).1 (Nat.le_of_lt_succ hg)))

theorem parseGlob_eq_some_iff {p : Bytes} {t : List Term} : parseGlob p = some t ↔ Parses p t :=
  ⟨Parses.of_parseGlobF _ p t, fun h => h.parseGlobF _ (Nat.lt_succ_self _)⟩

theorem Parses.stars (k : Nat) {p : Bytes} {t : List Term} (h : Parses p t) :
    Parses (List.replicate k cStar ++ p) (List.replicate k Term.star ++ t) := by
  induction k with
  | zero => exact h
  | succ k ih => exact .cons rfl ih

theorem matchesT_star (ts : List Term) (n : Bytes) :
    matchesT (.star :: ts) n = true ↔
      ∃ k, k ≤ n.length ∧ (n.take k).contains slash = false ∧ matchesT ts (n.drop k) = true := by
  simp only [matchesT, List.any_eq_true, List.mem_range, Bool.and_eq_true, Bool.not_eq_true']
  constructor
  · rintro ⟨k, hk, h1, h2⟩; exact ⟨k, by omega, h1, h2⟩
  · rintro ⟨k, hk, h1, h2⟩; exact ⟨k, by omega, h1, h2⟩

/-- Leading stars: the first takes the separator-free `pre` (there must be one if `pre` is not
empty), the others nothing. -/
theorem matchesT_stars {ts : List Term} {suf : Bytes} (h : matchesT ts suf = true) :
    ∀ (k : Nat) (pre : Bytes), pre.contains slash = false → (pre ≠ [] → 0 < k) →
      matchesT (List.replicate k .star ++ ts) (pre ++ suf) = true := by
  intro k
  induction k with
  | zero =>
    intro pre _ hk
    cases pre with
    | nil => exact h
    | cons a pre' => exact absurd (hk (List.cons_ne_nil _ _)) (Nat.lt_irrefl 0)
  | succ k ih =>
    intro pre hpre _
    rw [List.replicate_succ, List.cons_append]
    refine (matchesT_star _ _).mpr ⟨pre.length, ?_, ?_, ?_⟩
    · rw [List.length_append]; exact Nat.le_add_right _ _
    · rw [List.take_left' rfl]; exact hpre
    · rw [List.drop_left' rfl]; exact ih [] rfl (fun hh => absurd rfl hh)

end AGH.C17
