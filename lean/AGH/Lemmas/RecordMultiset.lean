/-
C08 lemmas: multiset difference of record lists and growth of counters.
-/
import AGH.Spec.Record
namespace AGH.C08
open AGH AGH.Bytes

variable {α : Type} [BEq α]

theorem minus_nil_left (b : List α) : minus ([] : List α) b = [] := by
  unfold minus
  induction b with
  | nil => rfl
  | cons x rest ih => simpa using ih

variable [LawfulBEq α]

theorem minus_append_self (m x : List α) : minus (m ++ x) m = x := by
  unfold minus
  induction m with
  | nil => rfl
  | cons y rest ih =>
    simp only [List.foldl_cons, List.cons_append, List.erase_cons_head]
    exact ih

theorem minus_self (m : List α) : minus m m = [] := by
  have := minus_append_self m ([] : List α)
  simpa using this

theorem le_cnt_of_mem {m : List (α × Nat)} {k : α} {n : Nat} (h : (k, n) ∈ m) : n ≤ cnt m k := by
  induction m with
  | nil => cases h
  | cons kv rest ih =>
    obtain ⟨k', n'⟩ := kv
    rcases List.mem_cons.mp h with heq | hr
    · cases heq
      simp only [cnt, beq_self_eq_true, if_true, Nat.le_add_right]
    · exact Nat.le_trans (ih hr) (Nat.le_add_left _ _)

theorem grown_of_subset {a m : List (α × Nat)} (h : ∀ kv ∈ a, kv ∈ m) : grown a m = [] := by
  unfold grown
  rw [List.filter_eq_nil_iff.mpr fun kv hkv hgt =>
    Nat.not_le.mpr (of_decide_eq_true hgt) (le_cnt_of_mem (k := kv.1) (n := kv.2) (h kv hkv))]
  rfl

theorem grown_self (m : List (α × Nat)) : grown m m = [] :=
  grown_of_subset fun _ h => h

theorem grown_filter (m : List (α × Nat)) (p : α × Nat → Bool) : grown (m.filter p) m = [] :=
  grown_of_subset fun _ h => (List.mem_filter.mp h).1

theorem mem_bump_ne {m : List (α × Nat)} {k x : α} {n : Nat} (hne : (x == k) = false) :
    (x, n) ∈ bump m k → (x, n) ∈ m := by
  -- the one entry `bump` writes has a key equal to `k`
  have hx : ∀ {k' j}, (k' == k) = true → (x, n) ≠ (k', j) := fun hk heq => by
    rw [(Prod.mk.inj heq).1, hk] at hne
    cases hne
  fun_induction bump m k with
  | case1 => exact fun h => absurd (List.mem_singleton.mp h) (hx (beq_self_eq_true k))
  | case2 k' n' rest hk => exact fun h => (List.mem_cons.mp h).elim (absurd · (hx hk)) (List.mem_cons_of_mem _)
  | case3 k' n' rest hk ih => exact fun h => List.mem_cons.mpr ((List.mem_cons.mp h).imp_right ih)

theorem grown_bump {m : List (α × Nat)} {k x : α} (h : x ∈ grown (bump m k) m) : x = k := by
  unfold grown at h
  obtain ⟨kv, hkv, rfl⟩ := List.mem_map.mp h
  obtain ⟨hin, hgt⟩ := List.mem_filter.mp hkv
  cases hk : kv.1 == k
  · exact absurd (le_cnt_of_mem (mem_bump_ne hk hin))
      (Nat.not_le.mpr (of_decide_eq_true hgt))
  · exact eq_of_beq hk

end AGH.C08
