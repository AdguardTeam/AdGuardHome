/-
Insertion into a list in front of the first element that the new one precedes: the shape of the
insertion sorts of the models (`insertDesc`, `insDesc`, `insertSorted`, `insertByName`, `insertByHost`).
`IsIns lt ins` is the two defining equations; a region proves it from the two equations of its own
function and gets membership, permutation and sortedness from here.  Core Lean only.
-/
namespace AGH.Ins
variable {α : Type} {lt : α → α → Prop} [DecidableRel lt] {ins : α → List α → List α}

structure IsIns (lt : α → α → Prop) [DecidableRel lt] (ins : α → List α → List α) : Prop where
  nil : ∀ x, ins x [] = [x]
  cons : ∀ x y r, ins x (y :: r) = if lt x y then x :: y :: r else y :: ins x r

theorem IsIns.perm (h : IsIns lt ins) (x : α) (l : List α) : (ins x l).Perm (x :: l) := by
  induction l with
  | nil => rw [h.nil]
  | cons y r ih =>
    rw [h.cons]
    split
    · exact .refl _
    · exact (ih.cons y).trans (.swap x y r)

theorem IsIns.mem (h : IsIns lt ins) {x y : α} {l : List α} : y ∈ ins x l ↔ y = x ∨ y ∈ l :=
  (h.perm x l).mem_iff.trans List.mem_cons

theorem IsIns.pairwise (h : IsIns lt ins) {R : α → α → Prop} (h1 : ∀ a b, lt a b → R a b)
    (h2 : ∀ a b, ¬ lt a b → R b a) (tr : ∀ a b c, R a b → R b c → R a c) (x : α) {l : List α}
    (hl : l.Pairwise R) : (ins x l).Pairwise R := by
  induction l with
  | nil => rw [h.nil]; exact List.pairwise_singleton _ _
  | cons y r ih =>
    have hy := List.pairwise_cons.1 hl
    rw [h.cons]
    split
    · next hlt =>
      exact List.pairwise_cons.2 ⟨fun z hz => (List.mem_cons.1 hz).elim (· ▸ h1 _ _ hlt)
        fun hz => tr _ _ _ (h1 _ _ hlt) (hy.1 z hz), hl⟩
    · next hn =>
      exact List.pairwise_cons.2 ⟨fun z hz => (h.mem.1 hz).elim (· ▸ h2 _ _ hn) (hy.1 z), ih hy.2⟩

theorem IsIns.perm_foldr (h : IsIns lt ins) (l : List α) : (l.foldr ins []).Perm l := by
  induction l with
  | nil => exact .refl _
  | cons x r ih => exact (h.perm x _).trans (ih.cons x)

end AGH.Ins
