/-
Crashes under the POSIX model of AGH/Spec/Crash.lean.  A directory entry that survives
is the entry of some instant before the crash (`posix_entry_instant`); `dest` was settled
then (`saves_instants`, for successive saves) and the inode under it has not been touched
since (`frozen_stays`), so what the crash leaves is that version (`settled_crashIn`).
`lossy_prefix` puts the ordered model inside the POSIX one (`C14_crash_models_nested`);
`dirSnaps_start` is the ordered model's part of the stale-version witness of Props/C14.
-/
import AGH.Lemmas.FSSave
namespace AGH.C14

theorem lossy_entry {cur : Dir} {snaps : List Dir} {out : Dir} (h : Lossy cur snaps out)
    (p : Path) : out p = cur p ∨ ∃ d ∈ snaps, out p = d p := by
  induction h with
  | last cur b => exact Or.inl rfl
  | @keep cur b a rest out _ ih =>
    rcases ih with h | ⟨d, hd, h⟩
    · by_cases hb : b p = a p
      · left; simp [h, applyOp, hb]
      · right; exact ⟨a, by simp, by simp [h, applyOp, hb]⟩
    · right; exact ⟨d, by simp only [List.mem_cons] at hd ⊢; exact Or.inr hd, h⟩
  | @lose cur b a rest out _ ih =>
    rcases ih with h | ⟨d, hd, h⟩
    · exact Or.inl h
    · right; exact ⟨d, by simp only [List.mem_cons] at hd ⊢; exact Or.inr hd, h⟩

theorem dirSnaps_last (s : FS) (es : List Sys) : (run s es).names ∈ dirSnaps s es := by
  fun_induction dirSnaps s es with
  | case1 s => exact List.mem_singleton_self _
  | case2 s es ih => exact ih
  | case3 s e es _ ih => exact List.mem_cons_of_mem _ ih

theorem dirSnaps_ne_nil (s : FS) (es : List Sys) : dirSnaps s es ≠ [] :=
  List.ne_nil_of_mem (dirSnaps_last s es)

theorem dirSnaps_instant {s : FS} {es : List Sys} {d : Dir} (h : d ∈ dirSnaps s es) :
    ∃ j, d = (run s (es.take j)).names := by
  fun_induction dirSnaps s es with
  | case1 s => exact ⟨0, List.mem_singleton.mp h⟩
  | case2 s es ih =>
    obtain ⟨j, hj⟩ := ih h
    exact ⟨j + 1, hj⟩
  | case3 s e es _ ih =>
    rcases List.mem_cons.mp h with h | h
    · exact ⟨0, h⟩
    · obtain ⟨j, hj⟩ := ih h
      exact ⟨j + 1, hj⟩

theorem posix_entry_instant {s : FS} {es : List Sys} {out : Dir} (h : CrashDirPosix s es out)
    (p : Path) : ∃ j, out p = (run s (es.take j)).names p := by
  unfold CrashDirPosix at h
  cases hds : dirSnaps s es with
  | nil => exact absurd hds (dirSnaps_ne_nil s es)
  | cons d ds =>
    rw [hds] at h
    have hd : ∃ d' ∈ dirSnaps s es, out p = d' p := by
      rw [hds]
      rcases lossy_entry h p with h | h
      · exact ⟨d, List.mem_cons_self, h⟩
      · exact h
    obtain ⟨d', hd', hout⟩ := hd
    obtain ⟨j, hj⟩ := dirSnaps_instant hd'
    exact ⟨j, hout.trans (congrFun hj p)⟩

/-- Without an `fsync(dir)` in the trace, losing everything is admissible in the
ordered model: the first snapshot is the directory the trace started from. -/
theorem dirSnaps_start {s : FS} {es : List Sys} (h : ∀ e ∈ es, e ≠ Sys.fsyncDir) :
    s.names ∈ dirSnaps s es := by
  cases es with
  | nil => simp [dirSnaps]
  | cons e es =>
    simp only [dirSnaps]
    split
    · rename_i he; exact absurd he (h e (by simp))
    · simp

theorem applyOp_self (b a : Dir) : applyOp b b a = a := by
  funext p
  simp only [applyOp]
  split
  · assumption
  · rfl

/-- Losing all but a prefix of the pending operations is admissible. -/
theorem lossy_prefix (cur : Dir) (rest : List Dir) {x : Dir} (hx : x ∈ cur :: rest) :
    Lossy cur (cur :: rest) x := by
  induction rest generalizing cur with
  | nil => simp at hx; subst hx; exact Lossy.last _ _
  | cons a rest ih =>
    simp only [List.mem_cons] at hx
    rcases hx with rfl | hx
    · -- lose everything that is pending
      have : ∀ (l : List Dir) (b : Dir), Lossy x (b :: l) x := by
        intro l
        induction l with
        | nil => intro b; exact Lossy.last _ _
        | cons c l ihl => intro b; exact Lossy.lose (ihl c)
      exact this _ _
    · apply Lossy.keep
      rw [applyOp_self]
      exact ih a (by simpa [List.mem_cons] using hx)

/-- What successive saves perform, as one trace: its replay is `runSaves` (`run_performedSaves`),
its prefixes are the crash points. -/
def performedSaves (s : FS) (dest : Path) : List Save → List Sys
  | [] => []
  | sv :: rest =>
    performed s (sv.prog dest) ++ performedSaves (runAbort s (sv.prog dest)).1 dest rest

theorem performedSaves_no_openWr (dest : Path) (svs : List Save) :
    ∀ (s : FS), ∀ e ∈ performedSaves s dest svs, e.isOpenWr = false := by
  induction svs with
  | nil => intro s e he; simp [performedSaves] at he
  | cons sv rest ih =>
    intro s e he
    simp only [performedSaves, List.mem_append] at he
    rcases he with he | he
    · exact prog_no_openWr sv dest e (mem_of_mem_performed he)
    · exact ih _ e he

theorem run_performedSaves (dest : Path) (svs : List Save) :
    ∀ (s : FS), run s (performedSaves s dest svs) = runSaves s dest svs := by
  induction svs with
  | nil => intro s; rfl
  | cons sv rest ih =>
    intro s
    simp only [performedSaves, run_append, run_performed, runSaves, List.foldl_cons]
    exact ih _

theorem saves_good {dest : Path} {V : List Content} (svs : List Save) :
    ∀ s, WF s → (∀ sv ∈ svs, TempNames sv.pr sv.tmp dest) → (∀ sv ∈ svs, sv.new ∈ V) →
      GoodTrace dest V s (performedSaves s dest svs) := by
  induction svs with
  | nil => exact fun _ _ _ _ => trivial
  | cons sv rest ih =>
    intro s hwf hn hV
    refine goodTrace_append
      (save_good sv hwf (hn sv List.mem_cons_self) (hV sv List.mem_cons_self)) ?_
    rw [run_performed]
    exact ih _ (runAbort_wf hwf _) (fun x hx => hn x (List.mem_cons_of_mem _ hx))
      fun x hx => hV x (List.mem_cons_of_mem _ hx)

theorem saves_instants (dest : Path) (svs : List Save) (s₀ : FS) (old : Option Content)
    (hwf : WF s₀) (h0 : Settled s₀ dest old) (hn : ∀ sv ∈ svs, TempNames sv.pr sv.tmp dest)
    (j : Nat) :
    ∃ v, v ∈ old :: svs.map (fun sv => some sv.new) ∧
      Settled (run s₀ ((performedSaves s₀ dest svs).take j)) dest v := by
  obtain ⟨w, hw, hs⟩ := goodTrace_settled dest (svs.map Save.new) _ s₀ old hwf h0
    (saves_good svs s₀ hwf hn fun sv hsv => List.mem_map_of_mem hsv) j
  refine ⟨w, ?_, hs⟩
  rcases hw with rfl | ⟨c, hc, rfl⟩
  · exact List.mem_cons_self
  · obtain ⟨sv, hsv, rfl⟩ := List.mem_map.1 hc
    exact List.mem_cons_of_mem _ (List.mem_map_of_mem (f := fun sv => some sv.new) hsv)

theorem saves_settled (dest : Path) (svs : List Save) (s₀ : FS) (old : Option Content)
    (hwf : WF s₀) (h0 : Settled s₀ dest old) (hn : ∀ sv ∈ svs, TempNames sv.pr sv.tmp dest) :
    WF (runSaves s₀ dest svs) ∧
      ∃ prev, prev ∈ old :: svs.map (fun sv => some sv.new) ∧
        Settled (runSaves s₀ dest svs) dest prev := by
  have h := saves_instants dest svs s₀ old hwf h0 hn (performedSaves s₀ dest svs).length
  rw [List.take_length, run_performedSaves] at h
  exact ⟨run_performedSaves dest svs s₀ ▸ run_wf hwf _, h⟩

theorem frozen_stays {dest : Path} {s₀ : FS} (hwf : WF s₀) {es : List Sys}
    (hes : ∀ e ∈ es, e.isOpenWr = false) {j k : Nat} (hjk : j ≤ k) {i : Nat} {c : Content}
    (hi : (run s₀ (es.take j)).names dest = some i) (hf : Frozen (run s₀ (es.take j)) i c) :
    Frozen (run s₀ (es.take k)) i c := by
  obtain ⟨d, rfl⟩ := Nat.exists_eq_add_of_le hjk
  rw [List.take_add, run_append]
  exact frozen_run _ _ ((run_wf hwf _).names_lt dest i hi) hf
    fun e he => hes e (List.mem_of_mem_drop (List.mem_of_mem_take he))

theorem crash_keeps_settled_version {dest : Path} {s₀ : FS} (hwf : WF s₀) {es : List Sys}
    (hes : ∀ e ∈ es, e.isOpenWr = false) {P : Option Content → Prop}
    (hset : ∀ j, ∃ v, P v ∧ Settled (run s₀ (es.take j)) dest v) (k : Nat) {out : Dir}
    {c : Option Content} (hcd : CrashDirPosix s₀ (es.take k) out)
    (hc : AfterCrashIn out (run s₀ (es.take k)) dest c) : P c := by
  obtain ⟨j, hj⟩ := posix_entry_instant hcd dest
  rw [List.take_take] at hj
  obtain ⟨v, hv, hs⟩ := hset (min j k)
  exact settled_crashIn hs (fun _ _ => frozen_stays hwf hes (Nat.min_le_right j k)) hj hc ▸ hv

end AGH.C14
