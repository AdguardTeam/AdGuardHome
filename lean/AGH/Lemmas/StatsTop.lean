/-
C09: the per-name maps add up to the unit's counters; truncation to the top N
on serialisation keeps the N largest counts and drops the rest.
-/
import AGH.Model.StatsTop
import AGH.Lemmas.StatsBasic
import AGH.Lemmas.InsertSort
namespace AGH.C09

theorem total_addN (m : CountMap) (k c : Nat) : (m.addN k c).total = m.total + c := by
  fun_induction CountMap.addN m k c with
  | case1 k c => exact (Nat.zero_add c).symm
  | case2 c' r k c => exact Nat.add_right_comm c' c _
  | case3 k' c' r k c _ ih =>
    show c' + CountMap.total (CountMap.addN r k c) = c' + CountMap.total r + c
    rw [ih, Nat.add_assoc]

theorem inc_eq_addN (m : CountMap) (k : Nat) : m.inc k = m.addN k 1 := by
  induction m with
  | nil => rfl
  | cons x r ih => simp only [CountMap.inc, CountMap.addN, ih]

theorem total_inc (m : CountMap) (k : Nat) : (m.inc k).total = m.total + 1 := by
  rw [inc_eq_addN, total_addN]

structure TopBal (u : TopUnit) : Prop where
  clients : u.clients.total = u.nTotal
  domains : u.domains.total = u.nResult 1
  blocked : u.blocked.total = u.nResult 2 + u.nResult 3 + u.nResult 4 + u.nResult 5
  total : u.nTotal = u.nResult 1 + u.nResult 2 + u.nResult 3 + u.nResult 4 + u.nResult 5

theorem topBal_new : TopBal TopUnit.new := by
  constructor <;> simp [TopUnit.new, CountMap.total]

theorem topBal_add {u : TopUnit} (h : TopBal u) (e : TopEntry) (h1 : 1 ≤ e.result) (h5 : e.result ≤ 5) :
    TopBal (u.add e) := by
  have hsum := sum5_bump u.nResult e.result 1 h1 h5
  have hb := h.blocked
  have ht := h.total
  refine ⟨?_, ?_, ?_, ?_⟩
  · show (u.clients.inc e.client).total = u.nTotal + 1
    rw [total_inc, h.clients]
  · -- the not-filtered category goes to `domains` …
    show (if e.result = 1 then u.domains.inc e.domain else u.domains).total =
      if 1 = e.result then u.nResult 1 + 1 else u.nResult 1
    by_cases hr : e.result = 1
    · rw [if_pos hr, if_pos hr.symm, total_inc, h.domains]
    · rw [if_neg hr, if_neg (Ne.symm hr), h.domains]
  · -- … the other four to `blocked`
    show (if e.result = 1 then u.blocked else u.blocked.inc e.domain).total =
      (if 2 = e.result then u.nResult 2 + 1 else u.nResult 2) + (if 3 = e.result then u.nResult 3 + 1 else u.nResult 3) +
        (if 4 = e.result then u.nResult 4 + 1 else u.nResult 4) + (if 5 = e.result then u.nResult 5 + 1 else u.nResult 5)
    by_cases hr : e.result = 1
    · rw [if_pos hr.symm] at hsum
      rw [if_pos hr]
      omega
    · rw [if_neg (Ne.symm hr)] at hsum
      rw [if_neg hr, total_inc]
      omega
  · show u.nTotal + 1 = _
    rw [ht]
    exact hsum.symm

theorem topBal_adds (es : List TopEntry) (hes : ∀ e ∈ es, 1 ≤ e.result ∧ e.result ≤ 5) {u : TopUnit} (h : TopBal u) :
    TopBal (es.foldl TopUnit.add u) := by
  induction es generalizing u with
  | nil => exact h
  | cons e es ih =>
    have he := hes e (List.mem_cons_self ..)
    exact ih (fun x hx => hes x (List.mem_cons_of_mem _ hx)) (topBal_add h e he.1 he.2)

theorem total_foldl {α : Type} (f : CountMap → α → CountMap) (w : α → Nat)
    (hf : ∀ m x, (f m x).total = m.total + w x) (l : List α) (m : CountMap) :
    (l.foldl f m).total = m.total + (l.map w).sum := by
  induction l generalizing m with
  | nil => rfl
  | cons x l ih => rw [List.foldl_cons, ih, hf, List.map_cons, List.sum_cons, Nat.add_assoc]

theorem total_addAll (ps : List (Nat × Nat)) (m : CountMap) :
    (ps.foldl (fun m p => m.addN p.1 p.2) m).total = m.total + (ps.map (·.2)).sum :=
  total_foldl _ _ (fun m p => total_addN m p.1 p.2) ps m

theorem total_collectTops (lists : List (List (Nat × Nat))) :
    (collectTops lists).total = (lists.map CountMap.total).sum := by
  rw [collectTops, total_foldl _ _ (fun m ps => total_addAll ps m)]
  exact Nat.zero_add _

/-- `CountMap.total` for a plain list of pairs (a stored slice is not a map); Spec's `pairsSum` is the same sum. -/
def pairsTotal (l : List (Nat × Nat)) : Nat := (l.map (·.2)).sum

theorem pairsTotal_eq_total (m : CountMap) : pairsTotal m = m.total := rfl

theorem perm_total {a b : List (Nat × Nat)} (h : a.Perm b) : pairsTotal a = pairsTotal b :=
  (h.map (fun p : Nat × Nat => p.2)).sum_nat

theorem isIns_insDesc : Ins.IsIns (fun x y : Nat × Nat => ¬ y.2 ≥ x.2) insDesc :=
  ⟨fun _ => rfl, fun _ _ _ => (ite_not ..).symm⟩

theorem sortDesc_perm (m : CountMap) : (sortDesc m).Perm m := by
  induction m with
  | nil => exact List.Perm.refl _
  | cons x r ih => exact (isIns_insDesc.perm x _).trans (List.Perm.cons x ih)

def Desc (l : List (Nat × Nat)) : Prop := l.Pairwise (fun a b => a.2 ≥ b.2)

theorem insDesc_desc (x : Nat × Nat) (l : List (Nat × Nat)) (h : Desc l) : Desc (insDesc x l) :=
  isIns_insDesc.pairwise (fun _ _ h => Nat.le_of_lt (Nat.not_le.1 h)) (fun _ _ h => Classical.not_not.1 h)
    (fun _ _ _ h1 h2 => Nat.le_trans h2 h1) x h

theorem sortDesc_desc (m : CountMap) : Desc (sortDesc m) := by
  induction m with
  | nil => simp [sortDesc, Desc]
  | cons x r ih => exact insDesc_desc x _ ih

theorem total_take_drop (l : List (Nat × Nat)) (n : Nat) :
    pairsTotal (l.take n) + pairsTotal (l.drop n) = pairsTotal l :=
  sum_map_take_drop (fun p : Nat × Nat => p.2) l n

theorem desc_take_drop {l : List (Nat × Nat)} (h : Desc l) (n : Nat) :
    ∀ x ∈ l.take n, ∀ y ∈ l.drop n, y.2 ≤ x.2 :=
  fun _ hx _ hy => List.Pairwise.rel_of_mem_take_of_mem_drop (R := fun a b : Nat × Nat => a.2 ≥ b.2) h hx hy

end AGH.C09
