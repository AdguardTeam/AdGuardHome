/-
C06: the model satisfies the spec monitor — byte-exact reading for every table,
case-insensitive monitor for every table with lower-case names, at the three
levels (processRewrites, CheckHost, DNS reply).  For the second, `CheckHost` hands on a result
that is not rewritten as the empty one, and the spec judges the two alike
(`specOK_not_rewritten`).  For the third, the reply rendered from a `CheckHost` result is read
back by the spec as that result (`obsToOut_render`).
-/
import AGH.Lemmas.RewritesRun
import AGH.Lemmas.Bytes
namespace AGH.C06
open AGH AGH.Bytes

theorem specExact_process (srt : Bytes → Sorter) (tbl : List Entry) (h : Bytes) (q : Nat) :
    Spec.specExact tbl h q (processRewritesWith srt tbl h q) = true := by
  unfold Spec.specExact processRewritesWith
  cases hm : tbl.any (matchesHost · h)
  · -- the table does not cover the name: `Result{}`
    rw [processRun_unmatched srt q hm]
    have hno : specCnames tbl h = [] :=
      no_cname_of_no_candidates (find_nil (find_unmatched (srt h) q hm))
    have hcov : tbl.any (Spec.covers · h) = false := by rw [covers_fun_eq]; exact hm
    rw [allowedFrom_final _ _ _ hno]
    simp [Spec.finalOK, hcov, Out.empty]
  · rw [processRun_matched srt q hm]
    exact (chase_chased srt tbl q h h [] []).allowed _ (unvisited_le tbl []) (.start hm)

theorem specOK_process (srt : Bytes → Sorter) (tbl : List Entry) (h : Bytes) (q : Nat)
    (hl : Spec.LowerNames tbl) (hh : lower h = h) :
    Spec.specOK tbl h q (processRewritesWith srt tbl h q) = true := by
  unfold Spec.specOK
  rw [lowerNames_map hl, hh, process_canon_lower srt tbl h q hl]
  exact specExact_process srt tbl h q

theorem beq_upstream_of_not_rewritten {o : Out} (ho : o.rewritten = false) (c : Bytes) :
    (o == (⟨true, c, []⟩ : Out)) = false := by
  rw [beq_eq_false_iff_ne]
  intro heq; rw [heq] at ho; cases ho

theorem finalOK_not_rewritten (tbl : List Entry) (qt : Nat) (cur : Bytes) (hopped : Bool) (o : Out)
    (ho : o.rewritten = false) :
    Spec.finalOK tbl qt cur hopped o = Spec.finalOK tbl qt cur hopped Out.empty := by
  unfold Spec.finalOK
  simp only [ho, beq_upstream_of_not_rewritten ho, Out.empty]
  rfl

theorem allowedFrom_not_rewritten (tbl : List Entry) (qt : Nat) (h : Bytes) (o : Out)
    (ho : o.rewritten = false) :
    ∀ fuel cur seen, Spec.allowedFrom tbl qt h fuel cur seen o =
      Spec.allowedFrom tbl qt h fuel cur seen Out.empty := by
  intro fuel
  induction fuel with
  | zero => intro _ _; rfl
  | succ n ih =>
    intro cur seen
    simp only [Spec.allowedFrom, finalOK_not_rewritten tbl qt cur _ o ho, ho, beq_upstream_of_not_rewritten ho, ih]
    rfl

theorem specOK_not_rewritten (tbl : List Entry) (h : Bytes) (qt : Nat) (o : Out) (ho : o.rewritten = false) :
    Spec.specOK tbl h qt o = Spec.specOK tbl h qt Out.empty := by
  unfold Spec.specOK Spec.specExact
  exact allowedFrom_not_rewritten _ _ _ (Spec.foldOut o) ho _ _ _

theorem specOK_lower (tbl : List Entry) (h : Bytes) (q : Nat) (o : Out) :
    Spec.specOK tbl (lower h) q o = Spec.specOK tbl h q o := by
  unfold Spec.specOK
  rw [lower_idem]

theorem specOK_checkHost (srt : Bytes → Sorter) (tbl : List Entry) (h : Bytes)
    (q : Nat) (hne : h ≠ []) (hl : Spec.LowerNames tbl) :
    Spec.specOK tbl h q (checkHostWith srt tbl h q) = true := by
  have hspec := specOK_process srt tbl (lower h) q hl (lower_idem h)
  rw [specOK_lower] at hspec
  fun_cases checkHostWith srt tbl h q with
  | case1 h0 => exact absurd h0 hne
  | case2 _ res _ => exact hspec
  | case3 _ res hr => exact (specOK_not_rewritten _ _ _ _ (Bool.eq_false_iff.mpr hr)).symm.trans hspec

/-- What `render` joins for a local answer, `splitCname` takes apart again: address records
have type 1 or 28, never 5. -/
theorem splitCname_local (h c owner : Bytes) (q : Nat) (ips : List Bytes)
    (hq : ips ≠ [] → q = qA ∨ q = qAAAA) :
    Spec.splitCname h ((if c = [] then [] else [⟨5, h, c⟩]) ++
        ips.map (fun ip => (⟨q, owner, ip⟩ : RR))) =
      (c, ips.map (fun ip => (⟨q, owner, ip⟩ : RR))) := by
  by_cases hc : c = []
  · rw [if_pos hc, hc]
    cases ips with
    | nil => rfl
    | cons ip rest => rcases hq (List.cons_ne_nil _ _) with rfl | rfl <;> rfl
  · rw [if_neg hc]
    simp [Spec.splitCname, hc]

/-- One case for each `Action` of `dispatch`; `hfam` lets the address records pass `obsToOut`'s
type test. -/
theorem obsToOut_render (o : Out) (h : Bytes) (q : Nat) (rc : Nat)
    (hpass : o.rewritten = false → o = Out.empty)
    (hfam : o.ips ≠ [] → q = qA ∨ q = qAAAA) :
    Spec.obsToOut (render o h q rc) h q rc = some o := by
  cases hr : o.rewritten
  · -- not rewritten: the upstream's reply to the name itself
    rw [hpass hr]
    simp [render, dispatch, Spec.obsToOut, Out.empty]
  obtain ⟨rw, c, ips⟩ := o
  cases hr
  by_cases hup : c ≠ [] ∧ ips = []
  · -- CNAME resolved upstream
    obtain ⟨hc, rfl⟩ := hup
    simp [render, dispatch, Spec.obsToOut, hc]
  · -- answered locally: the CNAME record if there is a canonical name, then the addresses
    -- (`render` drops them for other query types, where by `hfam` there are none)
    have haddrs : ∀ owner : Bytes, (if q = qA ∨ q = qAAAA then
        ips.map (fun ip => (⟨q, owner, ip⟩ : RR)) else []) = ips.map (fun ip => ⟨q, owner, ip⟩) := by
      intro owner
      by_cases hips : ips = []
      · rw [hips]; exact ite_self _
      · rw [if_pos (hfam hips)]
    have hq : ∀ ip ∈ ips, (q == 1 || q == 28) = true := fun ip hip => by
      rcases hfam (List.ne_nil_of_mem hip) with rfl | rfl <;> rfl
    simp only [render, dispatch, if_true, hup, if_false, haddrs]
    unfold Spec.obsToOut
    simp only [ne_eq, not_true_eq_false, if_false, splitCname_local h c _ q ips hfam]
    rw [if_pos]
    · simp [List.map_map, Function.comp_def]
    · refine ⟨trivial, List.all_eq_true.mpr fun rr hrr => ?_, by simpa using hup⟩
      obtain ⟨ip, hip, rfl⟩ := List.mem_map.mp hrr
      simp [hq ip hip]

theorem checkHost_not_rewritten (srt : Bytes → Sorter) (tbl : List Entry) (h : Bytes) (q : Nat) :
    (checkHostWith srt tbl h q).rewritten = false → checkHostWith srt tbl h q = Out.empty := by
  fun_cases checkHostWith srt tbl h q with
  | case1 => exact fun _ => rfl
  | case2 _ res hr => exact fun h' => Bool.noConfusion (h'.symm.trans hr)
  | case3 => exact fun _ => rfl

theorem checkHost_ips_family (srt : Bytes → Sorter) (tbl : List Entry) (h : Bytes) (q : Nat) :
    (checkHostWith srt tbl h q).ips ≠ [] → q = qA ∨ q = qAAAA := by
  fun_cases checkHostWith srt tbl h q with
  | case1 => exact fun h' => absurd rfl h'
  | case2 _ res _ =>
    intro hne
    obtain ⟨ip, hip⟩ := List.exists_mem_of_ne_nil _ hne
    obtain ⟨e, he, hv⟩ := process_ips_most_specific srt tbl (lower h) q ip hip
    exact (specAddrs_value (mostSpecific_subset _ e he) hv).2.2.2.1
  | case3 => exact fun h' => absurd rfl h'

theorem dnsSpecOK_respond (srt : Bytes → Sorter) (tbl : List Entry) (h : Bytes) (q rc : Nat)
    (hne : h ≠ []) (hl : Spec.LowerNames tbl) :
    Spec.dnsSpecOK tbl h q rc (respondWith srt tbl h q rc) = true := by
  unfold Spec.dnsSpecOK respondWith
  rw [obsToOut_render _ h q rc (checkHost_not_rewritten srt tbl h q) (checkHost_ips_family srt tbl h q)]
  exact (specOK_lower tbl h q _).trans (specOK_checkHost srt tbl h q hne hl)

end AGH.C06
