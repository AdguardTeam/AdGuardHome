/-
C10 — what one step does, read off `Outcome`: the invariant along every history, the file, the replies,
the reservations.  Read off `handleDiscover` and `allocate_ind`: DISCOVER is answered while an address is free.
-/
import AGH.Lemmas.DHCPHostIdx
namespace AGH.C10
open AGH

variable {O : Oracle} {c : Conf} {s t : State} {mac : Bytes} {l : Lease} {A B : List Lease} {op : Op}
  {r : State × Reply}

theorem Inv_step (h : Inv c s) :
    Inv c (step O c s op).1 := (Inv2_step h.inv2 False.elim).1

theorem run_inv (ops : List Op) (s : State) (h : Inv c s) : Inv c (run O c s ops) :=
  run_ind (P := fun s _ => Inv c s) (fun _ _ _ => Inv_step) ops s h

def Reachable (O : Oracle) (c : Conf) (s : State) : Prop :=
  ∃ ops : List Op, run O c State.init ops = s

theorem Reachable.inv (h : Reachable O c s) : Inv c s := by
  obtain ⟨ops, rfl⟩ := h
  exact run_inv ops _ (Inv_init c)

theorem run_snoc : ∀ (ops : List Op) (s : State) (op : Op),
    run O c s (ops ++ [op]) = (step O c (run O c s ops) op).1 := by
  intro ops
  induction ops with
  | nil => intro s op; rfl
  | cons o rest ih => intro s op; simp only [List.cons_append, run]; exact ih _ _

theorem Reachable.step {O : Oracle} {c : Conf} {s : State} {op : Op} (h : Reachable O c s) :
    Reachable O c (step O c s op).1 := by
  obtain ⟨ops, rfl⟩ := h
  exact ⟨ops ++ [op], run_snoc ops _ op⟩

theorem Mirror.clearStale (h : Mirror s) : Mirror { s with stale := [] } := h

def Stores (p : State × Reply) : Prop := ∃ x : State, p.1 = x.store

theorem Stores.mirror {p : State × Reply} (h : Stores p) : Mirror p.1 := by
  obtain ⟨x, hx⟩ := h
  rw [hx]; exact Mirror_store x

theorem Outcome.store_or_same (ho : Outcome O c s op r) (h : Inv c s) (hne : op ≠ .restart)
    (hnr : ∀ d, op ≠ .reorder d) : Stores r ∨ (r.1.leases = s.leases ∧ r.1.disk = s.disk) := by
  cases ho with
  | same | sleep => exact .inr ⟨rfl, rfl⟩
  | tidied | commit | replaced | added | updated | removed | resetLeases => exact .inl ⟨_, rfl⟩
  | updFailed hf _ hchk hr herr =>
    -- the table without the old lease, unsaved, is not an outcome: `addLease` cannot fail after the checks
    obtain ⟨t', ht'⟩ := (updStatic_add_ok h hf hchk hr).2 _
    rw [ht'] at herr
    cases herr
  | restart => exact absurd rfl hne
  | reorder d => exact absurd rfl (hnr d)

theorem step_store_or_same (h : Inv c s) (hne : op ≠ .restart)
    (hnr : ∀ d, op ≠ .reorder d) :
    Stores (step O c s op) ∨ ((step O c s op).1.leases = s.leases ∧ (step O c s op).1.disk = s.disk) :=
  (step_outcome O c s op).store_or_same h.clearStale hne hnr

theorem Mirror_step (h : Inv c s) (hm : Mirror s)
    (hne : op ≠ .restart) : Mirror (step O c s op).1 := by
  by_cases hr : ∃ d, op = .reorder d
  · obtain ⟨d, rfl⟩ := hr
    exact Mirror_reorder d hm.clearStale
  · rcases step_store_or_same (O := O) h hne (fun d e => hr ⟨d, e⟩) with hs | ⟨h1, h2⟩
    · exact hs.mirror
    · unfold Mirror
      rw [h1, h2]
      exact hm

theorem Outcome.recorded {m : Bytes} (ho : Outcome O c s op r) (hm : op.mac? = some m)
    (hrc : r.2.rc = 1) (hyi : r.2.yi ≠ 0) : ∃ l ∈ r.1.leases, l.mac = m ∧ l.ip = r.2.yi := by
  cases ho with
  | same hr => exact absurd hrc (hr (by rw [hm]; rfl))
  | tidied _ hrec => exact hrec m hm hyi
  | commit hl hmac => exact ⟨_, mem_store (renameLease_mem hl), hmac.trans (Option.some.inj hm), rfl⟩
  | replaced _ _ hnl hmac => exact ⟨_, mem_store (renameLease_mem hnl), hmac.trans (Option.some.inj hm), rfl⟩
  | added | updFailed | updated | removed | sleep | restart | resetLeases | reorder => cases hm

theorem step_recorded {m : Bytes}
    (hm : op.mac? = some m) (hrc : (step O c s op).2.rc = 1) (hyi : (step O c s op).2.yi ≠ 0) :
    ∃ l ∈ (step O c s op).1.leases, l.mac = m ∧ l.ip = (step O c s op).2.yi :=
  (step_outcome O c s op).recorded hm hrc hyi

theorem step_reply_ip {m : Bytes} (h : Inv c s) (hm : op.mac? = some m)
    (hrc : (step O c s op).2.rc = 1) (hyi : (step O c s op).2.yi ≠ 0)
    {x : Lease} (hx : x ∈ (step O c s op).1.leases) (hxm : x.mac = m) : (step O c s op).2.yi = x.ip := by
  obtain ⟨l, hl, h1, h2⟩ := step_recorded hm hrc hyi
  have : x = l := nodup_map_inj (Inv_step (O := O) (op := op) h).macNodup hx hl (hxm.trans h1.symm)
  rw [this, h2]

theorem handleDiscover_offer (h : Inv c s)
    (hnew : ∀ l ∈ s.leases, l.mac ≠ mac)
    (hfree : ∃ a, c.start ≤ a ∧ a ≤ c.stop ∧ ∀ l ∈ s.leases, l.ip = a → l.static = false ∧ l.exp < s.now) :
    (handleDiscover c mac s).2.rc = 1 ∧ (handleDiscover c mac s).2.typ = 2 ∧
    c.start ≤ (handleDiscover c mac s).2.yi ∧ (handleDiscover c mac s).2.yi ≤ c.stop := by
  have hf : findLease mac s = none := findLease_none.2 hnew
  have hex : ∃ l, (allocateLease c mac s).2 = some (some l) ∧ c.start ≤ l.ip ∧ l.ip ≤ c.stop := by
    refine allocate_ind (P := fun a => ∃ l, a.2 = some (some l) ∧ c.start ≤ l.ip ∧ l.ip ≤ c.stop)
      (fun hnext hexp => ?_) (fun _ l hl hst _ => ⟨_, rfl, h.dynPool l hl hst⟩) (fun ip _ h1 h2 _ _ => ⟨_, rfl, h1, h2⟩)
    -- impossible: every bit is set, so the free address carries a lease, dynamic and expired, which
    -- `findExpired` would have found
    exfalso
    obtain ⟨a, ha1, ha2, hal'⟩ := hfree
    obtain ⟨l, hl, hla⟩ := nextIP_none h hnext ha1 ha2
    obtain ⟨hst, hex⟩ := hal' l hl hla
    rcases findExpired_none hexp l hl with hs | he
    · rw [hst] at hs; cases hs
    · omega
  obtain ⟨l, hl, h1, h2⟩ := hex
  unfold handleDiscover
  rw [hf]
  rcases hal : allocateLease c mac s with ⟨s1, r⟩
  rw [hal] at hl
  obtain rfl : r = some (some l) := hl
  exact ⟨rfl, rfl, h1, h2⟩

theorem step_discover_offer (h : Inv c s)
    (hv : validMAC mac = true) (hnew : ∀ l ∈ s.leases, l.mac ≠ mac)
    (hfree : ∃ a, c.start ≤ a ∧ a ≤ c.stop ∧ ∀ l ∈ s.leases, l.ip = a → l.static = false ∧ l.exp < s.now) :
    (step O c s (.discover mac)).2.rc = 1 ∧ (step O c s (.discover mac)).2.typ = 2 ∧
    c.start ≤ (step O c s (.discover mac)).2.yi ∧ (step O c s (.discover mac)).2.yi ≤ c.stop := by
  have hstep : step O c s (.discover mac) = handleDiscover c mac { s with stale := [] } := by
    unfold step
    simp only [hv, Bool.not_true, Bool.false_eq_true, if_false]
  rw [hstep]
  exact handleDiscover_offer h.clearStale hnew hfree

def statics (s : State) : List Lease := s.leases.filter (·.static)

theorem statics_store (s : State) : statics s.store = statics s := rfl

theorem filter_static_middle (h : l.static = false) :
    (A ++ l :: B).filter (·.static) = (A ++ B).filter (·.static) := by
  simp [List.filter_append, h]

theorem rmDynamicLease_statics (c : Conf) (mac : Bytes) (ip : Nat) (host : Bytes) (s : State) :
    statics (rmDynamicLease c mac ip host s).1 = statics s :=
  rmDynLoop_keeps (P := fun t => statics t = statics s)
    (fun _ _ _ _ _ hs h => (filter_static_middle hs).symm.trans h)
    (fun _ _ _ l hs h =>
      (filter_static_middle (l := { l with host := [] }) hs).trans ((filter_static_middle hs).symm.trans h))
    s.leases [] s rfl

theorem update_statics {f : Lease → Lease} (h : Inv c s) (hl : l ∈ s.leases)
    (hd : l.static = false) (hf : (f l).static = false) : statics (s.update l.id f) = statics s := by
  obtain ⟨A, B, hs⟩ := List.append_of_mem hl
  unfold statics State.update
  rw [hs, mapId_split (hs ▸ h.idNodup), filter_static_middle hd, filter_static_middle hf]

theorem allocate_statics (h : Inv c s) : statics (allocateLease c mac s).1 = statics s := by
  refine allocate_ind (P := fun r => statics r.1 = statics s) (fun _ _ => rfl)
    (fun _ l hl hst _ => update_statics h hl hst hst) (fun ip s' _ _ _ hadd => ?_)
  unfold statics
  rw [(addLease_frame hadd).1]
  exact (filter_static_middle (B := []) rfl).trans (by rw [List.append_nil]; rfl)

theorem renameLease_statics {hn : Bytes} {e : Nat} (h : Inv c s)
    (hl : l ∈ s.leases) (hd : l.static = false) : statics (renameLease l hn e s) = statics s := by
  unfold statics
  rw [renameLease_leases]
  exact update_statics h hl hd hd

/-- The DHCP messages and `sleep`: the operations the spec's `reservationsKept` constrains. -/
def Op.isDHCP : Op → Bool
  | .discover .. | .request .. | .decline .. | .release .. | .sleep .. => true
  | _ => false

theorem Tidied.statics_eq (ht : Tidied c s t) (h : Inv c s) : statics t = statics s :=
  (ht.keeps (J := fun t => Inv2 False c t ∧ statics t = statics s)
    (fun t m i hh h => ⟨rmDynamicLease_inv2 m i hh h.1, (rmDynamicLease_statics c m i hh t).trans h.2⟩)
    (fun _ _ hm h => ⟨allocate_inv2 h.1 hm, (allocate_statics h.1.1).trans h.2⟩)
    (fun _ h => ⟨Inv2_fresh h.1, h.2⟩) ⟨h.inv2, rfl⟩).2

theorem Outcome.statics_eq (ho : Outcome O c s op r) (h : Inv c s) (hd : op.isDHCP = true) :
    statics r.1 = statics s := by
  cases ho with
  | same | sleep => rfl
  | tidied ht => exact ht.statics_eq h
  | commit hl _ hst => exact (statics_store _).trans (renameLease_statics h hl hst)
  | replaced _ ht hnl _ hst =>
    exact (statics_store _).trans ((renameLease_statics (ht.inv2 h.inv2).1 hnl hst).trans (ht.statics_eq h))
  | added | updFailed | updated | removed | restart | resetLeases | reorder => cases hd

theorem step_statics (h : Inv c s)
    (hd : op.isDHCP = true) : statics (step O c s op).1 = statics s :=
  (step_outcome O c s op).statics_eq h.clearStale hd

end AGH.C10
