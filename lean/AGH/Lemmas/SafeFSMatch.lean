/-
C17 helper lemmas: Go's `filepath.Match` (model `goMatch`) is SOUND with
respect to the declarative pattern semantics (`parseGlob` + `matchesT`).
The chunk matcher reads, step by step, the term `headTerm` reads and consumes
of the name what that term matches (`matchChunkF_sound`); what the outer loop
says yes to is the relation `Accepts`, sound rule by rule.
-/
import AGH.Lemmas.SafeFSParse
namespace AGH.C17
open AGH AGH.Bytes

theorem getEsc_classChar {chunk : Bytes} {x : Nat × Bytes} : getEsc chunk = .ok x →
    classChar chunk = some x := by
  fun_cases getEsc chunk with
  | case6 c cs h1 chunk1 h2 r n hd h3 nchunk h4 =>
    intro h
    cases h
    -- the same tests on the same text: one after the other in `getEsc`, one disjunction in `classChar`
    rw [classChar, hd,
      if_neg (by simp only [not_or]; exact ⟨fun h => h1 (.inl h), fun h => h1 (.inr h), h2, h3, h4⟩)]
  -- every other case of `getEsc` is an error
  | _ => intro h; cases h

theorem inRanges_cons (r lo hi : Nat) (acc : List (Nat × Nat)) :
    inRanges r ((lo, hi) :: acc) = ((decide (lo ≤ r) && decide (r ≤ hi)) || inRanges r acc) := by
  simp [inRanges]

theorem inRanges_reverse (r : Nat) (acc : List (Nat × Nat)) :
    inRanges r acc.reverse = inRanges r acc := by
  simp [inRanges]

/-- The model's two accumulators are functions of the parser's one: the number of ranges read so far
is `acc.length`, and "the rune lies in one of them" is `inRanges r acc`.  The cases follow the model's text: no fuel;
`]` after at least one range (the only exit with a result); `getEsc` refuses the low end, then the high end; a range
`lo-hi`; a single character. -/
theorem classLoop_parse (f : Nat) (chunk : Bytes) (r nrange : Nat) (m0 : Bool) {m : Bool} {rest : Bytes} :
    ∀ acc : List (Nat × Nat), nrange = acc.length → m0 = inRanges r acc →
    classLoop f chunk r nrange m0 = .ok (m, rest) →
    ∃ rs, parseRanges f chunk acc = some (rs, rest) ∧ m = inRanges r rs := by
  fun_induction classLoop f chunk r nrange m0 with
  | case1 => intro _ _ _ h; cases h
  | case2 f chunk r nrange m0 hc =>
    intro acc hn hm h
    cases h
    rw [parseRanges, if_pos ⟨hc.1, List.length_pos_iff.mp (hn ▸ hc.2)⟩]
    exact ⟨acc.reverse, rfl, hm.trans (inRanges_reverse r acc).symm⟩
  | case3 => intro _ _ _ h; cases h
  | case4 => intro _ _ _ h; cases h
  | case5 f chunk r nrange m0 hc lo chunk1 hg hd hi chunk2 hg2 ih =>
    intro acc hn hm h
    -- one range: `getEsc` reads what `classChar` reads
    rw [parseRanges, if_neg (fun hh => hc ⟨hh.1, hn ▸ List.length_pos_iff.mpr hh.2⟩), getEsc_classChar hg]
    dsimp only
    rw [if_pos hd, getEsc_classChar hg2]
    exact ih ((lo, hi) :: acc) (congrArg (· + 1) hn) (by rw [inRanges_cons, hm, Bool.or_comm]) h
  | case6 f chunk r nrange m0 hc lo chunk1 hg hd ih =>
    intro acc hn hm h
    rw [parseRanges, if_neg (fun hh => hc ⟨hh.1, hn ▸ List.length_pos_iff.mpr hh.2⟩), getEsc_classChar hg]
    dsimp only
    rw [if_neg hd]
    exact ih ((lo, lo) :: acc) (congrArg (· + 1) hn) (by rw [inRanges_cons, hm, Bool.or_comm]) h

theorem parseGlobF_succ_mono {f : Nat} {p : Bytes} {t : List Term} (h : parseGlobF f p = some t) :
    ∃ g, p.length + 1 ≤ g ∧ ∀ k, g ≤ k → parseGlobF k p = some t :=
  ⟨p.length + 1, Nat.le_refl _, (Parses.of_parseGlobF f p t h).parseGlobF⟩

theorem not_failed_cons {failed : Bool} {s : Bytes} (h : ¬(failed || s.isEmpty) = true) :
    failed = false ∧ ∃ a tl, s = a :: tl := by
  rw [Bool.not_eq_true, Bool.or_eq_false_iff] at h
  cases s with
  | nil => cases h.2
  | cons a tl => exact ⟨h.1, a, tl, rfl⟩

theorem head?_bne_false {a d : Nat} {tl : Bytes} (h : ((a :: tl).head? != some d) = false) : a = d := by
  simpa only [List.head?_cons, bne_eq_false_iff_eq, Option.some.injEq] using h

/-- The chunk matcher reads, step by step, the term `headTerm` reads and consumes of `s` what that term
matches.  Once `failed` is set the rest of the chunk is only scanned for syntax errors, and the answer
is never `some`.  The cases follow the model's text: no fuel; end of the chunk; a class (syntax error,
read); `?`; `\\` (alone, before `d`); any other byte `c`; each comparing case twice, first with
`failed` set. -/
theorem matchChunkF_sound {t : Bytes} (f : Nat) (chunk s : Bytes) (failed : Bool) :
    matchChunkF f chunk s failed = .ok (some t) →
    failed = false ∧ ∃ ts, Parses chunk ts ∧
      ∀ tail, matchesT tail t = true → matchesT (ts ++ tail) s = true := by
  fun_induction matchChunkF f chunk s failed with
  | case1 => intro h; cases h
  | case2 n s failed =>
    intro h
    cases failed with
    | true => cases h
    | false => cases h; exact ⟨rfl, [], .nil, fun tail ht => ht⟩
  | case3 => intro h; cases h
  | case4 f cs s failed0 failed r s1 negated chunk1 m chunk2 hcl ih =>
    intro h
    obtain ⟨hf, ts, hp, hm⟩ := ih h
    rw [Bool.or_eq_false_iff] at hf
    obtain ⟨rfl, a, tl, rfl⟩ := not_failed_cons (Bool.not_eq_true _ ▸ hf.1)
    obtain ⟨rs, hpr, hmr⟩ := classLoop_parse f _ _ 0 false [] rfl rfl hcl
    -- with nothing appended: the same result with the fuel `classTerm` gives
    have hpr' := (parseRanges_local hpr).2 [] _ (Nat.le_refl _)
    rw [List.append_nil, List.append_nil] at hpr'
    have hh : headTerm (cLBr :: cs) = some (.cls negated rs, chunk2) := by
      show classTerm cs = _
      rw [classTerm, hpr']
    refine ⟨rfl, _, .cons hh hp, fun tail ht => ?_⟩
    rw [List.cons_append, matchesT, Bool.and_eq_true]
    refine ⟨?_, hm tail ht⟩
    have hmr : m = inRanges (decodeRune (a :: tl)).1 rs := hmr
    rw [← hmr, bne_iff_ne]
    exact fun heq => by rw [heq, beq_self_eq_true] at hf; cases hf.2
  | case5 f cs s failed0 failed hfl _ ih => intro h; exact nomatch (ih h).1
  | case6 f cs s failed0 failed hfl _ ih =>
    intro h
    obtain ⟨hc, ts, hp, hm⟩ := ih h
    obtain ⟨rfl, a, tl, rfl⟩ := not_failed_cons hfl
    refine ⟨rfl, .any :: ts, .cons rfl hp, fun tail ht => ?_⟩
    have hne : a ≠ slash := by
      simpa only [List.head?_cons, beq_eq_false_iff_ne, ne_eq, Option.some.injEq] using hc
    rw [List.cons_append, matchesT, hm tail ht, bne_iff_ne.mpr hne]; rfl
  | case7 => intro h; cases h
  | case8 f s failed0 failed d ds hfl _ _ ih => intro h; exact nomatch (ih h).1
  | case9 f s failed0 failed d ds hfl _ _ ih =>
    intro h
    obtain ⟨hc, ts, hp, hm⟩ := ih h
    obtain ⟨rfl, a, tl, rfl⟩ := not_failed_cons hfl
    refine ⟨rfl, .lit d :: ts, .cons rfl hp, fun tail ht => ?_⟩
    rw [List.cons_append, matchesT, head?_bne_false hc, beq_self_eq_true]
    exact hm tail ht
  | case10 f c cs s failed0 failed _ _ _ hfl ih => intro h; exact nomatch (ih h).1
  | case11 f c cs s failed0 failed h1 h2 h3 hfl ih =>
    intro h
    obtain ⟨hc, ts, hp, hm⟩ := ih h
    obtain ⟨rfl, a, tl, rfl⟩ := not_failed_cons hfl
    cases head?_bne_false hc
    by_cases h4 : c = cStar
    · -- a `*` the scanner left inside the chunk: the declarative star matches that one byte as well
      refine ⟨rfl, .star :: ts, .cons (by rw [headTerm, if_pos h4]) hp, fun tail ht => ?_⟩
      exact (matchesT_star _ _).mpr ⟨1, Nat.succ_le_succ (Nat.zero_le _), by rw [h4]; rfl, hm tail ht⟩
    · refine ⟨rfl, .lit c :: ts, .cons (by rw [headTerm, if_neg h4, if_neg h2, if_neg h3, if_neg h1]) hp,
        fun tail ht => ?_⟩
      rw [List.cons_append, matchesT, beq_self_eq_true]
      exact hm tail ht

theorem dropStars_spec : ∀ p : Bytes, ∃ k, p = List.replicate k cStar ++ (dropStars p).2 ∧
    ((dropStars p).1 = true ↔ 0 < k) ∧ (dropStars p).2.head? ≠ some cStar := by
  intro p
  induction p with
  | nil => exact ⟨0, by simp [dropStars], by simp [dropStars], by simp [dropStars]⟩
  | cons c cs ih =>
    by_cases hc : c = cStar
    · obtain ⟨k, h1, _, h3⟩ := ih
      refine ⟨k + 1, ?_, ?_, ?_⟩
      · simp only [dropStars, if_pos hc, List.replicate_succ, List.cons_append]
        rw [← h1, hc]
      · simp [dropStars, if_pos hc]
      · simpa [dropStars, if_pos hc] using h3
    · refine ⟨0, by simp [dropStars, if_neg hc], by simp [dropStars, if_neg hc], ?_⟩
      simp [dropStars, hc]

theorem scanSplit_append (p : Bytes) (inr : Bool) : (scanSplit p inr).1 ++ (scanSplit p inr).2 = p := by
  -- no byte; a backslash alone; a backslash before `d`; `[`; `]`; the `*` that splits; any other byte
  fun_induction scanSplit p inr with
  | case1 => rfl
  | case2 => rfl
  | case3 inr d ds _ ih => exact congrArg (cBsl :: d :: ·) ih
  | case4 rest inr h1 _ ih => exact congrArg (cLBr :: ·) ih
  | case5 rest inr h1 h2 _ ih => exact congrArg (cRBr :: ·) ih
  | case6 c rest inr h1 h2 h3 h4 => rfl
  | case7 c rest inr h1 h2 h3 h4 _ ih => exact congrArg (c :: ·) ih

theorem scanSplit_nil {p : Bytes} (hp : p.head? ≠ some cStar) : (scanSplit p false).1 = [] → p = [] := by
  fun_cases scanSplit p false with
  | case1 => intro _; rfl
  | case6 c rest _ _ _ _ h4 => exact absurd (congrArg some h4.1) hp
  -- in every other case the first half begins with a byte of `p`
  | _ => intro h; cases h

theorem starLoop_some (chunk : Bytes) (last : Bool) (name : Bytes) {t : Bytes} :
    starLoop chunk last name = .ok (some t) →
    ∃ pre suf, name = pre ++ suf ∧ pre.contains slash = false ∧
      matchChunk chunk suf = .ok (some t) := by
  -- one more byte `c ≠ slash` in front of what the loop skips later
  have skip : ∀ {c : Nat} {tl : Bytes}, ¬c = slash →
      (∃ pre suf, tl = pre ++ suf ∧ pre.contains slash = false ∧ matchChunk chunk suf = .ok (some t)) →
      ∃ pre suf, c :: tl = pre ++ suf ∧ pre.contains slash = false ∧ matchChunk chunk suf = .ok (some t) := by
    intro c tl hc ⟨pre, suf, h1, h2, h4⟩
    refine ⟨c :: pre, suf, by rw [h1]; rfl, ?_, h4⟩
    simp only [List.contains_cons, Bool.or_eq_false_iff, beq_eq_false_iff_ne, ne_eq]
    exact ⟨fun hh => hc hh.symm, h2⟩
  -- the name used up; a separator; `matchChunk` fails; it matches but leaves something of the name after the last chunk (go on);
  -- it matches (the exit with a result); it does not match (go on)
  fun_induction starLoop chunk last name with
  | case1 => intro h; cases h
  | case2 => intro h; cases h
  | case3 => intro h; cases h
  | case4 c tl hc t0 hm hl ih => intro h; exact skip hc (ih h)
  | case5 c tl hc t0 hm hl =>
    intro h
    cases h
    exact skip (tl := tl) hc ⟨[], tl, rfl, rfl, hm⟩
  | case6 c tl hc hm ih => intro h; exact skip hc (ih h)

theorem matchChunk_sound {chunk s t : Bytes} (h : matchChunk chunk s = .ok (some t)) :
    ∃ ts, Parses chunk ts ∧ ∀ tail, matchesT tail t = true → matchesT (ts ++ tail) s = true :=
  (matchChunkF_sound _ _ _ _ h).2

/-- How `Match` comes to say yes: pattern and name are used up together; or the leading stars of the
pattern skip `pre`, its first chunk matches a prefix of what remains of the name, and the rest of the
pattern accepts what the chunk left (`chunk = rest = []` is the pattern of stars only). -/
inductive Accepts : Bytes → Bytes → Prop
  | nil : Accepts [] []
  | chunk {k : Nat} {chunk rest pre suf t : Bytes} : pre.contains slash = false → (pre ≠ [] → 0 < k) →
      matchChunk chunk suf = .ok (some t) → Accepts rest t →
      Accepts (List.replicate k cStar ++ (chunk ++ rest)) (pre ++ suf)

theorem Accepts.sound {p n : Bytes} (h : Accepts p n) : ∃ ts, Parses p ts ∧ matchesT ts n = true := by
  induction h with
  | nil => exact ⟨[], .nil, rfl⟩
  | @chunk k _ _ pre _ _ hpre hk hmc _ ih =>
    obtain ⟨tr, hpr, hmr⟩ := ih
    obtain ⟨tc, hpc, hmc'⟩ := matchChunk_sound hmc
    exact ⟨_, .stars k (hpc.append hpr), matchesT_stars (hmc' tr hmr) k pre hpre hk⟩

/-- The rule `Accepts.chunk` on the scanner's reading of the pattern. -/
theorem Accepts.scan {pattern pre suf t : Bytes} (hpre : pre.contains slash = false)
    (hk : pre ≠ [] → (dropStars pattern).1 = true)
    (hmc : matchChunk (scanSplit (dropStars pattern).2 false).1 suf = .ok (some t))
    (hr : Accepts (scanSplit (dropStars pattern).2 false).2 t) : Accepts pattern (pre ++ suf) := by
  obtain ⟨k, hk1, hk2, _⟩ := dropStars_spec pattern
  rw [← scanSplit_append (dropStars pattern).2 false] at hk1
  rw [hk1]
  exact .chunk hpre (fun h => hk2.mp (hk h)) hmc hr

/-- The cases follow the model's text: no fuel; the empty pattern; stars only; then, by what
`matchChunk` says at the start of the name: a syntax error, a match that Go takes, or the star loop
(error, match, none) and no star. -/
theorem matchLoop_accepts (f : Nat) (pattern name : Bytes) : matchLoop f pattern name = .ok true →
    Accepts pattern name := by
  fun_induction matchLoop f pattern name with
  | case1 => intro h; cases h
  | case2 f name => intro h; rw [List.isEmpty_iff.mp (Except.ok.inj h)]; exact .nil
  | case3 f pattern name hp ds star sc chunk hA =>
    intro h
    -- the scanner stops at once only before a star, and `dropStars` left none
    obtain ⟨_, _, _, hk3⟩ := dropStars_spec pattern
    have hp1 : ds.2 = [] := scanSplit_nil hk3 hA.2
    have hr : Accepts (scanSplit ds.2 false).2 [] := by rw [hp1]; exact .nil
    have := Accepts.scan (pre := name) (by simpa using h) (fun _ => hA.1) (congrArg (matchChunk · []) hA.2) hr
    rwa [List.append_nil] at this
  | case4 => intro h; cases h
  | case5 f pattern name hp ds star sc chunk rest hA r hm direct t hdir ih =>
    intro h
    dsimp only [direct] at hdir
    split at hdir
    · exact .scan (pre := []) rfl (fun hh => absurd rfl hh)
        ((Option.ite_none_right_eq_some.mp hdir).2 ▸ hm) (ih h)
    · cases hdir
  | case6 => intro h; cases h
  | case7 f pattern name hp ds star sc chunk rest hA r hm direct hdir hstar t hsl ih =>
    intro h
    obtain ⟨pre, suf, rfl, h2, h4⟩ := starLoop_some _ _ _ hsl
    exact .scan h2 (fun _ => hstar) h4 (ih h)
  | case8 => intro h; cases h
  | case9 => intro h; cases h

theorem goMatch_sound {pat name : Bytes} (h : goMatch pat name = .ok true) :
    ∃ ts, parseGlob pat = some ts ∧ matchesT ts name = true :=
  let ⟨ts, hp, hm⟩ := (matchLoop_accepts _ pat name h).sound
  ⟨ts, parseGlob_eq_some_iff.mpr hp, hm⟩

end AGH.C17
