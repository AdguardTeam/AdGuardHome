/-
C09: every counted query is in exactly one result category — in every unit
the total equals the sum of the five categories, for every history.
-/
import AGH.Lemmas.StatsRead
namespace AGH.C09

def Bal (u : UnitDB) : Prop :=
  u.nTotal = u.nResult 1 + u.nResult 2 + u.nResult 3 + u.nResult 4 + u.nResult 5

def BalState (s : State) : Prop := Bal s.curr.serialize ∧ ∀ x ∈ s.db, Bal x.2

theorem bal_empty : Bal UnitDB.empty := rfl

theorem bal_newUnit (id : Nat) : Bal (newUnit id).serialize := rfl

theorem bal_count {u : MemUnit} (h : Bal u.serialize) {c : Nat} (h1 : 1 ≤ c) (h5 : c ≤ 5) :
    Bal (u.count c 1).serialize := by
  have := sum5_bump u.nResult c 1 h1 h5
  simp only [Bal, MemUnit.serialize, MemUnit.count] at h ⊢
  omega

theorem bal_update {s s' : State} {e : Entry} (h : BalState s) (hu : update s e = .ok s') : BalState s' := by
  rcases update_ok_cases hu with rfl | ⟨c, h1, h5, rfl⟩
  · exact h
  · exact ⟨bal_count h.1 h1 h5, h.2⟩

theorem bal_updateN {s : State} (e : Entry) (n : Nat) (h : BalState s) : BalState (updateN s e n).1 := by
  fun_induction updateN s e n with
  | case1 s => exact h
  | case2 s n s' hu ih => exact ih (bal_update h hu)
  | case3 s n f hu s' p hp ih =>
    -- a call that panicked left the state to the remaining ones
    rw [hp] at ih
    exact ih h

theorem bal_tick {s : State} (h : BalState s) (id : Nat) : BalState (tick s id) := by
  by_cases hc : s.limitHours = 0 ∨ s.curr.id = id
  · rw [tick_same s id hc]; exact h
  · rw [tick_rotate s id hc]
    refine ⟨bal_newUnit _, fun x hx => ?_⟩
    rcases DB.mem_of_mem_put (DB.mem_of_mem_del hx) with hx | hx
    · rw [hx]; exact h.1
    · exact h.2 x hx

theorem bal_clear {s : State} : BalState (clear s) := ⟨bal_newUnit _, fun x hx => by simp [clear] at hx⟩

theorem bal_new {db : DB} {clock ms : Nat} {en : Bool} {s : State} (hdb : ∀ x ∈ db, Bal x.2)
    (hn : new db clock ms en = some s) : BalState s := by
  obtain ⟨_, rfl⟩ := new_spec hn
  refine ⟨?_, fun x hx => hdb x (DB.mem_of_mem_deleteOld hx)⟩
  cases hg : (deleteOldUnits (sub32 (sub32 clock (ms / msPerHour)) 1) db).get clock with
  | none => exact bal_newUnit _
  | some v => exact hdb _ (DB.mem_of_mem_deleteOld (DB.mem_of_get_some hg))

theorem bal_step {s s' : State} (h : BalState s) (op : Op) (hs : step s op = some s') : BalState s' := by
  cases op with
  | upd e n => cases hs; exact bal_updateN e n h
  | tick id => cases hs; exact bal_tick h id
  | advance h' => cases hs; exact h
  | restart id l en =>
    refine bal_new (fun x hx => ?_) hs
    rcases DB.mem_of_mem_put hx with hx | hx
    · rw [hx]; exact h.1
    · exact h.2 x hx
  | setDays d =>
    cases hs
    fun_cases setLimitDays s d with
    | case1 => exact h
    | case2 => exact h
    | case3 => exact bal_clear
  | putConf ms en =>
    cases hs
    fun_cases putConf s ms en <;> exact h
  | clear => cases hs; exact bal_clear
  | read => cases hs; exact h

theorem bal_run {s s' : State} (ops : List Op) (h : BalState s) (hs : runOps s ops = some s') : BalState s' := by
  induction ops generalizing s with
  | nil => cases hs; exact h
  | cons op ops ih =>
    obtain ⟨s1, h1, hs⟩ := runOps_cons hs
    exact ih (bal_step h op h1) hs

theorem sum_bal (units : List UnitDB) (h : ∀ u ∈ units, Bal u) :
    sumBy (·.nTotal) units = sumBy (·.nResult 1) units + sumBy (·.nResult 2) units + sumBy (·.nResult 3) units +
      sumBy (·.nResult 4) units + sumBy (·.nResult 5) units := by
  induction units with
  | nil => simp [sumBy]
  | cons u us ih =>
    have h1 := ih (fun x hx => h x (List.mem_cons_of_mem _ hx))
    have h2 := h u (List.mem_cons_self ..)
    simp only [sumBy, List.map_cons, List.sum_cons, Bal] at h1 h2 ⊢
    omega

theorem bal_units {s : State} (h : BalState s) (L : Nat) : ∀ u ∈ unitsOf s L, Bal u := by
  intro u hu
  rcases mem_unitsOf hu with rfl | rfl | ⟨k, hk⟩
  · exact h.1
  · exact bal_empty
  · exact h.2 _ hk

end AGH.C09
