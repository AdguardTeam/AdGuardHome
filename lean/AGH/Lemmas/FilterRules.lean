/-
Layer B model of urlfilter's rule selection: the engine answers with the
polarity of a matching network rule that none outranks (`engineMatch_top`), and
with the hosts-style lines only when no network rule matches.
-/
import AGH.Model.FilterRules
namespace AGH.Filter
open AGH AGH.Bytes

theorem bestRank_max {l : List NetRule} (h : l ≠ []) :
    ∃ k, bestRank l = some k ∧ (∃ r ∈ l, r.rank = k) ∧ ∀ r ∈ l, r.rank ≤ k := by
  induction l with
  | nil => exact absurd rfl h
  | cons r rest ih =>
    rw [bestRank]
    cases rest with
    | nil => exact ⟨_, rfl, ⟨r, List.mem_cons_self, rfl⟩, fun x hx => List.mem_singleton.mp hx ▸ Nat.le_refl _⟩
    | cons r' rest' =>
      obtain ⟨k', hb, ⟨x, hx, hxk⟩, hge⟩ := ih (List.cons_ne_nil _ _)
      rw [hb]
      refine ⟨_, rfl, ?_, fun y hy => ?_⟩
      · by_cases hle : r.rank ≤ k'
        · exact ⟨x, List.mem_cons_of_mem _ hx, by rw [hxk]; exact (Nat.max_eq_right hle).symm⟩
        · exact ⟨r, List.mem_cons_self, (Nat.max_eq_left (Nat.le_of_lt (Nat.lt_of_not_le hle))).symm⟩
      · rcases List.mem_cons.mp hy with rfl | hy
        · exact Nat.le_max_left _ _
        · exact Nat.le_trans (hge y hy) (Nat.le_max_right _ _)

theorem bestRank_none (l : List NetRule) : bestRank l = none ↔ l = [] := by
  cases l with
  | nil => simp [bestRank]
  | cons r rest =>
    simp only [bestRank]
    cases bestRank rest <;> simp

theorem bestRank_exists_top (l : List NetRule) (h : l ≠ []) : ∃ r ∈ l, ∀ x ∈ l, x.rank ≤ r.rank := by
  obtain ⟨k, _, ⟨r, hr, hrk⟩, hge⟩ := bestRank_max h
  exact ⟨r, hr, fun x hx => hrk ▸ hge x hx⟩

theorem NetRule.rank_eq (r : NetRule) : r.rank = 2 * r.important.toNat + r.whitelist.toNat := by
  unfold NetRule.rank
  cases r.whitelist <;> cases r.important <;> rfl

/-- Ranks order the rules by `$important` first, then by `@@`. -/
theorem rank_le {x r : NetRule} (hi : x.important → r.important)
    (hw : x.important = r.important → x.whitelist → r.whitelist) : x.rank ≤ r.rank := by
  have table : ∀ xw xi rw ri : Bool, (xi → ri) → (xi = ri → xw → rw) →
      2 * xi.toNat + xw.toNat ≤ 2 * ri.toNat + rw.toNat := by decide
  rw [NetRule.rank_eq, NetRule.rank_eq]
  exact table _ _ _ _ hi hw

theorem rank_polarity (r : NetRule) : (r.rank == 1 || r.rank == 3) = r.whitelist := by
  unfold NetRule.rank
  cases r.whitelist <;> cases r.important <;> rfl

/-- The network rules among which `engineMatch` takes the highest rank; its text has this filter inline. -/
def matching (rs : List Rule) (q : ReqInfo) : List NetRule := (netRules rs).filter (fun r => netMatch r q)

theorem engineMatch_net (rs : List Rule) (q : ReqInfo) (hq : q.host ≠ []) (k : Nat)
    (h : bestRank (matching rs q) = some k) :
    engineMatch rs q = some (.net (k == 1 || k == 3)) := by
  unfold engineMatch
  simp only [List.isEmpty_eq_false_iff.mpr hq, Bool.false_eq_true, if_false]
  unfold matching at h
  rw [h]

theorem engineMatch_top (rs : List Rule) (q : ReqInfo) (hq : q.host ≠ []) {r : NetRule}
    (hr : r ∈ matching rs q) (htop : ∀ x ∈ matching rs q, x.rank ≤ r.rank) :
    engineMatch rs q = some (.net r.whitelist) := by
  obtain ⟨k, hb, ⟨x, hx, hxk⟩, hge⟩ := bestRank_max (List.ne_nil_of_mem hr)
  have hk : k = r.rank := Nat.le_antisymm (hxk ▸ htop x hx) (hge r hr)
  rw [engineMatch_net rs q hq k hb, hk, rank_polarity]

theorem engineMatch_hosts (rs : List Rule) (q : ReqInfo) (hq : q.host ≠ []) (h : matching rs q = []) :
    engineMatch rs q =
      if (hostHits (hostRules rs) q.host).isEmpty then none
      else some (.hosts ((hostHits (hostRules rs) q.host).filter (fun ip => !ip.v6))
                        ((hostHits (hostRules rs) q.host).filter (fun ip => ip.v6))) := by
  unfold engineMatch
  unfold matching at h
  rw [if_neg (mt List.isEmpty_iff.mp hq), h]
  rfl

theorem split_by_family_nonempty (l : List IP) (h : l.isEmpty = false) :
    ((l.filter (fun ip => !ip.v6)).isEmpty && (l.filter (fun ip => ip.v6)).isEmpty) = false := by
  cases l with
  | nil => cases h
  | cons x xs => cases hx : x.v6 <;> simp [hx]

end AGH.Filter
