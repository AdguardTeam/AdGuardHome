/-
Facts about the byte-string helpers of `AGH.Model.Bytes` that several properties need: how `splitOn`
reads a string piece by piece, and what ASCII lower-casing does to a byte (all from `lowerB_cases`).
-/
import AGH.Model.Bytes
namespace AGH.Bytes

theorem splitOn_cons_sep (sep : Nat) (rest : Bytes) : splitOn sep (sep :: rest) = [] :: splitOn sep rest := by
  simp [splitOn]

theorem splitOn_cons_ne {sep b : Nat} {rest : Bytes} (h : b ≠ sep) {p : Bytes} {ps : List Bytes}
    (hs : splitOn sep rest = p :: ps) : splitOn sep (b :: rest) = (b :: p) :: ps := by
  simp [splitOn, h, hs]

theorem splitOn_append_left {sep : Nat} {a : Bytes} (h : sep ∉ a) {s p : Bytes} {ps : List Bytes}
    (hs : splitOn sep s = p :: ps) : splitOn sep (a ++ s) = (a ++ p) :: ps := by
  induction a with
  | nil => exact hs
  | cons b a ih =>
    have h' := not_or.1 (mt List.mem_cons.2 h)
    exact splitOn_cons_ne (Ne.symm h'.1) (ih h'.2)

theorem splitOn_free (sep : Nat) (a : Bytes) (h : sep ∉ a) : splitOn sep a = [a] := by
  simpa using splitOn_append_left h (s := []) rfl

theorem splitOn_free_sep (sep : Nat) (rest a : Bytes) (h : sep ∉ a) :
    splitOn sep (a ++ sep :: rest) = a :: splitOn sep rest := by
  simpa using splitOn_append_left h (splitOn_cons_sep sep rest)

theorem cut_first (x : Nat) (s : Bytes) : ∃ a, x ∉ a ∧ (s = a ∨ ∃ t, s = a ++ x :: t) := by
  induction s with
  | nil => exact ⟨[], List.not_mem_nil, Or.inl rfl⟩
  | cons b rest ih =>
    by_cases hb : b = x
    · exact ⟨[], List.not_mem_nil, Or.inr ⟨rest, by rw [hb]; rfl⟩⟩
    · obtain ⟨a, ha, h⟩ := ih
      refine ⟨b :: a, fun hm => (List.mem_cons.1 hm).elim (fun e => hb e.symm) ha, ?_⟩
      rcases h with rfl | ⟨t, rfl⟩
      · exact Or.inl rfl
      · exact Or.inr ⟨t, rfl⟩

theorem splitOn_view (sep : Nat) (s : Bytes) :
    ∃ a, sep ∉ a ∧ ((s = a ∧ splitOn sep s = [a]) ∨
      ∃ t, s = a ++ sep :: t ∧ splitOn sep s = a :: splitOn sep t) := by
  obtain ⟨a, ha, h | ⟨t, h⟩⟩ := cut_first sep s <;> subst h
  · exact ⟨_, ha, Or.inl ⟨rfl, splitOn_free sep _ ha⟩⟩
  · exact ⟨a, ha, Or.inr ⟨t, rfl, splitOn_free_sep sep t a ha⟩⟩

theorem splitOn_joinWith (sep : Nat) : ∀ st : List Bytes, st ≠ [] → (∀ c ∈ st, sep ∉ c) →
    splitOn sep (joinWith sep st) = st
  | [], h, _ => absurd rfl h
  | [a], _, h => splitOn_free sep a (h a (List.mem_singleton_self a))
  | a :: b :: st, _, h => by
    show splitOn sep (a ++ sep :: joinWith sep (b :: st)) = _
    rw [splitOn_free_sep sep _ a (h a List.mem_cons_self),
      splitOn_joinWith sep (b :: st) (List.cons_ne_nil _ _) fun c hc => h c (List.mem_cons_of_mem _ hc)]

theorem lowerB_cases (b : Nat) :
    (isUpperB b = false ∧ lowerB b = b) ∨ (65 ≤ b ∧ b ≤ 90 ∧ isUpperB b = true ∧ lowerB b = b + 32) := by
  unfold lowerB
  cases h : isUpperB b
  · exact Or.inl ⟨rfl, rfl⟩
  · have := h
    simp only [isUpperB, Bool.and_eq_true, decide_eq_true_eq] at this
    exact Or.inr ⟨this.1, this.2, rfl, rfl⟩

theorem isUpperB_lowerB (b : Nat) : isUpperB (lowerB b) = false := by
  rcases lowerB_cases b with ⟨hu, h⟩ | ⟨h1, h2, _, h⟩ <;> rw [h]
  · exact hu
  · rw [isUpperB, decide_eq_false (by omega : ¬ b + 32 ≤ 90), Bool.and_false]

theorem lowerB_lowerB (b : Nat) : lowerB (lowerB b) = lowerB b := by
  rw [lowerB, isUpperB_lowerB]; rfl

theorem lowerB_eq_iff {v : Nat} (hl : isLowerB v = false) (hu : isUpperB v = false) {c : Nat} :
    lowerB c = v ↔ c = v := by
  rcases lowerB_cases c with ⟨_, h⟩ | ⟨h1, h2, hc, h⟩ <;> rw [h]
  refine ⟨fun e => ?_, fun e => ?_⟩
  · rw [← e, isLowerB, decide_eq_true (by omega : 97 ≤ c + 32), decide_eq_true (by omega : c + 32 ≤ 122)] at hl
    cases hl
  · rw [e, hu] at hc; cases hc

theorem lowerB_beq (v : Nat) (hl : isLowerB v = false) (hu : isUpperB v = false) (c : Nat) :
    (lowerB c == v) = (c == v) := by
  rw [Bool.eq_iff_iff, beq_iff_eq, beq_iff_eq, lowerB_eq_iff hl hu]

theorem isAlnumB_lowerB (b : Nat) : isAlnumB (lowerB b) = isAlnumB b := by
  rcases lowerB_cases b with ⟨_, h⟩ | ⟨h1, h2, hu, h⟩ <;> rw [h]
  have : isLowerB (b + 32) = true := by
    rw [isLowerB, decide_eq_true (by omega : 97 ≤ b + 32), decide_eq_true (by omega : b + 32 ≤ 122)]; rfl
  simp only [isAlnumB, this, hu, Bool.true_or, Bool.or_true]

theorem lower_idem (s : Bytes) : lower (lower s) = lower s := by
  rw [lower, lower, List.map_map]
  exact List.map_congr_left fun b _ => lowerB_lowerB b

theorem lower_eq_nil {s : Bytes} : lower s = [] ↔ s = [] := List.map_eq_nil_iff

end AGH.Bytes
