/-
C04 lemmas: Go's binary search on a sorted key list is the lower bound,
and `SortedMap.Set` / `SortedMap.Del` keep `keys` sorted, duplicate-free and
equal to the domain of `vals` (and `Del` never panics).  On the way, the model's
maps (`FMap`) pointwise: `set` / `del`, `setAll` / `delAll`.  Core Lean only.
-/
import AGH.Lemmas.ClientsOrder
namespace AGH.C04
open AGH AGH.Bytes
open AGH.C03 (Prefix)

/-- The test of the search loop: `cmp(x[h], target) < 0`. -/
def below (t : Prefix) (x : Prefix) : Bool := subnetCompare x t == .lt

theorem below_iff {t x : Prefix} : below t x = true ↔ plt x t := by
  simp [below, subnetCompare_lt]

/-- The lower bound of `t`: how many keys stand before the first that is not below `t`. -/
def lb (keys : List Prefix) (t : Prefix) : Nat := (keys.takeWhile (below t)).length

theorem take_lb (keys : List Prefix) (t : Prefix) : keys.take (lb keys t) = keys.takeWhile (below t) :=
  (List.prefix_iff_eq_take.mp (List.takeWhile_prefix _)).symm

theorem drop_lb (keys : List Prefix) (t : Prefix) : keys.drop (lb keys t) = keys.dropWhile (below t) :=
  (congrArg (List.drop (lb keys t)) List.takeWhile_append_dropWhile.symm).trans List.drop_left

theorem lb_le (keys : List Prefix) (t : Prefix) : lb keys t ≤ keys.length :=
  (List.takeWhile_sublist _).length_le

theorem mem_take_lb {keys : List Prefix} {t x : Prefix} (h : x ∈ keys.take (lb keys t)) : plt x t := by
  rw [take_lb] at h
  exact below_iff.mp (List.all_eq_true.mp List.all_takeWhile x h)

theorem mem_drop_lb {keys : List Prefix} (hs : Sorted keys) {t x : Prefix}
    (h : x ∈ keys.drop (lb keys t)) : ¬ plt x t := by
  rw [drop_lb] at h
  induction keys with
  | nil => simp at h
  | cons a rest ih =>
    have hs' : Sorted rest := (List.pairwise_cons.mp hs).2
    have ha : ∀ y ∈ rest, plt a y := (List.pairwise_cons.mp hs).1
    simp only [List.dropWhile_cons] at h
    split at h
    · exact ih hs' h
    · next hb =>
      have hnb : ¬ plt a t := fun hp => hb (below_iff.mpr hp)
      rcases List.mem_cons.mp h with rfl | hx
      · exact hnb
      · exact fun hxt => hnb (plt_trans (ha x hx) hxt)

theorem getElem_lt_lb {keys : List Prefix} (hs : Sorted keys) {t x : Prefix} {h : Nat}
    (hx : keys[h]? = some x) : plt x t ↔ h < lb keys t := by
  constructor
  · intro hp
    apply Classical.byContradiction
    intro hn
    refine mem_drop_lb hs (List.mem_iff_getElem?.mpr ⟨h - lb keys t, ?_⟩) hp
    rw [List.getElem?_drop, Nat.add_sub_of_le (Nat.le_of_not_lt hn)]
    exact hx
  · intro hl
    refine mem_take_lb (keys := keys) (List.mem_iff_getElem?.mpr ⟨h, ?_⟩)
    rw [List.getElem?_take_of_lt hl]
    exact hx

theorem mid_lt {i j : Nat} (h : i < j) : (i + j) / 2 < j :=
  Nat.div_lt_of_lt_mul (Nat.two_mul j ▸ Nat.add_lt_add_right h j)

theorem bsearchLoop_eq {keys : List Prefix} (hs : Sorted keys) (t : Prefix) (i j : Nat)
    (hi : i ≤ lb keys t) (hj : lb keys t ≤ j) (hlen : j ≤ keys.length) :
    bsearchLoop keys t i j = lb keys t := by
  fun_induction bsearchLoop keys t i j with
  | case1 i j hij h k hk hlt ih =>
    -- keys[h] < target: continue right of h
    exact ih ((getElem_lt_lb hs hk).mp (subnetCompare_lt.mp hlt)) hj hlen
  | case2 i j hij h k hk hnlt ih =>
    have hh : ¬ h < lb keys t := fun hl => hnlt (subnetCompare_lt.mpr ((getElem_lt_lb hs hk).mpr hl))
    exact ih hi (Nat.le_of_not_lt hh) (Nat.le_trans (Nat.le_of_lt (mid_lt hij)) hlen)
  | case3 i j hij h hnone =>
    -- x[h] out of range is impossible
    exact absurd (Nat.lt_of_lt_of_le (mid_lt hij) hlen) (Nat.not_lt.mpr (List.getElem?_eq_none_iff.mp hnone))
  | case4 i j hij => exact Nat.le_antisymm hi (Nat.le_trans hj (Nat.le_of_not_lt hij))

theorem getElem_lb_of_mem {keys : List Prefix} (hs : Sorted keys) {t : Prefix} (hm : t ∈ keys) :
    keys[lb keys t]? = some t := by
  obtain ⟨i, hi⟩ := List.mem_iff_getElem?.mp hm
  obtain ⟨hlen, hget⟩ := List.getElem?_eq_some_iff.mp hi
  -- `t` is not before itself, and a key left of `t` is before it
  have h1 : ¬ i < lb keys t := fun hl => plt_irrefl t ((getElem_lt_lb hs hi).mpr hl)
  have h2 : ¬ lb keys t < i := by
    intro hl
    have hlt := List.pairwise_iff_getElem.mp hs _ _ (Nat.lt_trans hl hlen) hlen hl
    rw [hget] at hlt
    exact Nat.lt_irrefl _ ((getElem_lt_lb hs (List.getElem?_eq_getElem _)).mp hlt)
  rw [Nat.le_antisymm (Nat.le_of_not_lt h1) (Nat.le_of_not_lt h2)]
  exact hi

theorem bsearch_eq {keys : List Prefix} (hs : Sorted keys) (t : Prefix) :
    bsearch keys t = (lb keys t, decide (t ∈ keys)) := by
  unfold bsearch
  dsimp only
  rw [bsearchLoop_eq hs t 0 keys.length (Nat.zero_le _) (lb_le keys t) (Nat.le_refl _)]
  refine congrArg (Prod.mk _) ?_
  by_cases hm : t ∈ keys
  · rw [getElem_lb_of_mem hs hm, decide_eq_true hm]
    exact beq_iff_eq.mpr (subnetCompare_eq.mpr rfl)
  · rw [decide_eq_false hm]
    cases hk : keys[lb keys t]? with
    | none => rfl
    | some k =>
      exact beq_eq_false_iff_ne.mpr fun he =>
        hm (subnetCompare_eq.mp he ▸ List.mem_of_getElem? hk)

structure SMInv (m : SortedMap) : Prop where
  sorted : Sorted m.keys
  dom : ∀ k, k ∈ m.keys ↔ (m.vals k).isSome = true

theorem SMInv.empty : SMInv SortedMap.empty :=
  ⟨List.Pairwise.nil, by intro k; simp [SortedMap.empty, FMap.empty]⟩

theorem sorted_insert {keys : List Prefix} (hs : Sorted keys) {t : Prefix} (hn : t ∉ keys) :
    Sorted (keys.take (lb keys t) ++ t :: keys.drop (lb keys t)) := by
  unfold Sorted at *
  rw [List.pairwise_append]
  refine ⟨hs.sublist (List.take_sublist _ _), ?_, ?_⟩
  · rw [List.pairwise_cons]
    refine ⟨?_, hs.sublist (List.drop_sublist _ _)⟩
    intro y hy
    rcases plt_trichotomy t y with h | h | h
    · subst h; exact absurd (List.mem_of_mem_drop hy) hn
    · exact h
    · exact absurd h (mem_drop_lb hs hy)
  · intro x hx y hy
    rcases List.mem_cons.mp hy with rfl | hy
    · exact mem_take_lb hx
    · exact hs.rel_of_mem_take_of_mem_drop hx hy

theorem mem_insertAt {α : Type} {l : List α} {i : Nat} {k x : α} :
    x ∈ l.take i ++ k :: l.drop i ↔ x = k ∨ x ∈ l := by
  rw [List.mem_append, List.mem_cons, or_left_comm, ← List.mem_append, List.take_append_drop]

section fmap
variable {κ : Type} [DecidableEq κ]

theorem FMap.isSome_set (m : FMap κ) (k x : κ) (u : UID) :
    ((m.set k u) x).isSome = true ↔ x = k ∨ (m x).isSome = true := by
  unfold FMap.set
  by_cases hx : x = k
  · rw [if_pos hx]; exact ⟨fun _ => .inl hx, fun _ => rfl⟩
  · rw [if_neg hx]; exact ⟨.inr, fun h => h.resolve_left hx⟩

theorem FMap.isSome_del (m : FMap κ) (k x : κ) :
    ((m.del k) x).isSome = true ↔ x ≠ k ∧ (m x).isSome = true := by
  unfold FMap.del
  by_cases hx : x = k
  · rw [if_pos hx]; exact ⟨nofun, fun h => absurd hx h.1⟩
  · rw [if_neg hx]; exact ⟨fun h => ⟨hx, h⟩, fun h => h.2⟩

theorem FMap.del_of_none (m : FMap κ) (k : κ) (h : m k = none) : m.del k = m := by
  funext x
  unfold FMap.del
  by_cases hx : x = k
  · rw [if_pos hx, hx, h]
  · rw [if_neg hx]

theorem foldl_update (v : Option UID) (m : κ → Option UID) (ks : List κ) (k : κ) :
    (ks.foldl (fun m a x => if x = a then v else m x) m) k = if k ∈ ks then v else m k := by
  induction ks generalizing m with
  | nil => rfl
  | cons a rest ih =>
    rw [List.foldl_cons, ih]
    by_cases h1 : k ∈ rest
    · rw [if_pos h1, if_pos (List.mem_cons_of_mem a h1)]
    · rw [if_neg h1]
      by_cases h2 : k = a
      · rw [if_pos h2, if_pos (h2 ▸ List.mem_cons_self)]
      · rw [if_neg h2, if_neg fun h => (List.mem_cons.mp h).elim h2 h1]

theorem FMap.setAll_apply (m : FMap κ) (ks : List κ) (u : UID) (k : κ) :
    (m.setAll ks u) k = if k ∈ ks then some u else m k :=
  foldl_update (some u) m ks k

theorem FMap.delAll_apply (m : FMap κ) (ks : List κ) (k : κ) :
    (m.delAll ks) k = if k ∈ ks then none else m k :=
  foldl_update none m ks k

theorem FMap.set_eq_setAll (m : FMap κ) (k : κ) (u : UID) : m.set k u = m.setAll [k] u := rfl
theorem FMap.del_eq_delAll (m : FMap κ) (k : κ) : m.del k = m.delAll [k] := rfl

end fmap

theorem SortedMap.set_vals (m : SortedMap) (k : Prefix) (u : UID) :
    (m.set k u).vals = m.vals.set k u := by
  unfold SortedMap.set
  dsimp only
  split <;> rfl

theorem SortedMap.set_keys_of_mem {m : SortedMap} (hs : Sorted m.keys) {k : Prefix} (hm : k ∈ m.keys)
    (u : UID) : (m.set k u).keys = m.keys := by
  obtain ⟨hlt, hget⟩ := List.getElem?_eq_some_iff.mp (getElem_lb_of_mem hs hm)
  have hset := List.set_getElem_self hlt
  rw [hget] at hset
  unfold SortedMap.set
  rw [bsearch_eq hs, decide_eq_true hm]
  exact hset

theorem SortedMap.set_keys_of_not_mem {m : SortedMap} (hs : Sorted m.keys) {k : Prefix} (hn : k ∉ m.keys)
    (u : UID) : (m.set k u).keys = m.keys.take (lb m.keys k) ++ k :: m.keys.drop (lb m.keys k) := by
  unfold SortedMap.set
  rw [bsearch_eq hs, decide_eq_false hn]
  rfl

theorem SMInv.set {m : SortedMap} (h : SMInv m) (k : Prefix) (u : UID) : SMInv (m.set k u) := by
  by_cases hm : k ∈ m.keys
  · have hk := SortedMap.set_keys_of_mem h.sorted hm u
    constructor
    · rw [hk]; exact h.sorted
    · intro x
      rw [hk, SortedMap.set_vals, FMap.isSome_set, ← h.dom x]
      exact ⟨.inr, fun hx => hx.elim (fun e => e ▸ hm) id⟩
  · have hk := SortedMap.set_keys_of_not_mem h.sorted hm u
    constructor
    · rw [hk]; exact sorted_insert h.sorted hm
    · intro x
      rw [hk, SortedMap.set_vals, FMap.isSome_set, ← h.dom x]
      exact mem_insertAt

theorem SMInv.del {m : SortedMap} (h : SMInv m) (k : Prefix) :
    ∃ m', m.del k = some m' ∧ SMInv m' ∧ m'.vals = m.vals.del k := by
  unfold SortedMap.del
  cases hv : m.vals k with
  | none => exact ⟨m, rfl, h, (FMap.del_of_none m.vals k hv).symm⟩
  | some u =>
    have hm : k ∈ m.keys := (h.dom k).mpr (by rw [hv]; rfl)
    obtain ⟨hlt, hget⟩ := List.getElem?_eq_some_iff.mp (getElem_lb_of_mem h.sorted hm)
    -- the key sits at the lower bound, so cutting that position out erases the key
    have hkeys : m.keys.take (lb m.keys k) ++ m.keys.drop (lb m.keys k + 1) = m.keys.erase k := by
      have hsplit := List.take_append_drop (lb m.keys k) m.keys
      rw [List.drop_eq_getElem_cons hlt, hget] at hsplit
      rw [← congrArg (List.erase · k) hsplit,
        List.erase_append_right _ fun hk => plt_irrefl k (mem_take_lb hk), List.erase_cons_head]
    rw [bsearch_eq h.sorted]
    dsimp only
    rw [if_pos (show lb m.keys k + 1 ≤ m.keys.length from hlt), hkeys]
    refine ⟨_, rfl, ⟨h.sorted.erase k, fun x => ?_⟩, rfl⟩
    rw [FMap.isSome_del, ← h.dom x]
    exact h.sorted.nodup.mem_erase_iff

end AGH.C04
