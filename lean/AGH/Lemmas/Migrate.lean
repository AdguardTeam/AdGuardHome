/-
Helper lemmas for C13 (core Lean only): association lists, the `yaml.go`
primitives, what the theorems of `Props/C13.lean` are stated in besides the spec
(`DocLike`, `topKeys`, `getKeys`, `onBranch`; `ReencodeStable` and `FmtTotal` stand
with `clean` in `MigrateErase.lean`), the judgment in which the steps are verified: `Yields E Q r` (a
result with `Q` or a fault with `E`; `Safe Q r` is the case "no panic"), with one
rule per form of the model's text (the `match` that stands for `>>=`, `if`, the
guards), and `step_cases`, by which a fact about all 29 steps becomes a fact
about `step o n`.
-/
import AGH.Spec.Migrate
namespace AGH.C13
open AGH

theorem lookup_insert_same (k : Key) (v : YVal) (es : List (Key × YVal)) :
    lookup k (insert k v es) = some v := by
  fun_induction insert k v es with
  | case1 => exact if_pos rfl
  | case2 v' es => exact if_pos rfl
  | case3 k' v' es h ih => rw [lookup, if_neg h, ih]

theorem lookup_insert_ne {k k' : Key} {v : YVal} {es : List (Key × YVal)} (h : k ≠ k') :
    lookup k' (insert k v es) = lookup k' es := by
  fun_induction insert k v es with
  | case1 => exact if_neg h
  | case2 v' es => rw [lookup, lookup, if_neg h, if_neg h]
  | case3 k'' v' es h1 ih => rw [lookup, lookup, ih]

theorem lookup_erase_ne {k k' : Key} {es : List (Key × YVal)} (h : k ≠ k') :
    lookup k' (erase k es) = lookup k' es := by
  fun_induction erase k es with
  | case1 => rfl
  | case2 v' es ih => rw [ih, lookup, if_neg h]
  | case3 k'' v' es h1 ih => rw [lookup, lookup, ih]

theorem lookupE_eq_lookup (k : Key) (es : List (Key × YVal)) : lookupE k es = lookup k es := by
  induction es with
  | nil => rfl
  | cons e es ih => obtain ⟨k', v⟩ := e; simp [lookupE, lookup, ih]

theorem mem_of_lookup {k : Key} {v : YVal} {es : List (Key × YVal)} : lookup k es = some v → (k, v) ∈ es := by
  fun_induction lookup k es with
  | case1 => exact nofun
  | case2 v' es => exact fun h => Option.some.inj h ▸ List.mem_cons_self
  | case3 k' v' es hk ih => exact fun h => List.mem_cons_of_mem _ (ih h)

theorem mem_insert {e : Key × YVal} {k : Key} {v : YVal} {es : List (Key × YVal)} : e ∈ insert k v es →
    e = (k, v) ∨ e ∈ es := by
  fun_induction insert k v es with
  | case1 => exact fun he => Or.inl (List.mem_singleton.mp he)
  | case2 v' es => exact fun he => (List.mem_cons.mp he).imp_right (List.mem_cons_of_mem _)
  | case3 k' v' es h ih =>
    exact fun he => (List.mem_cons.mp he).elim (fun h => Or.inr (h ▸ List.mem_cons_self))
      fun h => (ih h).imp_right (List.mem_cons_of_mem _)

theorem mem_erase {e : Key × YVal} {k : Key} {es : List (Key × YVal)} : e ∈ erase k es → e ∈ es := by
  fun_induction erase k es with
  | case1 => exact id
  | case2 v' es ih => exact fun he => List.mem_cons_of_mem _ (ih he)
  | case3 k' v' es h ih =>
    exact fun he => (List.mem_cons.mp he).elim (· ▸ List.mem_cons_self) fun h => List.mem_cons_of_mem _ (ih h)

theorem insert_eq_self {k : Key} {x : YVal} {es : List (Key × YVal)} : lookup k es = some x → insert k x es = es := by
  fun_induction insert k x es with
  | case1 => exact nofun
  | case2 v' es => intro hl; rw [lookup, if_pos rfl] at hl; cases hl; rfl
  | case3 k' v' es h ih => intro hl; rw [lookup, if_neg h] at hl; rw [ih hl]

def IsObj : YVal → Prop
  | .obj _ => True
  | _ => False

theorem IsObj.elim {v : YVal} (h : IsObj v) : ∃ es, v = .obj es := by
  cases v <;> simp [IsObj] at h
  exact ⟨_, rfl⟩

theorem isObj_obj (es) : IsObj (.obj es) := trivial

theorem setK_obj {m : YVal} (h : IsObj m) (k : Key) (v : YVal) :
    ∃ es, setK m k v = .ok (.obj es) ∧ lookup k es = some v ∧
      ∀ k', k ≠ k' → lookup k' es = getK m k' := by
  obtain ⟨es, rfl⟩ := h.elim
  exact ⟨_, rfl, lookup_insert_same _ _ _, fun _ => lookup_insert_ne⟩

theorem setK_ok {m : YVal} (h : IsObj m) (k : Key) (v : YVal) : setK m k v = .ok (putK m k v) := by
  obtain ⟨es, rfl⟩ := h.elim; rfl

theorem putK_of_setK {m m' v : YVal} {k : Key} (h : setK m k v = .ok m') : m' = putK m k v := by
  cases m <;> cases h; rfl

theorem setK_obj_putK (es) (k : Key) (v : YVal) : setK (.obj es) k v = .ok (putK (.obj es) k v) := rfl

theorem stamp_obj (n : Nat) (es) : stamp n (.obj es) = .ok (.obj (insert kSchemaVersion (.int n) es)) := rfl

theorem putK_isObj {m : YVal} (h : IsObj m) (k : Key) (v : YVal) : IsObj (putK m k v) := by
  obtain ⟨es, rfl⟩ := h.elim; trivial

theorem delK_isObj {m : YVal} (h : IsObj m) (k : Key) : IsObj (delK m k) := by
  obtain ⟨es, rfl⟩ := h.elim; trivial

theorem getK_putK_same {m : YVal} (h : IsObj m) (k : Key) (v : YVal) : getK (putK m k v) k = some v := by
  obtain ⟨es, rfl⟩ := h.elim; exact lookup_insert_same _ _ _

theorem getK_putK_ne {m : YVal} {k k' : Key} {v : YVal} (h : k ≠ k') : getK (putK m k v) k' = getK m k' := by
  cases m <;> simp [putK, getK]
  exact lookup_insert_ne h

theorem getK_delK_ne {m : YVal} {k k' : Key} (h : k ≠ k') : getK (delK m k) k' = getK m k' := by
  cases m <;> simp [delK, getK]
  exact lookup_erase_ne h

/-- Cases of `fieldVal`: no field; null read as an object, as another type; a value of type `T`, of another. -/
theorem fieldVal_ok_ty {T : Ty} {m : YVal} {k : Key} :
    (fieldVal T m k).ok = true → hasTy T (fieldVal T m k).v = true := by
  fun_cases fieldVal T m k with
  | case1 | case2 | case5 => exact nofun
  -- null read at a type other than `.obj`: the zero value of each such type has that type; `.obj` is excluded by this exit's test
  | case3 => intro _; cases T <;> first | rfl | contradiction
  | case4 v _ _ hty => exact fun _ => hty

theorem fieldVal_obj_ok {m : YVal} {k : Key} (h : (fieldVal .obj m k).ok = true) :
    IsObj (fieldVal .obj m k).v := by
  have := fieldVal_ok_ty h
  cases hv : (fieldVal .obj m k).v <;> rw [hv] at this <;> first | trivial | cases this

theorem fieldVal_arr_ok {m : YVal} {k : Key} (h : (fieldVal .arr m k).ok = true) :
    ∃ xs, (fieldVal .arr m k).v = .arr xs := by
  have := fieldVal_ok_ty h
  cases hv : (fieldVal .arr m k).v <;> rw [hv] at this <;> first | exact ⟨_, rfl⟩ | cases this

theorem fieldVal_str_ok {m : YVal} {k : Key} (h : (fieldVal .str m k).ok = true) :
    ∃ s, (fieldVal .str m k).v = .str s := by
  have := fieldVal_ok_ty h
  cases hv : (fieldVal .str m k).v <;> rw [hv] at this <;> first | exact ⟨_, rfl⟩ | cases this

theorem fieldVal_v_cases (T : Ty) (m : YVal) (k : Key) :
    (fieldVal T m k).v = zeroOf T ∨ getK m k = some (fieldVal T m k).v := by
  -- case 4 (the key is at `fieldVal_ok_ty`): the one exit that hands out the value read; the others hand out `zeroOf T`
  fun_cases fieldVal T m k with
  | case4 v _ hg _ => exact .inr hg
  | case1 | case2 | case3 | case5 => exact .inl rfl

theorem fieldVal_obj_getK {m : YVal} {k : Key} (h : (fieldVal .obj m k).ok = true) :
    getK m k = some (fieldVal .obj m k).v := by
  rcases fieldVal_v_cases .obj m k with hz | hg
  · have := fieldVal_obj_ok h
    rw [hz] at this
    exact False.elim this
  · exact hg

theorem fieldVal_arr_getK {m : YVal} {k : Key} {xs : List YVal}
    (h : (fieldVal .arr m k).v = .arr xs) (hne : xs ≠ []) : getK m k = some (.arr xs) := by
  rcases fieldVal_v_cases .arr m k with hz | hg
  · rw [h] at hz; cases hz; exact absurd rfl hne
  · rw [hg, h]

theorem fieldVal_putK_ne (T : Ty) (m : YVal) (k k' : Key) (v : YVal) (h : k ≠ k') :
    fieldVal T (putK m k v) k' = fieldVal T m k' := by
  simp [fieldVal, getK_putK_ne h]

theorem fieldVal_delK_ne (T : Ty) (m : YVal) (k k' : Key) (h : k ≠ k') :
    fieldVal T (delK m k) k' = fieldVal T m k' := by
  simp [fieldVal, getK_delK_ne h]

/-- What `yaml.Unmarshal(body, &yobj{})` can leave in `diskConf`. -/
def DocLike : Option YVal → Prop
  | none => True
  | some .null => True
  | some (.obj _) => True
  | _ => False

/-- The top-level keys under which the paths lie; every other top-level key keeps its value. -/
def topKeys : List Path → List Key
  | [] => []
  | (.key k :: _) :: r => k :: topKeys r
  | _ :: r => topKeys r

def getKeys : YVal → List Key → Option YVal
  | v, [] => some v
  | .obj es, k :: ks => (lookup k es).bind (fun v => getKeys v ks)
  | _, _ :: _ => none

theorem getKeys_one (d : YVal) (k : Key) : getKeys d [k] = getK d k := by
  cases d <;> simp [getKeys, getK]

/-- A write at `q` can change what is read at `p`. -/
def onBranch (q p : Path) : Bool := q.isPrefixOf p || p.isPrefixOf q

/-- `ε` is left open: a step fails with a `Fault`, a run of steps with the fault and the number of
the step. -/
def Yields {ε α} (E : ε → Prop) (Q : α → Prop) : Except ε α → Prop
  | .ok a => Q a
  | .error e => E e

def NotPanic : Fault → Prop
  | .panic _ => False
  | _ => True

abbrev Safe {α} (Q : α → Prop) (r : M α) : Prop := Yields NotPanic Q r

abbrev NoPanic {α} (r : M α) : Prop := Safe (fun _ => True) r

section
variable {α β : Type} {E : Fault → Prop}

theorem Yields.imp {ε : Type} {E E' : ε → Prop} {P Q : α → Prop} {r : Except ε α} (h : Yields E P r)
    (hE : ∀ e, E e → E' e) (hPQ : ∀ a, P a → Q a) : Yields E' Q r := by
  cases r with
  | ok a => exact hPQ a h
  | error e => exact hE e h

theorem Yields.mono {P Q : α → Prop} {r : M α} (h : Yields E P r) (hPQ : ∀ a, P a → Q a) : Yields E Q r :=
  h.imp (fun _ => id) hPQ

/-- A computation that does not panic may be named by its result in what follows. -/
theorem Yields.named {r : M α} (h : NoPanic r) : Safe (fun a => r = .ok a) r := by
  cases r <;> first | rfl | exact h

theorem Yields.elim {ε : Type} {E : ε → Prop} {Q : α → Prop} {r : Except ε α} {a : α} (h : Yields E Q r)
    (hr : r = .ok a) : Q a := by
  subst hr; exact h

/-- The model writes `x >>= f` as a `match`; one lemma per type of `x`, because each type has a
matcher of its own. -/
theorem Yields.bind {P : YVal → Prop} {Q : β → Prop} {x : M YVal} {f : YVal → M β} :
    Yields E P x → (∀ a, P a → Yields E Q (f a)) → Yields E Q (match x with | .error e => .error e | .ok a => f a) := by
  intro hx hf
  cases x with
  | ok a => exact hf a hx
  | error e => exact hx

theorem Yields.bindL {P : List YVal → Prop} {Q : β → Prop} {x : M (List YVal)} {f : List YVal → M β} :
    Yields E P x → (∀ a, P a → Yields E Q (f a)) → Yields E Q (match x with | .error e => .error e | .ok a => f a) := by
  intro hx hf
  cases x with
  | ok a => exact hf a hx
  | error e => exact hx

theorem Yields.bindBs {P : List Bytes → Prop} {Q : β → Prop} {x : M (List Bytes)} {f : List Bytes → M β} :
    Yields E P x → (∀ a, P a → Yields E Q (f a)) → Yields E Q (match x with | .error e => .error e | .ok a => f a) := by
  intro hx hf
  cases x with
  | ok a => exact hf a hx
  | error e => exact hx

theorem Yields.bind₂ {P : YVal × Bool → Prop} {Q : β → Prop} {x : M (YVal × Bool)} {f : YVal → Bool → M β} :
    Yields E P x → (∀ m e, P (m, e) → Yields E Q (f m e)) →
    Yields E Q (match x with | .error e => .error e | .ok (m, e) => f m e) := by
  intro hx hf
  cases x with
  | ok a => exact hf a.1 a.2 hx
  | error e => exact hx

theorem Yields.bind₃ {P : YVal × YVal × Bool → Prop} {Q : β → Prop} {x : M (YVal × YVal × Bool)}
    {f : YVal → YVal → Bool → M β} :
    Yields E P x → (∀ s d e, P (s, d, e) → Yields E Q (f s d e)) →
    Yields E Q (match x with | .error e => .error e | .ok (s, d, e) => f s d e) := by
  intro hx hf
  cases x with
  | ok a => exact hf a.1 a.2.1 a.2.2 hx
  | error e => exact hx

theorem Yields.ite {Q : α → Prop} {c : Prop} [Decidable c] {a b : M α}
    (ha : c → Yields E Q a) (hb : ¬c → Yields E Q b) : Yields E Q (if c then a else b) := by
  split
  · next h => exact ha h
  · next h => exact hb h

theorem Yields.guard {Q : α → Prop} {c : Prop} [Decidable c] {f : Fault} {b : M α} (h : Yields E Q b)
    (hf : E f := by trivial) : Yields E Q (if c then .error f else b) :=
  .ite (fun _ => hf) fun _ => h

/-- `if !ok { return err }` after a `fieldVal`: the rest runs with a value that was found. -/
theorem Yields.ifOk {Q : YVal → Prop} {T : Ty} {m d : YVal} {k : Key} {body : M YVal} (hd : Q d)
    (h : (fieldVal T m k).ok = true → Yields E Q body) (hf : E (.err .type) := by trivial) :
    Yields E Q (if (fieldVal T m k).ok then body else bail (fieldVal T m k) d) :=
  .ite h fun _ => .guard hd hf

end

theorem step_cases {P : Nat → (YVal → M YVal) → Prop} (o : Oracles)
    (h1 : P 1 migrateTo1) (h2 : P 2 migrateTo2) (h3 : P 3 migrateTo3) (h4 : P 4 migrateTo4)
    (h5 : P 5 migrateTo5) (h6 : P 6 migrateTo6) (h7 : P 7 migrateTo7) (h8 : P 8 migrateTo8)
    (h9 : P 9 migrateTo9) (h10 : P 10 (migrateTo10 o)) (h11 : P 11 migrateTo11) (h12 : P 12 migrateTo12)
    (h13 : P 13 migrateTo13) (h14 : P 14 migrateTo14) (h15 : P 15 migrateTo15) (h16 : P 16 migrateTo16)
    (h17 : P 17 migrateTo17) (h18 : P 18 migrateTo18) (h19 : P 19 migrateTo19) (h20 : P 20 migrateTo20)
    (h21 : P 21 migrateTo21) (h22 : P 22 migrateTo22) (h23 : P 23 (migrateTo23 o)) (h24 : P 24 migrateTo24)
    (h25 : P 25 migrateTo25) (h26 : P 26 migrateTo26) (h27 : P 27 migrateTo27) (h28 : P 28 migrateTo28)
    (h29 : P 29 (migrateTo29 o)) (n : Nat) (hn1 : 1 ≤ n) (hn29 : n ≤ 29) : P n (step o n) :=
  match n with
  | 0 => absurd hn1 (by decide)
  | 1 => h1 | 2 => h2 | 3 => h3 | 4 => h4 | 5 => h5 | 6 => h6 | 7 => h7 | 8 => h8 | 9 => h9 | 10 => h10
  | 11 => h11 | 12 => h12 | 13 => h13 | 14 => h14 | 15 => h15 | 16 => h16 | 17 => h17 | 18 => h18
  | 19 => h19 | 20 => h20 | 21 => h21 | 22 => h22 | 23 => h23 | 24 => h24 | 25 => h25 | 26 => h26
  | 27 => h27 | 28 => h28 | 29 => h29
  | _ + 30 => absurd hn29 (by omega)

theorem step_out (o : Oracles) (n : Nat) (d : YVal) (h : n = 0 ∨ 30 ≤ n) : step o n d = .error (.panic .other) := by
  rcases h with rfl | h
  · rfl
  · obtain ⟨m, rfl⟩ := Nat.exists_eq_add_of_le' h
    rfl

end AGH.C13
