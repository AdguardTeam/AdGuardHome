/-
C04 lemmas: the configuration-file round trip and restart.  Core Lean only.
-/
import AGH.Lemmas.ClientsHistory
namespace AGH.C04
open AGH AGH.Bytes

/-- What a stored client must look like for the configuration file to bring it
back unchanged:
* it has a UID;
* its four identifier lists are in the order `SetIDs` leaves them in;
* on the tree as it is (`fix = false`) none of its MACs has 8 bytes (an EUI-64
  printed with colons reads back as an IPv6 address —
  `C04_counterexample_restart_eui64_before_fix`); with the repair no such condition;
* its ClientIDs are non-empty valid labels in lower case (what `SetIDs` stores);
* it has a safe-search engine exactly when its safe-search config is enabled
  (what `toPersistent` and the HTTP API create). -/
structure Persistable (fix : Bool) (c : Client) : Prop where
  uid : c.uid ≠ 0
  ips : sortBy ipLt c.ips = c.ips
  subnets : sortBy (fun x y => subnetCompare x y == .lt) c.subnets = c.subnets
  macs : sortBy (fun x y => compare x y == .lt) c.macs = c.macs
  cids : sortBy (fun x y => compare x y == .lt) c.cids = c.cids
  noEUI64 : fix = false → ∀ m ∈ c.macs, m.length ≠ 8
  labels : ∀ id ∈ c.cids, id ≠ [] ∧ C16.validLabel id = true ∧ Bytes.lower id = id
  engine : c.safeSearch = if c.safeSearchEnabled then 1 else 0

/-- Strings that each append their value to one list of the client (`set` overwrites
that list) together append the whole list; the loop then goes on with the rest. -/
theorem setIDsLoop_map {α : Type} (f : α → IDString) (set : List α → Client) (l : List α)
    (h : ∀ a ∈ l, ∀ x, setID (set x) (f a) = .ok (set (x ++ [a]))) (x : List α)
    (rest : List IDString) :
    setIDsLoop (set x) (l.map f ++ rest) = setIDsLoop (set (x ++ l)) rest := by
  induction l generalizing x with
  | nil => rw [List.append_nil]; rfl
  | cons a l ih =>
    rw [List.map_cons, List.cons_append, setIDsLoop, h a List.mem_cons_self x]
    refine (ih (fun b hb => h b (List.mem_cons_of_mem _ hb)) _).trans ?_
    rw [List.append_assoc]
    rfl

theorem setID_macString {fix : Bool} {m : MAC} (c : Client) (h : fix = false → m.length ≠ 8) :
    setID c ⟨[109], if fix then none else macAsIP m, none, some m⟩ =
      .ok { c with macs := c.macs ++ [m] } := by
  have : (if fix then none else macAsIP m) = none := by
    cases fix with
    | true => rfl
    | false => exact if_neg (h rfl)
  rw [this]
  rfl

theorem setID_cidString {id : Bytes} (c : Client)
    (h : id ≠ [] ∧ C16.validLabel id = true ∧ Bytes.lower id = id) :
    setID c ⟨id, none, none, none⟩ = .ok { c with cids := c.cids ++ [id] } := by
  unfold setID
  rw [if_neg h.1]
  dsimp only
  rw [if_pos h.2.1, h.2.2]

theorem setIDsLoop_idStrings {fix : Bool} {c : Client} (h : Persistable fix c) (b : Client) :
    setIDsLoop b (c.idStrings fix) = .ok { b with
      ips := b.ips ++ c.ips, subnets := b.subnets ++ c.subnets
      macs := b.macs ++ c.macs, cids := b.cids ++ c.cids } := by
  unfold Client.idStrings
  rw [List.append_assoc, List.append_assoc, ← List.append_nil (List.map _ c.cids),
    setIDsLoop_map _ (fun x => { b with ips := x }) c.ips (fun _ _ _ => rfl) b.ips,
    setIDsLoop_map _ (fun x => { b with ips := b.ips ++ c.ips, subnets := x }) c.subnets
      (fun _ _ _ => rfl) b.subnets,
    setIDsLoop_map _ (fun x => { b with
        ips := b.ips ++ c.ips, subnets := b.subnets ++ c.subnets, macs := x }) c.macs
      (fun m hm _ => setID_macString _ fun hf => h.noEUI64 hf m hm) b.macs,
    setIDsLoop_map _ (fun x => { b with
        ips := b.ips ++ c.ips, subnets := b.subnets ++ c.subnets
        macs := b.macs ++ c.macs, cids := x }) c.cids
      (fun id hid _ => setID_cidString _ (h.labels id hid)) b.cids]
  rfl

theorem toPersistent_forConfig {fix : Bool} {c : Client} (h : Persistable fix c) :
    (c.forConfig fix).toPersistent = some (.ok c) := by
  unfold ClientObject.toPersistent
  rw [if_neg (c := (c.forConfig fix).uid = 0) h.uid]
  dsimp only
  refine congrArg some ?_
  unfold setIDs
  rw [show (c.forConfig fix).ids = c.idStrings fix from rfl, setIDsLoop_idStrings h]
  dsimp only [Client.forConfig, List.nil_append]
  rw [h.ips, h.subnets, h.macs, h.cids, Bool.not_not, Bool.not_not]
  show Except.ok { c with safeSearch := if c.safeSearchEnabled then 1 else 0 } = _
  rw [← h.engine]

theorem addAll_refines {s : Storage} {w : World} (hr : Refines s w) (cs : List Client)
    (hv : ∀ c ∈ cs, c.validate = none ∧ ∀ m ∈ c.macs, macOK m = true)
    (hd : (w.reg ++ cs).Pairwise DisjointP) :
    ∃ s', addAll s cs = some s' ∧ Refines s' ⟨w.reg ++ cs, w.dhcp⟩ := by
  induction cs generalizing s w with
  | nil => exact ⟨s, rfl, by rw [List.append_nil]; exact hr⟩
  | cons c rest ih =>
    have hc : ∀ d ∈ s.index.clients, DisjointP d c := fun d hd' =>
      (List.pairwise_append.mp hd).2.2 d (hr.mem.mp hd') c List.mem_cons_self
    have hok : (s.add c).2 = .ok :=
      Storage.add_accepted s hr.inv c (hv c List.mem_cons_self).1 (fun d hd' => (hc d hd').1)
        (hv c List.mem_cons_self).2 (fun d hd' k hk hkd => (hc d hd').2 k hkd hk)
    have hr' : Refines (s.add c).1 ⟨w.reg ++ [c], w.dhcp⟩ := (step_ok (op := .add c) hok).refines hr
    rw [List.append_cons] at hd ⊢
    rw [addAll, (Prod.ext rfl hok : s.add c = ((s.add c).1, .ok))]
    exact ih hr' (fun x hx => hv x (List.mem_cons_of_mem _ hx)) hd

theorem mapM_load_forConfig (fix : Bool) (l : List Client) (h : ∀ c ∈ l, Persistable fix c) :
    (l.map (Client.forConfig fix)).mapM ClientObject.load = some l := by
  induction l with
  | nil => rfl
  | cons c rest ih =>
    rw [List.map_cons, List.mapM_cons, ClientObject.load, toPersistent_forConfig (h c List.mem_cons_self),
      ih fun x hx => h x (List.mem_cons_of_mem _ hx)]
    rfl

theorem addAll_dhcp {s s' : Storage} {cs : List Client} (h : addAll s cs = some s') : s'.dhcp = s.dhcp := by
  fun_induction addAll s cs with
  | case1 s => exact (congrArg Storage.dhcp (Option.some.inj h)).symm
  | case2 s c rest s1 hr ih => exact (ih h).trans ((congrArg (·.1.dhcp) hr).symm.trans (s.add_dhcp c))
  | case3 s c rest hne => cases h

theorem restart_refines {fix : Bool} (src : RuntimeSources) {s : Storage} {w : World} (hr : Refines s w)
    (hp : ∀ c ∈ s.index.clients, Persistable fix c ∧ c.validate = none ∧ ∀ m ∈ c.macs, macOK m = true) :
    ∃ s', s.restart fix src = (s', .ok) ∧ Refines s' w := by
  have hperm := rangeByName_perm s.index
  obtain ⟨s', h1, h2⟩ := addAll_refines (s := ⟨Index.empty, s.dhcp⟩) (w := ⟨[], w.dhcp⟩)
    ⟨Inv.empty, .nil, hr.dhcp⟩ s.index.rangeByName (fun c hc => (hp c (hperm.mem_iff.mp hc)).2)
    ((hperm.pairwise_iff DisjointP.symm).mpr hr.inv.pairwise_disjoint)
  refine ⟨s', ?_, h2.inv, h2.perm.trans (hperm.trans hr.perm), h2.dhcp⟩
  unfold Storage.restart
  dsimp only
  rw [mapM_load_forConfig fix _ fun c hc => (hp c (hperm.mem_iff.mp hc)).1]
  dsimp only
  rw [h1]

end AGH.C04
