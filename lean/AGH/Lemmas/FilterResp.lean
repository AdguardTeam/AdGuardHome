/-
C01 / C02: the response-filtering loop expressed in the
spec's vocabulary (first offending record, position independent), and what the
records the loop leaves behind (`stripC`) mean for the C02 monitor's comparisons
(`sameModuloStrip`, `deliveredUnchanged`).
-/
import AGH.Lemmas.Filter
namespace AGH.Filter
open AGH AGH.Bytes

/-- the record as the loop leaves it behind -/
def stripC (c : Conf) (rr : RR) : RR := if c.aaaaDisabled then stripRR rr else rr

theorem map_stripC (c : Conf) (l : List RR) :
    l.map (stripC c) = if c.aaaaDisabled then l.map stripRR else l := by
  unfold stripC
  cases c.aaaaDisabled
  · simp only [Bool.false_eq_true, if_false, List.map_id']
  · rfl

/-- The first name the record reveals that the rules block, with the type it is checked under;
`offending` says that there is one (`offending_eq`). -/
def firstBlocked (e : Engines) (c : Conf) (rr : RR) : Option (Bytes × Nat) :=
  (revealed c rr).find? (fun (h, t) => ruleBlockedName e c h t)

theorem offending_eq (e : Engines) (c : Conf) (rr : RR) :
    offending e c rr = (firstBlocked e c rr).isSome :=
  any_eq_isSome_find? _ _

theorem firstBlocked_of_offending {e : Engines} {c : Conf} {rr : RR} (ho : offending e c rr = true) :
    ∃ h t, firstBlocked e c rr = some (h, t) :=
  Prod.exists.mp (Option.isSome_iff_exists.mp (offending_eq e c rr ▸ ho))

theorem firstBlocked_candidate {e : Engines} {c : Conf} {rr : RR} {h : Bytes} {t : Nat}
    (hfb : firstBlocked e c rr = some (h, t)) :
    (t, hostRuleIPs e c h t t) ∈ respCandidates e c rr := by
  unfold firstBlocked at hfb
  exact List.mem_map.mpr ⟨(h, t), List.mem_filter.mpr ⟨List.mem_of_find?_eq_some hfb, by simpa using List.find?_some hfb⟩, rfl⟩

theorem filterSVCBHint_eq (e : Engines) (hwf : EnginesWF e) (c : Conf)
    (hp : protectionOn c = true) (hf : filteringOn c = true) (l : List IP) :
    filterSVCBHint e (settings c) l =
      .ok ((l.find? (fun ip => ruleBlockedName e c (lower ip.str) tHTTPS)).map
        (fun ip => blockResult e c (lower ip.str) tHTTPS)) := by
  induction l with
  | nil => rfl
  | cons ip rest ih =>
    unfold filterSVCBHint
    rw [matchHost_on e hwf c _ _ hp hf, List.find?_cons]
    cases hb : ruleBlockedName e c (lower ip.str) tHTTPS
    · simp only [ruleResult_notBlocked hb, Bool.false_eq_true, if_false]
      exact ih
    · rw [ruleResult_blocked hb]
      rfl

theorem filterHTTPSParams_eq (e : Engines) (hwf : EnginesWF e) (c : Conf)
    (hp : protectionOn c = true) (hf : filteringOn c = true) (ps : List SvcParam) :
    filterHTTPSParams e (settings c) ps =
      .ok (((ps.flatMap SvcParam.ips).find? (fun ip => ruleBlockedName e c (lower ip.str) tHTTPS)).map
        (fun ip => blockResult e c (lower ip.str) tHTTPS)) := by
  induction ps with
  | nil => rfl
  | cons p rest ih =>
    unfold filterHTTPSParams
    rw [filterSVCBHint_eq e hwf c hp hf, List.flatMap_cons, List.find?_append]
    cases p.ips.find? (fun ip => ruleBlockedName e c (lower ip.str) tHTTPS) with
    | none => exact ih
    | some ip => rfl

/-- the hint addresses the loop looks at are those the spec calls revealed -/
theorem hints_strip (c : Conf) (ps : List SvcParam) :
    (if c.aaaaDisabled then removeIPv6Hints ps else ps).flatMap SvcParam.ips =
      ps.flatMap (fun p => match p with
        | .hint4 l => l
        | .hint6 l => if c.aaaaDisabled then [] else l
        | .other _ => []) := by
  cases hd : c.aaaaDisabled
  · congr 1
  · simp only [if_true, removeIPv6Hints]
    induction ps with
    | nil => rfl
    | cons p rest ih =>
      cases p <;> simp [ih, SvcParam.ips]

/-- What `checkRR` may return beside the stripped record (`checkRR_spec`). -/
def RecordVerdict (e : Engines) (c : Conf) (rr : RR) (ro : Option Result) : Prop :=
  match firstBlocked e c rr with
  | none => ∀ r, ro = some r → r.isFiltered = false
  | some (h, t) => ro = some (blockResult e c h t)

theorem recordVerdict_single (e : Engines) (c : Conf) (rr : RR) (h : Bytes) (t : Nat)
    (hrev : revealed c rr = [(h, t)]) : RecordVerdict e c rr (some (ruleResult e c h t)) := by
  unfold RecordVerdict firstBlocked
  rw [hrev]
  cases hb : ruleBlockedName e c h t
  · simp only [List.find?_cons, List.find?_nil, hb]
    intro r hr; cases hr; exact ruleResult_notBlocked hb
  · simp only [List.find?_cons, hb]
    exact congrArg some (ruleResult_blocked hb)

theorem recordVerdict_unrevealed (e : Engines) (hwf : EnginesWF e) (c : Conf) (rr : RR) (t : Nat)
    (hrev : revealed c rr = []) : RecordVerdict e c rr (some (ruleResult e c [] t)) := by
  unfold RecordVerdict firstBlocked
  rw [hrev]
  intro r hr; cases hr; exact ruleResult_notBlocked (ruleBlockedName_nil e hwf c t)

/-- the verdict of a scan that stops at the first blocked name -/
theorem recordVerdict_first (e : Engines) (c : Conf) (rr : RR) :
    RecordVerdict e c rr ((firstBlocked e c rr).map fun (h, t) => blockResult e c h t) := by
  unfold RecordVerdict
  cases firstBlocked e c rr with
  | none => exact fun r h => nomatch h
  | some ht => rfl

theorem checkRR_spec (e : Engines) (hwf : EnginesWF e) (c : Conf)
    (hp : protectionOn c = true) (hf : filteringOn c = true) (rr : RR) :
    ∃ ro, checkRR e c (settings c) rr = .ok (stripC c rr, ro) ∧ RecordVerdict e c rr ro := by
  rcases rr with ⟨name, ttl, data⟩
  -- a record that reveals one name is one rule check (`recordVerdict_single`); an address record
  -- without address is a check of the empty name (`recordVerdict_unrevealed`); HTTPS hints are
  -- scanned in order (`filterHTTPSParams_eq`, `hints_strip`, `recordVerdict_first`); the other kinds are not checked
  cases data with
  | cname tg =>
    refine ⟨_, ?_, recordVerdict_single e c _ _ _ rfl⟩
    simp only [checkRR, matchHost_on e hwf c _ _ hp hf, Except.map, stripC, stripRR, ite_self]
  | a ip =>
    cases ip with
    | none =>
      refine ⟨_, ?_, recordVerdict_unrevealed e hwf c _ tA rfl⟩
      simp only [checkRR, matchHost_on e hwf c _ _ hp hf, Except.map, stripC, stripRR, ite_self]
      rfl
    | some i =>
      refine ⟨_, ?_, recordVerdict_single e c _ _ _ rfl⟩
      simp only [checkRR, matchHost_on e hwf c _ _ hp hf, Except.map, stripC, stripRR, ite_self]
  | aaaa ip =>
    cases ip with
    | none =>
      refine ⟨_, ?_, recordVerdict_unrevealed e hwf c _ tAAAA rfl⟩
      simp only [checkRR, matchHost_on e hwf c _ _ hp hf, Except.map, stripC, stripRR, ite_self]
      rfl
    | some i =>
      refine ⟨_, ?_, recordVerdict_single e c _ _ _ rfl⟩
      simp only [checkRR, matchHost_on e hwf c _ _ hp hf, Except.map, stripC, stripRR, ite_self]
  | https prio tg ps =>
    refine ⟨_, ?_, recordVerdict_first e c _⟩
    simp only [checkRR, filterHTTPSParams_eq e hwf c hp hf, hints_strip, Except.map, stripC, stripRR, firstBlocked,
      revealed, List.find?_map, Option.map_map, Function.comp_def]
    cases c.aaaaDisabled <;> rfl
  | soa mb => exact ⟨none, by simp only [checkRR, stripC, stripRR, ite_self], fun r h => nomatch h⟩
  | ptr tg => exact ⟨none, by simp only [checkRR, stripC, stripRR, ite_self], fun r h => nomatch h⟩
  | other ty d => exact ⟨none, by simp only [checkRR, stripC, stripRR, ite_self], fun r h => nomatch h⟩

theorem filterAnswers_cons_clean (e : Engines) (hwf : EnginesWF e) (c : Conf)
    (hp : protectionOn c = true) (hf : filteringOn c = true) (rr : RR) (rest : List RR)
    (hrr : offending e c rr = false) :
    filterAnswers e c (settings c) (rr :: rest) =
      (filterAnswers e c (settings c) rest).map (fun (l, x) => (stripC c rr :: l, x)) := by
  obtain ⟨ro, hro, hspec⟩ := checkRR_spec e hwf c hp hf rr
  unfold RecordVerdict at hspec
  rw [offending_eq] at hrr
  rw [filterAnswers, hro]
  cases hfb : firstBlocked e c rr with
  | some x => rw [hfb] at hrr; cases hrr
  | none =>
    rw [hfb] at hspec
    cases ro with
    | none => rfl
    | some r => simp only [hspec r rfl, Bool.false_eq_true, if_false]

theorem filterAnswers_clean (e : Engines) (hwf : EnginesWF e) (c : Conf)
    (hp : protectionOn c = true) (hf : filteringOn c = true) (l : List RR)
    (hclean : ∀ rr ∈ l, offending e c rr = false) :
    filterAnswers e c (settings c) l = .ok (l.map (stripC c), none) := by
  induction l with
  | nil => rfl
  | cons rr rest ih =>
    rw [filterAnswers_cons_clean e hwf c hp hf rr rest (hclean rr List.mem_cons_self),
      ih (fun x hx => hclean x (List.mem_cons_of_mem _ hx))]
    rfl

theorem filterAnswers_first (e : Engines) (hwf : EnginesWF e) (c : Conf)
    (hp : protectionOn c = true) (hf : filteringOn c = true) {pre : List RR} {rr : RR} {post : List RR}
    (hpre : ∀ x ∈ pre, offending e c x = false) {h : Bytes} {t : Nat}
    (hfb : firstBlocked e c rr = some (h, t)) :
    filterAnswers e c (settings c) (pre ++ rr :: post) =
      .ok (pre.map (stripC c) ++ stripC c rr :: post, some (blockResult e c h t)) := by
  induction pre with
  | nil =>
    obtain ⟨ro, hro, hspec⟩ := checkRR_spec e hwf c hp hf rr
    unfold RecordVerdict at hspec
    rw [hfb] at hspec
    subst hspec
    rw [List.nil_append, filterAnswers, hro]
    rfl
  | cons x xs ih =>
    rw [List.cons_append, filterAnswers_cons_clean e hwf c hp hf x _ (hpre x List.mem_cons_self),
      ih (fun y hy => hpre y (List.mem_cons_of_mem _ hy))]
    rfl

theorem sameModuloStrip_refl (c : Conf) (l : List RR) : sameModuloStrip c l l = true := by
  induction l with
  | nil => rfl
  | cons x xs ih => simp [sameModuloStrip, ih]

theorem sameModuloStrip_stripC (c : Conf) (pre : List RR) (x : RR) (post : List RR) :
    sameModuloStrip c (pre.map (stripC c) ++ stripC c x :: post) (pre ++ x :: post) = true := by
  have hone : ∀ y : RR, ((stripC c y).erase == y.erase || (c.aaaaDisabled && (stripC c y).erase == (stripRR y).erase)) = true := by
    intro y
    cases hd : c.aaaaDisabled <;> simp [stripC, hd]
  induction pre with
  | nil => simp [sameModuloStrip, hone, sameModuloStrip_refl]
  | cons a as ih => simp [sameModuloStrip, hone, ih]

theorem deliveredUnchanged_stripC (c : Conf) (l : List RR) :
    deliveredUnchanged c true (l.map (stripC c)) l = true := by
  unfold deliveredUnchanged stripC
  cases c.aaaaDisabled <;> simp

end AGH.Filter
