/-
C20: the binary search of `seekTS` — over a line file with (weakly) increasing
timestamps, and, for termination and soundness of a success, over any content.
-/
import AGH.Lemmas.QLogRender
namespace AGH.C20
open AGH

/-- What a timestamp seek assumes of a line file, as propositions; the monitor's flag
`seekable` gives it (`mkCtx_seekableF`). -/
structure SeekCtx (tsOf : Bytes → Int) (lines : List Bytes) : Prop where
  ok : ∀ l ∈ lines, lineOK l = true
  nz : ∀ l ∈ lines, tsOf l ≠ 0
  sorted : lines.Pairwise (fun a b => tsOf a < tsOf b)

/-- `SeekCtx` with equal timestamps in neighbouring lines allowed (`C20_seek_duplicates`). -/
structure SeekCtxLe (tsOf : Bytes → Int) (lines : List Bytes) : Prop where
  ok : ∀ l ∈ lines, lineOK l = true
  nz : ∀ l ∈ lines, tsOf l ≠ 0
  sorted : lines.Pairwise (fun a b => tsOf a ≤ tsOf b)

theorem SeekCtx.le {tsOf : Bytes → Int} {lines : List Bytes} (c : SeekCtx tsOf lines) :
    SeekCtxLe tsOf lines :=
  ⟨c.ok, c.nz, c.sorted.imp (fun h => Int.le_of_lt h)⟩

theorem SeekCtxLe.mono {tsOf : Bytes → Int} {lines : List Bytes} (c : SeekCtxLe tsOf lines)
    (i j : Nat) (hj : j < lines.length) (hij : i ≤ j) :
    tsOf (lines[i]'(Nat.lt_of_le_of_lt hij hj)) ≤ tsOf lines[j] := by
  rcases Nat.lt_or_eq_of_le hij with h | rfl
  · exact (List.pairwise_iff_getElem.1 c.sorted) i j _ hj h
  · exact Int.le_refl _

theorem midpoint_le (a b : Nat) (h : a ≤ b) : midpoint a b = a + (b - a) / 2 := by
  unfold midpoint; rw [if_pos h]

theorem mid_lt (a b : Nat) (h : a < b) : a + (b - a) / 2 < b := by omega

theorem half_left (a m b : Nat) (h : m ≤ a + (b - a) / 2) : m - a ≤ (b - a) / 2 := by omega

theorem half_right (a m b : Nat) (h : a + (b - a) / 2 < m) : b - m ≤ (b - a) / 2 := by omega

theorem halve_bound (a L d S : Nat) (h1 : a ≤ L / 2) (h2 : L * 2 ^ d ≤ S) : a * 2 ^ (d + 1) ≤ S := by
  have : a * 2 ^ (d + 1) = (a * 2) * 2 ^ d := by rw [Nat.pow_succ]; simp [Nat.mul_assoc, Nat.mul_comm]
  rw [this]
  exact Nat.le_trans (Nat.mul_le_mul_right _ (by omega)) h2

theorem depth_lt (d k S : Nat) (h : 2 ^ d ≤ S) (hS : S < 2 ^ k) : d < k :=
  (Nat.pow_lt_pow_iff_right (by decide : 1 < 2)).1 (Nat.lt_of_le_of_lt h hS)

theorem validateIdx_lt (x : Nat) (last : Option Nat) (size : Nat) (h : x < size) :
    validateIdx x last size =
      if last = some x then some (if x = 0 then .tooEarly else .notFound) else none := by
  unfold validateIdx
  rw [if_neg (Nat.ne_of_lt h), apply_ite some]

theorem validateIdx_error (x : Nat) (last : Option Nat) (size : Nat) (e : Err) :
    validateIdx x last size = some e → e = .tooEarly ∨ e = .notFound ∨ e = .tooLate := by
  fun_cases validateIdx
  all_goals intro h; cases h
  · exact Or.inl rfl
  · exact Or.inr (Or.inl rfl)
  · exact Or.inr (Or.inr rfl)

/-- One iteration whose probe falls into a line shorter than `maxEntry`, in ANY file and whatever
surrounds the line. -/
theorem seekLoop_line (P : Params) (tsOf : Bytes → Int) (target : Int) {f : File} {s e probe : Nat}
    (hl : LineAt f s e) (hlen : e - s < P.maxEntry) (hp1 : s ≤ probe) (hp2 : probe ≤ e)
    ⦃fuel d start «end» : Nat⦄ ⦃last : Option Nat⦄ :
    seekLoop P f tsOf target (fuel + 1) start «end» probe last d =
      if last = some s then .error (if s = 0 then .tooEarly else .notFound)
      else if tsOf (f.slice s e) = 0 then .error .emptyTS
      else if tsOf (f.slice s e) = target then .ok (s, e, d)
      else if d + 1 ≥ maxDepth then .error .depth
      else if tsOf (f.slice s e) > target then
        seekLoop P f tsOf target fuel start s (midpoint start s) (some s) (d + 1)
      else seekLoop P f tsOf target fuel (e + 1) «end» (midpoint (e + 1) «end») (some s) (d + 1) := by
  rw [seekLoop, readProbeLine_line P f s e probe hl hlen hp1 hp2]
  dsimp only
  rw [validateIdx_lt s last f.size (Nat.lt_of_le_of_lt hl.le hl.lt)]
  by_cases h : last = some s
  · rw [if_pos h, if_pos h]
  · rw [if_neg h, if_neg h]
    by_cases hgt : tsOf (f.slice s e) > target
    · simp only [hgt, if_true]
    · simp only [hgt, if_false]

section
variable (P : Params) (tsOf : Bytes → Int) (target : Int) (lines : List Bytes)

/-- The report of `seekTS` for a target that no line carries, by where it lies among the
timestamps: C07's `fileSeek` classes (`lineSeekFile_fileSeek`), which the monitor accepts
(`absentClassOK_absentErr`). -/
def absentErr : Err :=
  if ∀ l ∈ lines, target < tsOf l then .tooEarly
  else if ∀ l ∈ lines, tsOf l < target then .tooLate
  else .notFound

theorem absentErr_tooEarly (h : ∀ l ∈ lines, target < tsOf l) :
    absentErr tsOf target lines = .tooEarly := if_pos h

theorem absentErr_cases :
    absentErr tsOf target lines = .tooEarly ∨
      (absentErr tsOf target lines = .tooLate ∧ lines ≠ [] ∧ ∀ l ∈ lines, tsOf l < target) ∨
      absentErr tsOf target lines = .notFound := by
  fun_cases absentErr with
  | case1 => exact Or.inl rfl
  | case2 h1 h2 => exact Or.inr (Or.inl ⟨rfl, fun he => h1 (by rw [he]; exact fun l hl => nomatch hl), h2⟩)
  | case3 => exact Or.inr (Or.inr rfl)

theorem absentErr_gap (hne : lines ≠ []) (lo : Nat)
    (hA : ∀ i (h : i < lines.length), i < lo → tsOf lines[i] < target)
    (hB : ∀ i (h : i < lines.length), lo ≤ i → target < tsOf lines[i]) :
    absentErr tsOf target lines =
      if lo = 0 then .tooEarly else if lines.length ≤ lo then .tooLate else .notFound := by
  have h0 : 0 < lines.length := List.length_pos_iff.2 hne
  have h1 : (∀ l ∈ lines, target < tsOf l) ↔ lo = 0 :=
    ⟨fun h => Nat.eq_zero_of_not_pos fun hpos =>
        absurd (h _ (List.getElem_mem h0)) (Int.lt_asymm (hA 0 h0 hpos)),
      fun h l hl => by
        obtain ⟨i, hi, rfl⟩ := List.getElem_of_mem hl
        exact hB i hi (h ▸ Nat.zero_le i)⟩
  have h2 : (∀ l ∈ lines, tsOf l < target) ↔ lines.length ≤ lo :=
    ⟨fun h => Nat.le_of_not_lt fun hlt =>
        absurd (h _ (List.getElem_mem hlt)) (Int.lt_asymm (hB lo hlt (Nat.le_refl _))),
      fun h l hl => by
        obtain ⟨i, hi, rfl⟩ := List.getElem_of_mem hl
        exact hA i hi (Nat.lt_of_lt_of_le hi h)⟩
  unfold absentErr
  simp only [h1, h2]

theorem seekLoop_gap (hP : entryLimit ≤ P.maxEntry) (ctx : SeekCtxLe tsOf lines) (hne : lines ≠ [])
    (lo : Nat) (hlo : lo ≤ lines.length)
    (hA : ∀ i (h : i < lines.length), i < lo → tsOf lines[i] < target)
    (hB : ∀ i (h : i < lines.length), lo ≤ i → target < tsOf lines[i])
    (fuel d : Nat) (last : Option Nat) (hfuel : fuel + d = maxDepth) (hd : d ≤ 63)
    (hlast : ∀ y, last = some y → y < (render lines).length) :
    seekLoop P (fileOfLines lines) tsOf target fuel (lineStart lines lo) (lineStart lines lo)
        (lineStart lines lo) last d = .error (absentErr tsOf target lines) := by
  -- two probes at most are needed, and `d ≤ 63` leaves at least 37
  obtain ⟨fuel, rfl⟩ : ∃ f', fuel = f' + 2 := ⟨fuel - 2, by unfold maxDepth at hfuel; omega⟩
  rw [absentErr_gap tsOf target lines hne lo hA hB]
  rcases Nat.lt_or_eq_of_le hlo with hlt | rfl
  · -- the probe hits line `lo`, which is later than the target: after one step at most it
    -- is probed a second time
    rw [if_neg (Nat.not_le.2 hlt)]
    obtain ⟨_, hnl, hlen⟩ := (lineOK_iff _).1 (ctx.ok _ (List.getElem_mem hlt))
    have hzero : lineStart lines lo = 0 ↔ lo = 0 := by
      cases lo with
      | zero => exact ⟨fun _ => rfl, fun _ => rfl⟩
      | succ k =>
        have := lineStart_succ lines k (Nat.lt_of_succ_lt hlt)
        exact ⟨fun h => absurd (this ▸ h) (Nat.succ_ne_zero _), fun h => nomatch h⟩
    have hline := seekLoop_line P tsOf target (lineAt_idx lines lo hlt hnl)
      (by rw [Nat.add_sub_cancel_left]; exact Nat.lt_of_lt_of_le hlen hP)
      (Nat.le_refl _) (Nat.le_add_right _ _)
    by_cases hl : last = some (lineStart lines lo)
    · rw [hline, if_pos hl]
      simp only [hzero]
    · have hgt := hB lo hlt (Nat.le_refl _)
      rw [hline, if_neg hl, slice_idx lines lo hlt, if_neg (ctx.nz _ (List.getElem_mem hlt)),
        if_neg (Int.ne_of_lt hgt).symm,
        if_neg (Nat.not_le.2 (Nat.lt_of_le_of_lt (Nat.succ_le_succ hd) (by decide))), if_pos hgt,
        midpoint_le _ _ (Nat.le_refl _), Nat.sub_self, Nat.zero_div,
        Nat.add_zero (lineStart lines lo), hline, if_pos rfl]
      simp only [hzero]
  · -- after the last entry: the probe at the file end returns the empty line there
    have hsz : (fileOfLines lines).size = lineStart lines lines.length :=
      (lineStart_length lines).symm
    obtain ⟨hpos, hnl⟩ := render_last lines hne
    have hend := readProbeLine_end P (fileOfLines lines) _ (Nat.lt_of_lt_of_le (by decide) hP) hsz
      (hsz ▸ hpos) (by rw [← hsz, fileOfLines_byte, fileOfLines_size, hnl]; rfl)
    have hl : last ≠ some (lineStart lines lines.length) := fun h =>
      absurd (hlast _ h) (by rw [lineStart_length]; exact Nat.lt_irrefl _)
    rw [seekLoop, hend, if_neg (Nat.ne_of_gt (List.length_pos_iff.2 hne)), if_pos (Nat.le_refl _)]
    simp [validateIdx, hl, hsz]

/-- `2 ^ d ≤ size`: the target is reached within ⌊log₂ size⌋ + 1 probes. -/
def SeekResult (r : Except Err (Nat × Nat × Nat)) : Prop :=
  (∃ (m d : Nat) (hm : m < lines.length), tsOf lines[m] = target ∧ 2 ^ d ≤ (render lines).length ∧
    r = .ok (lineStart lines m, lineStart lines (m + 1) - 1, d)) ∨
  ((∀ l ∈ lines, tsOf l ≠ target) ∧ r = .error (absentErr tsOf target lines))

/-- The loop invariant: the interval is the run of lines `lo … hi-1`, the line probed last lies
outside it, and it has been halved `d` times; so none of the guards (depth, same line, end of
file) fires before the target is found or the interval is empty. -/
theorem seekLoop_spec (hP : entryLimit ≤ P.maxEntry) (ctx : SeekCtxLe tsOf lines) (hne : lines ≠ [])
    (hsize : (render lines).length < 2 ^ 63) :
    ∀ (fuel d lo hi : Nat) (last : Option Nat), fuel + d = maxDepth →
      lo ≤ hi → hi ≤ lines.length →
      (∀ i (h : i < lines.length), i < lo → tsOf lines[i] < target) →
      (∀ i (h : i < lines.length), hi ≤ i → target < tsOf lines[i]) →
      (∀ y, last = some y →
        (y < lineStart lines lo ∨ lineStart lines hi ≤ y) ∧ y < (render lines).length) →
      (lineStart lines hi - lineStart lines lo) * 2 ^ d ≤ (render lines).length → d ≤ 63 →
      SeekResult tsOf target lines
        (seekLoop P (fileOfLines lines) tsOf target fuel (lineStart lines lo) (lineStart lines hi)
          (lineStart lines lo + (lineStart lines hi - lineStart lines lo) / 2) last d) := by
  intro fuel
  induction fuel with
  | zero =>
    intro d lo hi last hfuel _ _ _ _ _ _ hd
    rw [Nat.zero_add] at hfuel
    exact absurd (hfuel ▸ hd) (by decide)
  | succ fuel ih =>
    intro d lo hi last hfuel hlohi hhi hA hB hlast hpow hd
    have hfuel' : fuel + (d + 1) = maxDepth := by rw [Nat.add_comm d 1, ← Nat.add_assoc]; exact hfuel
    rcases Nat.lt_or_eq_of_le hlohi with hlt | rfl
    · -- the probe falls into a line `m` of the interval
      have hpos : 0 < lineStart lines hi - lineStart lines lo :=
        Nat.sub_pos_of_lt (Nat.lt_of_lt_of_le (lineStart_lt_succ lines lo (Nat.lt_of_lt_of_le hlt hhi))
          (lineStart_mono lines (lo + 1) hi hlt))
      have hd' : 2 ^ d ≤ (render lines).length :=
        Nat.le_trans (Nat.le_mul_of_pos_left _ hpos) hpow
      have hd63 : d < 63 := depth_lt d 63 _ hd' hsize
      obtain ⟨m, hmhi, hp1, hp2⟩ := exists_line_of_lt_lineStart lines hi
        (lineStart lines lo + (lineStart lines hi - lineStart lines lo) / 2) hhi
        (mid_lt _ _ (Nat.lt_of_sub_pos hpos))
      have hm : m < lines.length := Nat.lt_of_lt_of_le hmhi hhi
      have hlom : lo ≤ m := Nat.le_of_lt_succ (Nat.lt_of_not_le fun h =>
        Nat.lt_irrefl _ (Nat.lt_of_lt_of_le (Nat.lt_of_le_of_lt (Nat.le_add_right _ _) hp2)
          (lineStart_mono lines (m + 1) lo h)))
      have h0m := lineStart_mono lines lo m hlom
      have hmh := lineStart_mono lines (m + 1) hi hmhi
      have hmS : lineStart lines m < (render lines).length :=
        Nat.lt_of_lt_of_le (lineStart_lt_succ lines m hm) (lineStart_le_size lines _)
      -- line `m` is a line of the file in the sense of `LineAt`, never the one probed last
      have hmem := List.getElem_mem hm
      obtain ⟨_, hnl, hlen⟩ := (lineOK_iff _).1 (ctx.ok _ hmem)
      have hsucc := lineStart_succ lines m hm
      rw [seekLoop_line P tsOf target (lineAt_idx lines m hm hnl)
          (by rw [Nat.add_sub_cancel_left]; exact Nat.lt_of_lt_of_le hlen hP) hp1
          (Nat.le_of_lt_succ (Nat.lt_of_lt_of_eq hp2 hsucc)),
        if_neg (fun h => (hlast _ h).1.elim (Nat.not_lt.2 h0m)
          (Nat.not_le.2 (Nat.lt_of_lt_of_le (lineStart_lt_succ lines m hm) hmh))),
        slice_idx lines m hm, if_neg (ctx.nz _ hmem), ← hsucc]
      by_cases hx : tsOf lines[m] = target
      · rw [if_pos hx]
        exact Or.inl ⟨m, d, hm, hx, hd', by rw [hsucc, Nat.add_sub_cancel]⟩
      · rw [if_neg hx, if_neg (Nat.not_le.2 (Nat.lt_trans (Nat.succ_lt_succ hd63) (by decide)))]
        by_cases hgt : tsOf lines[m] > target
        · rw [if_pos hgt, midpoint_le _ _ h0m]
          exact ih (d + 1) lo m _ hfuel' hlom (Nat.le_of_lt hm) hA
            (fun i h hmi => Int.lt_of_lt_of_le hgt (ctx.mono m i h hmi))
            (fun y hy => by cases hy; exact ⟨Or.inr (Nat.le_refl _), hmS⟩)
            (halve_bound _ _ _ _ (half_left _ _ _ hp1) hpow) hd63
        · rw [if_neg hgt, midpoint_le _ _ hmh]
          exact ih (d + 1) (m + 1) hi _ hfuel' hmhi hhi
            (fun i h him => Int.lt_of_le_of_lt (ctx.mono i m hm (Nat.le_of_lt_succ him))
              (Int.lt_iff_le_and_ne.2 ⟨Int.not_lt.1 hgt, hx⟩))
            hB (fun y hy => by cases hy; exact ⟨Or.inl (lineStart_lt_succ lines m hm), hmS⟩)
            (halve_bound _ _ _ _ (half_right _ _ _ hp2) hpow) hd63
    · -- nothing between the lines before `lo` and those from `lo` on carries the target
      simp only [Nat.sub_self, Nat.zero_div, Nat.add_zero]
      refine Or.inr ⟨?_, seekLoop_gap P tsOf target lines hP ctx hne lo hhi hA hB _ d last hfuel
        hd (fun y hy => (hlast y hy).2)⟩
      intro l hl
      obtain ⟨i, hi, rfl⟩ := List.getElem_of_mem hl
      rcases Nat.lt_or_ge i lo with h | h
      · exact Int.ne_of_lt (hA i hi h)
      · exact (Int.ne_of_lt (hB i hi h)).symm

/-- An empty file reports `tooEarly` (repair daf1642), which is `absentErr` of no lines: the
statement needs no case for it. -/
theorem seekTS_spec (hP : entryLimit ≤ P.maxEntry) (ctx : SeekCtxLe tsOf lines)
    (hsize : (render lines).length < 2 ^ 63) (q : QState) :
    (∃ (m d : Nat) (hm : m < lines.length), tsOf lines[m] = target ∧
      2 ^ d ≤ (render lines).length ∧
      seekTS P (fileOfLines lines) tsOf q target =
        ({ q with hasBuf := false, position := lineStart lines (m + 1) - 1 },
         .ok (lineStart lines (m + 1) - 1, d))) ∨
    ((∀ l ∈ lines, tsOf l ≠ target) ∧
      seekTS P (fileOfLines lines) tsOf q target =
        ({ q with hasBuf := false }, .error (absentErr tsOf target lines))) := by
  by_cases hne : lines = []
  · subst hne
    exact Or.inr ⟨fun l hl => (nomatch hl), by simp [seekTS, fileOfLines, File.ofBytes, render, absentErr]⟩
  · have hsz : (fileOfLines lines).size ≠ 0 := fun h => hne ((render_length_eq_zero_iff lines).1 h)
    have hloop : SeekResult tsOf target lines (seekLoop P (fileOfLines lines) tsOf target maxDepth 0
        (fileOfLines lines).size (((fileOfLines lines).size - 0) / 2) none 0) := by
      have := seekLoop_spec P tsOf target lines hP ctx hne hsize maxDepth 0 0 lines.length none rfl
        (Nat.zero_le _) (Nat.le_refl _) (fun i _ h => absurd h (Nat.not_lt_zero i))
        (fun i h h' => absurd h (Nat.not_lt.2 h')) (fun y hy => nomatch hy)
        (by rw [Nat.pow_zero, Nat.mul_one, lineStart_length]; exact Nat.sub_le _ _)
        (Nat.zero_le _)
      rw [lineStart_length, lineStart_zero, Nat.zero_add] at this
      exact this
    unfold seekTS
    rw [if_neg hsz]
    rcases hloop with ⟨m, d, hm, hts, hd, h⟩ | ⟨habs, h⟩
    · exact Or.inl ⟨m, d, hm, hts, hd, by rw [h]⟩
    · exact Or.inr ⟨habs, by rw [h]⟩

theorem seekTS_found_dup (hP : entryLimit ≤ P.maxEntry) (ctx : SeekCtxLe tsOf lines)
    (hsize : (render lines).length < 2 ^ 63) (hex : ∃ l ∈ lines, tsOf l = target) (q : QState) :
    ∃ (i : Nat) (hi : i < lines.length) (d : Nat), tsOf lines[i] = target ∧
      2 ^ d ≤ (render lines).length ∧
      seekTS P (fileOfLines lines) tsOf q target =
        ({ q with hasBuf := false, position := lineStart lines (i + 1) - 1 },
         .ok (lineStart lines (i + 1) - 1, d)) := by
  rcases seekTS_spec P tsOf target lines hP ctx hsize q with ⟨m, d, hm, hts, hd, h⟩ | ⟨habs, _⟩
  · exact ⟨m, hm, d, hts, hd, h⟩
  · obtain ⟨l, hl, hlt⟩ := hex
    exact absurd hlt (habs l hl)

theorem seekTS_absent (hP : entryLimit ≤ P.maxEntry) (ctx : SeekCtxLe tsOf lines)
    (hsize : (render lines).length < 2 ^ 63) (habs : ∀ l ∈ lines, tsOf l ≠ target) (q : QState) :
    seekTS P (fileOfLines lines) tsOf q target =
      ({ q with hasBuf := false }, .error (absentErr tsOf target lines)) := by
  rcases seekTS_spec P tsOf target lines hP ctx hsize q with ⟨m, _, hm, hts, _⟩ | ⟨_, h⟩
  · exact absurd hts (habs _ (List.getElem_mem hm))
  · exact h

theorem sorted_inj (h : lines.Pairwise (fun a b => tsOf a < tsOf b)) (i j : Nat)
    (hi : i < lines.length) (hj : j < lines.length) (he : tsOf lines[i] = tsOf lines[j]) : i = j := by
  rw [List.pairwise_iff_getElem] at h
  rcases Nat.lt_trichotomy i j with h1 | h1 | h1
  · exact absurd he (Int.ne_of_lt (h i j hi hj h1))
  · exact h1
  · exact absurd he.symm (Int.ne_of_lt (h j i hj hi h1))

theorem seekTS_found (hP : entryLimit ≤ P.maxEntry) (ctx : SeekCtx tsOf lines)
    (hsize : (render lines).length < 2 ^ 63) (i : Nat) (hi : i < lines.length)
    (hts : tsOf lines[i] = target) (q : QState) :
    ∃ d, 2 ^ d ≤ (render lines).length ∧ seekTS P (fileOfLines lines) tsOf q target =
      ({ q with hasBuf := false, position := lineStart lines (i + 1) - 1 },
       .ok (lineStart lines (i + 1) - 1, d)) := by
  obtain ⟨m, hm, d, hm', hd, h⟩ :=
    seekTS_found_dup P tsOf target lines hP ctx.le hsize ⟨_, List.getElem_mem hi, hts⟩ q
  cases sorted_inj tsOf lines ctx.sorted m i hm hi (hm'.trans hts.symm)
  exact ⟨d, hd, h⟩

/-- `h1`, `h2`: the first probe (the middle of the file) falls into the record `x`.  Every target
then fails, the target 0 included, because `ts == 0` is tested before `ts == timestamp`. -/
theorem seekTS_zero_stamp (hP : entryLimit ≤ P.maxEntry) (A B : List Bytes) (x : Bytes)
    (hx : lineOK x = true) (hz : tsOf x = 0)
    (h1 : (render A).length ≤ (render (A ++ x :: B)).length / 2)
    (h2 : (render (A ++ x :: B)).length / 2 ≤ (render A).length + x.length) (q : QState) :
    seekTS P (fileOfLines (A ++ x :: B)) tsOf q target =
      ({ q with hasBuf := false }, .error .emptyTS) := by
  obtain ⟨_, hnl, hxlen⟩ := (lineOK_iff x).1 hx
  have hLA := lineAt_split A B x hnl
  unfold seekTS
  rw [if_neg (Nat.ne_of_gt (Nat.lt_of_le_of_lt (Nat.zero_le _) hLA.lt)),
    show maxDepth = 99 + 1 from rfl,
    seekLoop_line P tsOf target hLA (by rw [Nat.add_sub_cancel_left]; exact Nat.lt_of_lt_of_le hxlen hP)
      (probe := ((fileOfLines (A ++ x :: B)).size - 0) / 2) h1 h2,
    if_neg (fun h => nomatch h), slice_line A B x, if_pos hz]

end

/-- On any content the loop ends by one of its own `return`s, the model's recursion budget is never
what stops it; and a success carries the target (`C20_seek_terminates`). -/
theorem seekLoop_sound (P : Params) (tsOf : Bytes → Int) (target : Int) (f : File)
    (fuel start «end» probe : Nat) (last : Option Nat) (d : Nat) :
    fuel + d = maxDepth → d < maxDepth →
    seekLoop P f tsOf target fuel start «end» probe last d ≠ .error .fuel ∧
      ∀ a b d', seekLoop P f tsOf target fuel start «end» probe last d = .ok (a, b, d') →
        tsOf (f.slice a b) = target ∧ d' < maxDepth := by
  have herr : ∀ e : Err, e ≠ .fuel → (Except.error e : Except Err (Nat × Nat × Nat)) ≠ .error .fuel ∧
      ∀ a b d', (Except.error e : Except Err (Nat × Nat × Nat)) = .ok (a, b, d') →
        tsOf (f.slice a b) = target ∧ d' < maxDepth :=
    fun e he => ⟨fun h => he (Except.error.inj h), fun _ _ _ h => nomatch h⟩
  -- the cases in the order of the loop's text: budget, probe error, index rejected, empty
  -- timestamp, found, depth guard, next iteration
  fun_induction seekLoop P f tsOf target fuel start «end» probe last d with
  | case1 => intro h1 h2; exact absurd ((Nat.zero_add _).symm.trans h1) (Nat.ne_of_lt h2)
  | case2 =>
    rename_i e hp
    intro _ _
    exact herr e (by rcases readProbeLine_error P f _ e hp with h | h <;> rw [h] <;> decide)
  | case3 =>
    rename_i e hv
    intro _ _
    exact herr e (by rcases validateIdx_error _ _ _ e hv with h | h | h <;> rw [h] <;> decide)
  | case4 => intro _ _; exact herr _ (by decide)
  | case5 =>
    rename_i ht
    intro _ h2
    exact ⟨fun h => (nomatch h), fun a b d' h => by cases h; exact ⟨ht, h2⟩⟩
  | case6 => intro _ _; exact herr _ (by decide)
  | case7 =>
    rename_i hd ih
    intro h1 _
    exact ih ((Nat.succ_add _ _).symm.trans h1) (Nat.lt_of_not_le hd)

theorem seekLoop_ne_fuel (P : Params) (tsOf : Bytes → Int) (target : Int) (f : File)
    (fuel start «end» probe : Nat) (last : Option Nat) (d : Nat) (h1 : fuel + d = maxDepth)
    (h2 : d < maxDepth) : seekLoop P f tsOf target fuel start «end» probe last d ≠ .error .fuel :=
  (seekLoop_sound P tsOf target f _ _ _ _ _ _ h1 h2).1

end AGH.C20
