/-
C09: each concrete program, run alone, does what the sequential model's
operation does.
-/
import AGH.Lemmas.StatsConcSer
import AGH.Lemmas.StatsRead
import AGH.Model.StatsProgs
namespace AGH.C09

/-- Lock steps do nothing when a body runs alone, so which locks the facts give does not matter. -/
theorem execBody_optLock (l : Lk) (m : Option Mode) (g : Loc → Bool) (p : State × Loc) :
    execBody (optLock l m g) p = p := by
  cases m <;> rfl

theorem execBody_optUnlock (l : Lk) (m : Option Mode) (g : Loc → Bool) (p : State × Loc) :
    execBody (optUnlock l m g) p = p := by
  cases m <;> rfl

theorem updBody_effect (F : LockFacts) (e : Entry) (s : State) :
    (execBody (updBody F e) (s, Loc.init)).1 = (updateN s e 1).1 := by
  have hU : (updateN s e 1).1 = match update s e with | .ok s' => s' | .error _ => s := by
    simp only [updateN]; cases update s e <;> rfl
  rw [hU]
  simp only [updBody, execBody_append, execBody_optLock, execBody_optUnlock, execBody_cons, execBody_nil, execI,
    Loc.init, update]
  by_cases h1 : (!s.enabled || s.limit == 0) = true
  · simp [h1]
  · by_cases hv : e.valid = true
    · by_cases hr : e.result < 0 ∨ e.result ≥ 6
      · simp [h1, hv, hr, MemUnit.add]
      · simp [h1, hv, hr, MemUnit.add]
        funext i
        by_cases hi : i = e.result.toNat <;> simp [hi]
    · have hv' : e.valid = false := by simpa using hv
      simp [h1, hv']

theorem flushBody_effect (F : LockFacts) (id : Nat) (s : State) :
    (execBody (flushBody F id) (s, Loc.init)).1 = tick s id := by
  simp only [flushBody, execBody_append, execBody_optLock, execBody_optUnlock, execBody_cons, execBody_nil, execI]
  have hlh : ({ s with clock := id } : State).limitHours = s.limitHours := rfl
  by_cases hc : s.limitHours = 0 ∨ s.curr.id = id
  · have hb : (s.limitHours == 0 || s.curr.id == id) = true := by simpa using hc
    simp only [hlh, hb, Bool.not_true, Bool.false_eq_true, if_false]
    rw [tick_same s id hc]
  · have hb : (s.limitHours == 0 || s.curr.id == id) = false := by simpa using hc
    simp only [hlh, hb, Bool.not_false, if_true]
    rw [tick_rotate s id hc]

theorem lookups_eq (s : State) (limit : Nat) :
    lookups s.db s.curr.id limit ++ [s.curr.serialize] = unitsOf s limit := rfl

theorem getData_eq_lookups (s : State) :
    getData s = if s.limitHours = 0 then .ok emptyResp
      else if (lookups s.db s.curr.id s.limitHours ++ [s.curr.serialize]).length ≠ s.limitHours then .error .unitsLen
      else dataFromUnits (lookups s.db s.curr.id s.limitHours ++ [s.curr.serialize]) s.curr.id := by
  unfold getData
  rw [lookups_eq]
  by_cases h0 : s.limitHours = 0
  · rw [if_pos h0, if_pos h0]; rfl
  · rw [if_neg h0, if_neg h0, loadUnits_eq]
    by_cases hb : (unitsOf s s.limitHours).length ≠ s.limitHours
    · rw [if_pos hb, if_pos hb]
    · rw [if_neg hb, if_neg hb]

theorem readBody_effect (F : LockFacts) (s : State) :
    (execBody (readBody F) (s, Loc.init)).1 = s ∧
    (execBody (readBody F) (s, Loc.init)).2.result = some (getData s) := by
  rw [getData_eq_lookups]
  simp only [readBody, execBody_append, execBody_optLock, execBody_optUnlock, execBody_cons, execBody_nil, execI]
  by_cases h0 : s.limitHours = 0 <;> simp [h0]

theorem clearSteps_effect (F : LockFacts) (s : State) (l : Loc) :
    (execBody (clearSteps F) (s, l)).1 = clear s := by
  simp only [clearSteps, execBody_append, execBody_optLock, execBody_optUnlock, execBody_cons, execBody_nil, execI]
  rfl

theorem setDaysBody_effect (F : LockFacts) (d : Nat) (s : State) (hd : checkInterval d = true) :
    (execBody (setDaysBody F d) (s, Loc.init)).1 = setLimitDays s d := by
  rw [setLimitDays_ok s hd, setDaysBody]
  by_cases hz : d * 24 * msPerHour ≠ 0
  · rw [if_pos hz, if_pos hz]; rfl
  · rw [if_neg hz, if_neg hz, execBody_cons, execI, clearSteps_effect]

theorem putConfBody_effect (ms : Nat) (en : Bool) (s : State) (hv : validIvl ms = true) :
    (execBody (putConfBody ms en) (s, Loc.init)).1 = putConf s ms en := by
  rw [putConf_ok s en hv]; rfl

theorem bodyOf_effect (F : LockFacts) (op : COp) (s : State) (hr : rejected op = false) :
    step s op.toOp = some (execBody (bodyOf F op) (s, Loc.init)).1 := by
  cases op with
  | upd e => simp [COp.toOp, step, bodyOf, updBody_effect]
  | flush id => simp [COp.toOp, step, bodyOf, flushBody_effect]
  | read => simp [COp.toOp, step, bodyOf, (readBody_effect F s).1]
  | setDays d =>
    have : checkInterval d = true := by simpa [rejected] using hr
    simp [COp.toOp, step, bodyOf, setDaysBody_effect F d s this]
  | putConf ms en =>
    have : validIvl ms = true := by simpa [rejected] using hr
    simp [COp.toOp, step, bodyOf, putConfBody_effect ms en s this]
  | reset => simp [COp.toOp, step, bodyOf, clearSteps_effect]

theorem rejected_step (op : COp) (s : State) (hr : rejected op = true) : step s op.toOp = some s := by
  cases op with
  | setDays d =>
    have : checkInterval d = false := by simpa [rejected] using hr
    simp [COp.toOp, step, setLimitDays_rejected s this]
  | putConf ms en =>
    have : validIvl ms = false := by simpa [rejected] using hr
    simp [COp.toOp, step, putConf_rejected s en this]
  | _ => cases hr

end AGH.C09
