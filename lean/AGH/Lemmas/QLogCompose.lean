/-
C20 ↔ C07: the byte-level two-file reader of C20 implements the abstract reader
the C07 model (`AGH/Model/QLog.lean`) assumes: `filesRev`, `fileSeek`, `seekFiles`,
`seekRecord`.

C07 works on entries, C20 on lines; the composition goes through an explicit
encoding hypothesis `Enc`: every stored entry `e` is the line `enc e`, a line of
the property's kind (non-empty, no newline, shorter than 16 KiB) from which
`readQLogTimestamp` (`tsOf`) reads `e.ts ≠ 0`.

C07 says "a file exists iff it is non-empty".  Here the existence of an EMPTY
file is a free parameter (`exR`, `exC`): the result is the same except when
both lists are empty and some (empty) file exists — see `lineSeek_seekFiles`.
-/
import AGH.Lemmas.QLogRead
import AGH.Lemmas.QLogReader
namespace AGH.C20
open AGH

structure Enc (enc : C07.Entry → Bytes) (tsOf : Bytes → Int) (f : List C07.Entry) : Prop where
  ok : ∀ e ∈ f, lineOK (enc e) = true
  ts : ∀ e ∈ f, tsOf (enc e) = e.ts
  nz : ∀ e ∈ f, e.ts ≠ 0
  /-- C07's file invariant `Asc`, per file -/
  asc : f.Pairwise (fun a b => a.ts < b.ts)
  small : (render (f.map enc)).length < 2 ^ 63

/-- The files on disk: rotated then current; an empty one may or may not exist. -/
def descsOf (enc : C07.Entry → Bytes) (exR exC : Bool) (rot cur : List C07.Entry) : List FileDesc :=
  (if exR then [{ lines := rot.map enc }] else []) ++ (if exC then [{ lines := cur.map enc }] else [])

/-- The shape `hR` / `hC` below take once the existence flag is `false`. -/
theorem nil_of_absent {α : Type} : ∀ {l : List α}, (l ≠ [] → false = true) → l = []
  | [], _ => rfl
  | _ :: _, h => nomatch h (List.cons_ne_nil _ _)

section
variable (enc : C07.Entry → Bytes) (tsOf : Bytes → Int)

theorem map_ts (f : List C07.Entry) (h : ∀ e ∈ f, tsOf (enc e) = e.ts) :
    (f.map enc).map tsOf = f.map (·.ts) := by
  rw [List.map_map]
  apply List.map_congr_left
  intro e he; exact h e he

variable {enc} {tsOf} in
theorem Enc.seekCtx {f : List C07.Entry} (h : Enc enc tsOf f) : SeekCtx tsOf (f.map enc) := by
  refine ⟨?_, ?_, ?_⟩
  · intro l hl; obtain ⟨e, he, rfl⟩ := List.mem_map.1 hl; exact h.ok e he
  · intro l hl; obtain ⟨e, he, rfl⟩ := List.mem_map.1 hl; rw [h.ts e he]; exact h.nz e he
  · rw [List.pairwise_map]
    exact List.Pairwise.imp_of_mem (fun ha hb hab => by rw [h.ts _ ha, h.ts _ hb]; exact hab) h.asc

theorem all_map_ts (f : List C07.Entry) (h : ∀ e ∈ f, tsOf (enc e) = e.ts) (p : Int → Prop)
    [DecidablePred p] :
    (∀ l ∈ f.map enc, p (tsOf l)) ↔ f.all (fun e => decide (p e.ts)) = true := by
  simp only [List.mem_map, forall_exists_index, and_imp, forall_apply_eq_imp_iff₂,
    List.all_eq_true, decide_eq_true_eq]
  exact ⟨fun hh e he => h e he ▸ hh e he, fun hh e he => (h e he).symm ▸ hh e he⟩

theorem lineSeekFile_fileSeek (f : List C07.Entry) (t : Int) (h : ∀ e ∈ f, tsOf (enc e) = e.ts) :
    lineSeekFile tsOf (f.map enc) t =
      match C07.fileSeek f t with
      | .found k => .ok k
      | .tooEarly => .error .tooEarly
      | .tooLate => .error .tooLate
      | .notFound => .error .notFound := by
  unfold lineSeekFile C07.fileSeek findStampIdx
  rw [map_ts enc tsOf f h, List.findIdx?_map, Function.comp_def]
  cases f.findIdx? (fun e => e.ts == t) with
  | some k => rfl
  | none =>
    simp only [absentErr, all_map_ts enc tsOf f h (t < ·), all_map_ts enc tsOf f h (· < t)]
    by_cases c1 : f.all (fun e => decide (t < e.ts)) = true
    · rw [if_pos c1, if_pos c1]
    · rw [if_neg c1, if_neg c1]
      by_cases c2 : f.all (fun e => decide (e.ts < t)) = true
      · rw [if_pos c2, if_pos c2]
      · rw [if_neg c2, if_neg c2]

theorem fileSeek_nil (t : Int) : C07.fileSeek [] t = .tooEarly := by
  simp [C07.fileSeek]

theorem fileSeek_ne_nil {f : List C07.Entry} {t : Int} {r : C07.SeekRes} (hf : C07.fileSeek f t = r)
    (hr : r ≠ .tooEarly) : f ≠ [] := by
  intro h; subst h; exact hr (hf ▸ fileSeek_nil t)

/-- C07's `seekFiles` is C20's `lineSeek`, except when both lists are empty while some (empty)
file exists: the byte-level reader then reports `not found` (every file says too-early), C07's
model, which has no such file, says "positioned, nothing to read". -/
theorem lineSeek_seekFiles (exR exC : Bool) (rot cur : List C07.Entry) (t : Int)
    (hR : rot ≠ [] → exR = true) (hC : cur ≠ [] → exC = true)
    (htsR : ∀ e ∈ rot, tsOf (enc e) = e.ts) (htsC : ∀ e ∈ cur, tsOf (enc e) = e.ts) :
    lineSeek tsOf (descsOf enc exR exC rot cur) t (descsOf enc exR exC rot cur).length =
      if rot = [] ∧ cur = [] ∧ (exR || exC) = true then none
      else (C07.seekFiles rot cur t).map (List.map enc) := by
  -- `seekFiles_eq` reads `seekFiles` the way `lineSeek` works: an empty list answers too-early
  -- (`fileSeek_nil`) and the older file is asked, so the flags matter only when both lists are empty.
  -- Below: the four flag cases, in each the reports of `fileSeek` (a report other than too-early
  -- means a non-empty list, `fileSeek_ne_nil`).
  have hLR := lineSeekFile_fileSeek enc tsOf rot t htsR
  have hLC := lineSeekFile_fileSeek enc tsOf cur t htsC
  rw [C07.seekFiles_eq]
  cases exR <;> cases exC
  · obtain rfl := nil_of_absent hR
    obtain rfl := nil_of_absent hC
    simp [descsOf, lineSeek, fileSeek_nil]
  · obtain rfl := nil_of_absent hR
    simp only [descsOf, List.nil_append, List.length_singleton, lineSeek, Bool.false_eq_true,
      if_false, if_true, List.getD_cons_zero, hLC, List.cons_ne_nil, Bool.or_true, true_and, and_true]
    cases hf : C07.fileSeek cur t with
    | found k => simp [fileSeek_ne_nil hf nofun, fromEntry, allRev, List.map_take]
    | tooEarly => by_cases hne : cur = [] <;> simp [hne]
    | tooLate => simp [fileSeek_ne_nil hf nofun, allRev, C07.filesRev]
    | notFound => simp [fileSeek_ne_nil hf nofun]
  · obtain rfl := nil_of_absent hC
    simp only [descsOf, List.append_nil, List.length_singleton, lineSeek, Bool.false_eq_true,
      if_false, if_true, List.getD_cons_zero, hLR, List.cons_ne_nil, Bool.or_false, and_true, fileSeek_nil,
      C07.seekRot]
    cases hf : C07.fileSeek rot t with
    | found k => simp [fileSeek_ne_nil hf nofun, fromEntry, allRev, List.map_take]
    | tooEarly => by_cases hne : rot = [] <;> simp [hne]
    | tooLate => simp [fileSeek_ne_nil hf nofun, allRev, C07.filesRev]
    | notFound => simp [fileSeek_ne_nil hf nofun]
  · simp only [descsOf, if_true, List.singleton_append, List.length_cons, List.length_nil,
      Nat.zero_add, Nat.reduceAdd, lineSeek, List.cons_ne_nil, if_false, Bool.or_true, and_true]
    have hg1 : ([{ lines := rot.map enc }, { lines := cur.map enc }] : List FileDesc).getD 1 {lines := []} =
        { lines := cur.map enc } := rfl
    have hg0 : ([{ lines := rot.map enc }, { lines := cur.map enc }] : List FileDesc).getD 0 {lines := []} =
        { lines := rot.map enc } := rfl
    rw [hg1, hg0]
    simp only [hLC, hLR, C07.seekRot]
    cases hfc : C07.fileSeek cur t with
    | found k => simp [fileSeek_ne_nil hfc nofun, fromEntry, allRev, List.map_take]
    | tooLate => simp [fileSeek_ne_nil hfc nofun, allRev, C07.filesRev]
    | notFound => simp [fileSeek_ne_nil hfc nofun]
    | tooEarly =>
      simp only
      cases hfr : C07.fileSeek rot t with
      | found k => simp [fileSeek_ne_nil hfr nofun, fromEntry, allRev, List.map_take]
      | tooLate => simp [fileSeek_ne_nil hfr nofun, allRev, C07.filesRev]
      | notFound => simp [fileSeek_ne_nil hfr nofun]
      | tooEarly => by_cases hnr : rot = [] <;> by_cases hnc : cur = [] <;> simp [hnr, hnc]

theorem allRev_descsOf (exR exC : Bool) (rot cur : List C07.Entry)
    (hR : rot ≠ [] → exR = true) (hC : cur ≠ [] → exC = true) :
    allRev (descsOf enc exR exC rot cur) = (C07.filesRev rot cur).map enc := by
  cases exR <;> cases exC
  · have hr := nil_of_absent hR
    have hc := nil_of_absent hC
    subst hr; subst hc; simp [descsOf, allRev, C07.filesRev]
  · have hr := nil_of_absent hR
    subst hr; simp [descsOf, allRev, C07.filesRev]
  · have hc := nil_of_absent hC
    subst hc; simp [descsOf, allRev, C07.filesRev]
  · simp [descsOf, allRev, C07.filesRev]

theorem filesCtx_descsOf (exR exC : Bool) (rot cur : List C07.Entry)
    (eR : Enc enc tsOf rot) (eC : Enc enc tsOf cur) :
    FilesCtx tsOf (descsOf enc exR exC rot cur) := by
  have hmem : ∀ d ∈ descsOf enc exR exC rot cur,
      d = { lines := rot.map enc } ∨ d = { lines := cur.map enc } := by
    intro d hd
    cases exR <;> cases exC <;> simp [descsOf] at hd
    · exact Or.inr hd
    · exact Or.inl hd
    · exact hd
  have ctxR := eR.seekCtx
  have ctxC := eC.seekCtx
  refine ⟨?_, ?_, ?_⟩
  · intro d hd
    rcases hmem d hd with h | h <;> subst h
    · exact (readable_iff _).2 ⟨rfl, ctxR.ok⟩
    · exact (readable_iff _).2 ⟨rfl, ctxC.ok⟩
  · intro d hd
    rcases hmem d hd with h | h <;> subst h
    · exact ctxR
    · exact ctxC
  · intro d hd
    rcases hmem d hd with h | h <;> subst h
    · exact eR.small
    · exact eC.small

/-- search.go `seekRecord` on the byte-level reader (`olderThan.IsZero()` is `none`). -/
def rSeekRecord (P : Params) (fs : List File) (tsOf : Bytes → Int) (r : RState) :
    Option Int → RState × Except Err Unit
  | none => (rSeekStart fs r, .ok ())
  | some t => rSeekTS P fs tsOf r t

theorem rSeekRecord_refines (P : Params) (hP1 : entryLimit ≤ P.maxEntry)
    (exR exC : Bool) (rot cur : List C07.Entry)
    (hR : rot ≠ [] → exR = true) (hC : cur ≠ [] → exC = true)
    (eR : Enc enc tsOf rot) (eC : Enc enc tsOf cur)
    (hex : ¬ (rot = [] ∧ cur = [] ∧ (exR || exC) = true))
    (o : Option Int) (r : RState)
    (hlen : r.files.length = (descsOf enc exR exC rot cur).length)
    (h0 : descsOf enc exR exC rot cur = [] → r.curN = 0) :
    SeeksTo P (descsOf enc exR exC rot cur) r
      (rSeekRecord P ((descsOf enc exR exC rot cur).map fileOfDesc) tsOf r o)
      ((C07.seekRecord rot cur o).map (List.map enc)) := by
  have g := filesCtx_descsOf enc tsOf exR exC rot cur eR eC
  cases o with
  | none =>
    have hp := rSeekStart_rrem P (descsOf enc exR exC rot cur) r hlen g.rd h0
    rw [allRev_descsOf enc exR exC rot cur hR hC] at hp
    exact ⟨_, rfl, hp⟩
  | some t =>
    have := rSeekTS_seeksTo P tsOf t _ hP1 g r hlen h0
    rwa [lineSeek_seekFiles enc tsOf exR exC rot cur t hR hC eR.ts eC.ts, if_neg hex] at this

theorem rSeekTS_empty_existing (P : Params) (exR exC : Bool) (hex : (exR || exC) = true)
    (t : Int) (r : RState) :
    C07.seekFiles [] [] t = some [] ∧
    (rSeekTS P ((descsOf enc exR exC [] []).map fileOfDesc) tsOf r t).2 = .error .notFound := by
  refine ⟨by simp [C07.seekFiles], ?_⟩
  have hf : ∀ q, seekTS P (fileOfDesc { lines := [] }) tsOf q t = ({ q with hasBuf := false }, .error .tooEarly) := by
    intro q; simp [seekTS, fileOfDesc, File.ofBytes, render]
  cases exR <;> cases exC <;> simp at hex <;>
    simp [descsOf, rSeekTS, rSeekLoop, hf]

/-- C07's `fileSeek` report for an absent timestamp as C20's error; the `.found` row is a
filler, never reached (`lineSeekFile_classErr`). -/
def classErr : C07.SeekRes → Err
  | .found _ => .other
  | .tooEarly => .tooEarly
  | .tooLate => .tooLate
  | .notFound => .notFound

theorem lineSeekFile_classErr (es : List C07.Entry) (t : Int) (h : ∀ e ∈ es, tsOf (enc e) = e.ts)
    (hf : ∀ k, C07.fileSeek es t ≠ .found k) :
    lineSeekFile tsOf (es.map enc) t = .error (classErr (C07.fileSeek es t)) := by
  rw [lineSeekFile_fileSeek enc tsOf es t h]
  cases hfs : C07.fileSeek es t with
  | found k => exact absurd hfs (hf k)
  | tooEarly => rfl
  | tooLate => rfl
  | notFound => rfl

end
end AGH.C20
