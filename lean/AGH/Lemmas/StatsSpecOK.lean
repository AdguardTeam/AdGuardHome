/-
C09: a state that satisfies the invariant answers GET /control/stats in a way
the spec monitor accepts — the window sums against the ghost counts, every
hourly slot against the counts of its hour; with nothing dropped the totals are
exact.
-/
import AGH.Lemmas.StatsInv
import AGH.Lemmas.StatsRead
namespace AGH.C09

def wsum (F : Nat → Nat) (m : Nat) : Nat := ((List.range m).map F).sum

theorem wsum_succ (F : Nat → Nat) (m : Nat) : wsum F (m + 1) = wsum F m + F m := by
  simp [wsum, List.range_succ]

theorem wsum_le {F G : Nat → Nat} (m : Nat) (h : ∀ k, k < m → F k ≤ G k) : wsum F m ≤ wsum G m := by
  induction m with
  | zero => exact Nat.le_refl _
  | succ m ih =>
    rw [wsum_succ, wsum_succ]
    exact Nat.add_le_add (ih (fun k hk => h k (Nat.lt_succ_of_lt hk))) (h m (Nat.lt_succ_self m))

/-- `upperAt` (`q := fun _ => true`) and `lowerAt` (`q := (·.kept)`) in one, so that `cnt_window` serves both. -/
def cntAt (q : Ev → Bool) (evs : List Ev) (h : Nat) (sel : Sel) : Nat :=
  cnt (fun e => q e && e.hour == h && sel.sees e) evs

theorem range_succ_bool (a m h : Nat) :
    ((decide (a ≤ h) && decide (h < a + m)) || (h == a + m)) = (decide (a ≤ h) && decide (h < a + (m + 1))) := by
  rw [Bool.eq_iff_iff]
  simp only [Bool.or_eq_true, Bool.and_eq_true, decide_eq_true_eq, beq_iff_eq]
  omega

theorem inWindow_eq_range (now L h : Nat) (hn : L ≤ now) :
    (decide (now + 1 - L ≤ h) && decide (h < now + 1 - L + L)) = inWindow now L h := by
  rw [Bool.eq_iff_iff]
  simp only [inWindow, Bool.and_eq_true, decide_eq_true_eq]
  omega

theorem cnt_range (q : Ev → Bool) (evs : List Ev) (sel : Sel) (a m : Nat) :
    wsum (fun k => cntAt q evs (a + k) sel) m =
      cnt (fun e => q e && decide (a ≤ e.hour) && decide (e.hour < a + m) && sel.sees e) evs := by
  induction m with
  | zero =>
    symm; apply cnt_false; intro e _
    have : (decide (a ≤ e.hour) && decide (e.hour < a + 0)) = false := by
      rw [Bool.and_eq_false_iff, decide_eq_false_iff_not, decide_eq_false_iff_not]
      omega
    rw [Bool.and_assoc (q e), this, Bool.and_false, Bool.false_and]
  | succ m ih =>
    rw [wsum_succ, ih]
    unfold cntAt
    rw [cnt_add_disjoint]
    · apply cnt_congr
      intro e _
      rw [Bool.and_assoc (q e) (decide (a ≤ e.hour)) (decide (e.hour < a + (m + 1))), ← range_succ_bool]
      cases q e <;> cases sel.sees e <;> simp
    · intro e _ ⟨hp, hq⟩
      simp only [Bool.and_eq_true, decide_eq_true_eq, beq_iff_eq] at hp hq
      omega

theorem cnt_window (q : Ev → Bool) (evs : List Ev) (sel : Sel) (now L : Nat) (hn : L ≤ now) :
    wsum (fun k => cntAt q evs (now + 1 - L + k) sel) L =
      cnt (fun e => q e && inWindow now L e.hour && sel.sees e) evs :=
  (cnt_range q evs sel (now + 1 - L) L).trans
    (cnt_congr _ fun e _ => by rw [Bool.and_assoc (q e), inWindow_eq_range now L e.hour hn])

theorem upper_window (g : Ghost) (sel : Sel) (hn : g.limit ≤ g.now) :
    upper g sel = wsum (fun k => upperAt g (g.now + 1 - g.limit + k) sel) g.limit := by
  have h := cnt_window (fun _ => true) g.evs sel g.now g.limit hn
  simp only [cntAt, Bool.true_and] at h
  exact h.symm

theorem lower_window (g : Ghost) (sel : Sel) (hn : g.limit ≤ g.now) :
    lower g sel = wsum (fun k => lowerAt g (g.now + 1 - g.limit + k) sel) g.limit :=
  (cnt_window (·.kept) g.evs sel g.now g.limit hn).symm

theorem map_val_unitsOf {g : Ghost} {s : State} (hi : Inv g s) (sel : Sel) :
    (unitsOf s g.limit).map sel.val =
      (List.range g.limit).map fun k => sel.val (s.unitAt (g.now + 1 - g.limit + k)) := by
  rw [unitsOf_window s g.limit (hi.cur ▸ hi.hi) hi.limit_range.1 (hi.cur ▸ Nat.le_of_succ_le hi.nowLimit), hi.cur,
    List.map_map]
  rfl

theorem total_between {g : Ghost} {s : State} (hi : Inv g s) (sel : Sel) :
    lower g sel ≤ sumBy sel.val (unitsOf s g.limit) ∧ sumBy sel.val (unitsOf s g.limit) ≤ upper g sel := by
  have hn := Nat.le_of_succ_le hi.nowLimit
  rw [sumBy, map_val_unitsOf hi, lower_window g sel hn, upper_window g sel hn]
  exact ⟨wsum_le _ fun _ _ => (hi.hour_between sel _).1, wsum_le _ fun _ _ => (hi.hour_between sel _).2⟩

theorem between_iff (lo x hi : Nat) : between lo x hi = true ↔ lo ≤ x ∧ x ≤ hi := by
  rw [between, Bool.and_eq_true, decide_eq_true_eq, decide_eq_true_eq]

theorem slotsFrom_map_range' {g : Ghost} {sel : Sel} {len : Nat} {F : Nat → Nat} {i n : Nat}
    (h : ∀ k, i ≤ k → k < i + n →
      between (lowerAt g (g.now + 1 + k - len) sel) (F k) (upperAt g (g.now + 1 + k - len) sel) = true) :
    slotsFrom g sel len ((List.range' i n).map F) i = true := by
  induction n generalizing i with
  | zero => rfl
  | succ n ih =>
    rw [List.range'_succ, List.map_cons, slotsFrom, h i (Nat.le_refl _) (by omega),
      ih fun k h1 h2 => h k (by omega) (by omega)]
    rfl

theorem slots_hourly {g : Ghost} {s : State} (hi : Inv g s) (sel : Sel) :
    slotsOK g sel ((unitsOf s g.limit).map sel.val) = true := by
  have hnl := hi.nowLimit
  rw [slotsOK, map_val_unitsOf hi, List.length_map, List.length_range, List.range_eq_range']
  refine slotsFrom_map_range' fun k _ _ => ?_
  rw [between_iff, show g.now + 1 + k - g.limit = g.now + 1 - g.limit + k by omega]
  exact hi.hour_between sel _

theorem seriesOK_of {g : Ghost} {s : State} (hi : Inv g s) (sel : Sel) (a : List Nat)
    (ha : IsSeries sel.val (unitsOf s g.limit) g.now a) :
    seriesOK g (decide ((unitsOf s g.limit).length / 24 > 7)) sel a (sumBy sel.val (unitsOf s g.limit)) = true := by
  by_cases hd : (unitsOf s g.limit).length / 24 > 7
  · rw [seriesOK, decide_eq_true hd, if_pos rfl, decide_eq_true_eq]
    exact ha.sum_le
  · rw [seriesOK, decide_eq_false hd, if_neg Bool.false_ne_true, Bool.and_eq_true, decide_eq_true_eq,
      ha.hourly hd]
    exact ⟨rfl, slots_hourly hi sel⟩

theorem getData_ok {g : Ghost} {s : State} (hi : Inv g s) :
    ∃ r, getData s = .ok r ∧ IsAnswer (unitsOf s g.limit) g.now r ∧ totalsOK g r = true ∧ allSeriesOK g r = true := by
  have hr := hi.limit_range
  obtain ⟨r, hget, ha⟩ := getData_spec s (hi.cur ▸ hi.hi) (hi.lim ▸ hr.1)
    (by rw [hi.lim]; exact Nat.lt_of_le_of_lt hr.2 (by decide))
  rw [hi.lim, hi.cur] at ha
  refine ⟨r, hget, ha, ?_, ?_⟩
  · have bt : ∀ sel : Sel, between (lower g sel) (sumBy sel.val (unitsOf s g.limit)) (upper g sel) = true :=
      fun sel => (between_iff ..).2 (total_between hi sel)
    rw [totalsOK, ha.numDNSQueries, ha.numBlockedFiltering, ha.numReplacedSafebrowsing, ha.numReplacedSafesearch,
      ha.numReplacedParental]
    simp only [Bool.and_eq_true]
    exact ⟨⟨⟨⟨bt .total, bt (.cat 2)⟩, bt (.cat 3)⟩, bt (.cat 4)⟩, bt (.cat 5)⟩
  · rw [allSeriesOK, ha.days, ha.numDNSQueries, ha.numBlockedFiltering, ha.numReplacedSafebrowsing,
      ha.numReplacedParental]
    simp only [Bool.and_eq_true]
    exact ⟨⟨⟨seriesOK_of hi .total _ ha.dnsQueries, seriesOK_of hi (.cat 2) _ ha.blockedFiltering⟩,
      seriesOK_of hi (.cat 3) _ ha.replacedSafebrowsing⟩, seriesOK_of hi (.cat 5) _ ha.replacedParental⟩

theorem getData_specOK {g : Ghost} {s : State} (hi : Inv g s) : specOK g (getData s) = true := by
  obtain ⟨r, hr, _, ht, hs⟩ := getData_ok hi
  simp [specOK, hr, ht, hs]

theorem lower_eq_upper {g : Ghost} (hk : AllKept g) (sel : Sel) : lower g sel = upper g sel := by
  unfold lower upper
  apply cnt_congr
  intro e he
  cases hw : inWindow g.now g.limit e.hour with
  | true => rw [hk e he hw]; rfl
  | false => rw [Bool.and_false]

theorem total_eq_upper {g : Ghost} {s : State} (hi : Inv g s) (hk : AllKept g) (sel : Sel) :
    sumBy sel.val (unitsOf s g.limit) = upper g sel :=
  Nat.le_antisymm (total_between hi sel).2 (lower_eq_upper hk sel ▸ (total_between hi sel).1)

end AGH.C09
