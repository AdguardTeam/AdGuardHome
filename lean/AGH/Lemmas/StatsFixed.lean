/-
C09: while the retention limit does not change and the clock moves forward,
every counted query inside the window has always been inside it.  About the
ghost alone: no model state occurs.
-/
import AGH.Lemmas.StatsInv
namespace AGH.C09

/-- `AllKept` strengthened so that it is inductive. -/
def AK (g : Ghost) : Prop :=
  g.now ≤ g.clock ∧
  ∀ e ∈ g.evs, e.hour ≤ g.now ∧ (inWindow g.now g.limit e.hour = true → e.kept = true)

theorem AK.allKept {g : Ghost} (h : AK g) : AllKept g := fun e he => (h.2 e he).2

/-- `kept` re-evaluated at an hour `g'.now ≥ g.now` under the same limit: events
inside the new window were inside the old one, so they are still kept. -/
theorem ak_rekeep {g g' : Ghost} (h : AK g) (hevs : g'.evs = rekeep (inWindow g'.now g'.limit) g.evs)
    (hl : g'.limit = g.limit) (hid : g.now ≤ g'.now) (hnc : g'.now ≤ g'.clock) : AK g' := by
  refine ⟨hnc, ?_⟩
  intro e' he'
  obtain ⟨e, he, h1, h2⟩ := mem_rekeep (hevs ▸ he')
  obtain ⟨a1, a2⟩ := h.2 e he
  refine ⟨by rw [h1]; exact Nat.le_trans a1 hid, ?_⟩
  intro hw
  rw [h1] at hw
  have hw' := inWindow_iff.1 hw
  rw [hl] at hw'
  rw [h2, a2 (inWindow_iff.2 ⟨a1, by omega⟩), hw]
  rfl

theorem ak_step {g : Ghost} {L : Nat} (hl : g.limit = L) (h : AK g) (op : Op) (hk : keepsLimit L op)
    (hd : (ghostStep g op).dom = true) : AK (ghostStep g op) ∧ (ghostStep g op).limit = L := by
  have hclr : AK { g with evs := [], now := g.clock } := ⟨Nat.le_refl _, fun _ he => nomatch he⟩
  -- the exits of `ghostStep` are numbered at `dom_step` (StatsInv): 7 and 11 empty the events (0 days, clear);
  -- 2, 8, 10 and 12 leave the ghost as it is (uncounted update, the two rejections, read)
  fun_cases ghostStep g op with
  | case1 e n =>
    refine ⟨⟨h.1, fun e' he' => ?_⟩, hl⟩
    rcases List.mem_cons.mp he' with rfl | he'
    · exact ⟨Nat.le_refl _, fun _ => rfl⟩
    · exact h.2 e' he'
  | case3 id => exact ⟨ak_rekeep h rfl rfl (Nat.le_trans h.1 (dom_clock hd).2.1) (Nat.le_refl _), hl⟩
  | case4 h' => exact ⟨⟨Nat.le_trans h.1 (dom_clock hd).2.1, h.2⟩, hl⟩
  | case5 id l en =>
    exact ⟨ak_rekeep h rfl (hk.trans hl.symm) (Nat.le_trans h.1 (dom_clock hd).2.1) (Nat.le_refl _), hk⟩
  | case6 d h1 => exact ⟨ak_rekeep h rfl ((hk h1).trans hl.symm) (Nat.le_refl _) h.1, hk h1⟩
  | case9 ms en h1 => exact ⟨ak_rekeep h rfl ((hk h1).trans hl.symm) (Nat.le_refl _) h.1, hk h1⟩
  | case7 | case11 => exact ⟨hclr, hl⟩
  | case2 | case8 | case10 | case12 => exact ⟨h, hl⟩

theorem ak_run {g : Ghost} {L : Nat} (ops : List Op) (hl : g.limit = L) (h : AK g)
    (hk : ∀ op ∈ ops, keepsLimit L op) (hd : (ghostRun g ops).dom = true) : AK (ghostRun g ops) := by
  induction ops generalizing g with
  | nil => exact h
  | cons op ops ih =>
    simp only [ghostRun, List.foldl_cons] at hd ⊢
    obtain ⟨h1, h2⟩ := ak_step hl h op (hk op (List.mem_cons_self ..)) (dom_run hd)
    exact ih h2 h1 (fun o ho => hk o (List.mem_cons_of_mem _ ho)) hd

theorem ak_init (clock ms : Nat) (en : Bool) : AK (Ghost.init clock ms en) :=
  ⟨Nat.le_refl _, fun e he => by simp [Ghost.init] at he⟩

end AGH.C09
