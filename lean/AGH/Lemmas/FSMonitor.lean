/-
C14: the executable monitor (`visibleOK`, `crashOK`, `firstBad`) says exactly
what the Prop-level spec `OKAt` says.
-/
import AGH.Spec.FS
namespace AGH.C14

theorem isVersion_iff (old : Option Content) (new : Content) (c : Option Content) :
    isVersion old new c = true ↔ IsVersion old new c := by
  simp [isVersion, IsVersion]

theorem prefixesAll_iff (ok : Content → Bool) (pre l : Content) :
    prefixesAll ok pre l = true ↔ ∀ q, q <+: l → ok (pre ++ q) = true := by
  induction l generalizing pre with
  | nil =>
    simp only [prefixesAll, List.prefix_nil]
    constructor
    · intro h q hq; subst hq; simpa using h
    · intro h; simpa using h [] rfl
  | cons x xs ih =>
    simp only [prefixesAll, Bool.and_eq_true, ih]
    constructor
    · rintro ⟨h0, h1⟩ q hq
      rcases List.prefix_cons_iff.mp hq with rfl | ⟨t, rfl, ht⟩
      · simpa using h0
      · have := h1 t ht
        simpa [List.append_assoc] using this
    · intro h
      refine ⟨by simpa using h [] (List.nil_prefix), ?_⟩
      intro q hq
      have := h (x :: q) (List.prefix_cons_iff.mpr (Or.inr ⟨q, rfl, hq⟩))
      simpa [List.append_assoc] using this

theorem crashOKP_iff (ok : Option Content → Bool) (s : FS) (dest : Path) :
    crashOKP ok s dest = true ↔ ∀ c, AfterCrash s dest c → ok c = true := by
  unfold crashOKP
  cases hn : s.names dest with
  | none =>
    refine ⟨fun h c hc => ?_, fun h => h none hn⟩
    cases c with
    | none => exact h
    | some x => obtain ⟨i, hi, _⟩ := hc; cases hn.symm.trans hi
  | some i =>
    have hcr : (∀ c, AfterCrash s dest c → ok c = true) ↔
        ∀ x, Survives s i x → ok (some x) = true := by
      refine ⟨fun h x hx => h (some x) ⟨i, hn, hx⟩, fun h c hc => ?_⟩
      cases c with
      | none => cases hn.symm.trans hc
      | some x =>
        obtain ⟨j, hj, hs⟩ := hc
        cases hn.symm.trans hj
        exact h x hs
    rw [hcr]
    cases hd : s.dirty i with
    | true =>
      simp only [Survives, hd, if_true, Bool.and_eq_true, prefixesAll_iff, List.nil_append]
      exact ⟨fun h x hx => hx.elim (fun e => e ▸ h.1) (h.2 x),
        fun h => ⟨h _ (Or.inl rfl), fun q hq => h q (Or.inr hq)⟩⟩
    | false =>
      simp only [Survives, hd, Bool.false_eq_true, if_false]
      exact ⟨fun h x hx => hx ▸ h, fun h => h _ rfl⟩

/-- The cases are the exits of `firstBadP`: the visible content is bad, what a crash leaves is bad,
both are fine and the trace has ended, both are fine and it goes on. -/
theorem firstBadP_none_iff (ok : Option Content → Bool) (dest : Path) (s : FS) (es : List Sys) :
    firstBadP ok dest s es = none ↔ ∀ j, OKAtP ok (run s (es.take j)) dest := by
  have inst : ∀ s : FS, OKAtP ok s dest ↔ ¬ (!visibleOKP ok s dest) = true ∧ ¬ (!crashOKP ok s dest) = true := by
    intro s
    rw [Bool.not_eq_true', Bool.not_eq_true', Bool.not_eq_false, Bool.not_eq_false, crashOKP_iff]
    rfl
  fun_induction firstBadP ok dest s es with
  | case1 s es hv => exact ⟨nofun, fun h => absurd hv ((inst s).mp (h 0)).1⟩
  | case2 s es _ hc => exact ⟨nofun, fun h => absurd hc ((inst s).mp (h 0)).2⟩
  | case3 s hv hc => exact ⟨fun _ j => by rw [List.take_nil]; exact (inst s).mpr ⟨hv, hc⟩, fun _ => rfl⟩
  | case4 s hv hc e es ih =>
    exact ih.trans
      ⟨fun h j => match j with | 0 => (inst s).mpr ⟨hv, hc⟩ | j + 1 => h j, fun h j => h (j + 1)⟩

/-! ## The monitor of one save is the set monitor for `{old, new}` -/

theorem crashOK_eq (s : FS) (dest : Path) (old : Option Content) (new : Content) :
    crashOK s dest old new = crashOKP (isVersion old new) s dest := rfl

theorem firstBad_eq (dest : Path) (old : Option Content) (new : Content) (s : FS) (es : List Sys) :
    firstBad dest old new s es = firstBadP (isVersion old new) dest s es := by
  induction es generalizing s with
  | nil => unfold firstBad firstBadP; rfl
  | cons e es ih => unfold firstBad firstBadP; simp only [ih]; rfl

theorem okAtP_isVersion (s : FS) (dest : Path) (old : Option Content) (new : Content) :
    OKAtP (isVersion old new) s dest ↔ OKAt s dest old new := by
  simp only [OKAtP, OKAt, isVersion_iff]

theorem visibleOK_iff (s : FS) (dest : Path) (old : Option Content) (new : Content) :
    visibleOK s dest old new = true ↔ IsVersion old new (visible s dest) :=
  isVersion_iff _ _ _

theorem crashOK_iff (s : FS) (dest : Path) (old : Option Content) (new : Content) :
    crashOK s dest old new = true ↔ ∀ c, AfterCrash s dest c → IsVersion old new c := by
  simp only [crashOK_eq, crashOKP_iff, isVersion_iff]

theorem visibleOK_crashOK_iff (s : FS) (dest : Path) (old : Option Content) (new : Content) :
    (visibleOK s dest old new = true ∧ crashOK s dest old new = true) ↔ OKAt s dest old new := by
  rw [visibleOK_iff, crashOK_iff]; rfl

theorem firstBad_none_iff (dest : Path) (old : Option Content) (new : Content) (s : FS)
    (es : List Sys) :
    firstBad dest old new s es = none ↔ ∀ j, OKAt (run s (es.take j)) dest old new := by
  simp only [firstBad_eq, firstBadP_none_iff, okAtP_isVersion]

end AGH.C14
