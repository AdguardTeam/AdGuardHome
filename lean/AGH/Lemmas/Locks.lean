/-
C05 — race freedom from the lockset discipline.  Every thread of a reachable
state still obeys `discOK` (it is kept by `advance`), so a thread about to write
`x` holds `guard x` exclusively and one about to read it holds it in some mode;
an exclusive holder excludes every other holder (`MutexInv`).  Invariants of
single threads all go through `step_cases` and `reach_forall_thread`, whose
predicate ranges over `held` and `rest` only, so that announcements cannot matter.
-/
import AGH.Spec.Locks
namespace AGH.C05

theorem step_cases {s s' : State} (h : Step s s') :
    ∃ k t, s[k]? = some t ∧
      ((enabled s t = true ∧ s' = s.set k (advance t)) ∨
       (∃ l r, t.rest = Event.acq l Mode.excl :: r ∧ s' = s.set k { t with announced := true })) := by
  cases h with
  | run i hi =>
    revert hi
    fun_cases stepThread s i with
    | case2 t ht hen => intro hi; cases hi; exact ⟨i, t, ht, .inl ⟨hen, rfl⟩⟩
    | _ => nofun
  | ann i hi =>
    revert hi
    fun_cases announce s i with
    | case3 t ht l r hr _ => intro hi; cases hi; exact ⟨i, t, ht, .inr ⟨l, r, hr, rfl⟩⟩
    | _ => nofun

theorem reach_forall_thread (Q : List (Lock × Mode) → List Event → Prop) {p : Prog}
    (h0 : ∀ evs ∈ p, Q [] evs)
    (hadv : ∀ t, Q t.held t.rest → Q (advance t).held (advance t).rest) :
    ∀ s, Reach (init p) s → ∀ t ∈ s, Q t.held t.rest := by
  intro s hr
  induction hr with
  | refl =>
    intro t ht
    obtain ⟨evs, hevs, rfl⟩ := List.mem_map.1 ht
    exact h0 evs hevs
  | step _ hst ih =>
    obtain ⟨k, t, hk, hc⟩ := step_cases hst
    have ht := ih t (List.mem_of_getElem? hk)
    intro u hu
    rcases hc with ⟨_, rfl⟩ | ⟨_, _, _, rfl⟩
    · rcases List.mem_or_eq_of_mem_set hu with hu | rfl
      · exact ih u hu
      · exact hadv t ht
    · rcases List.mem_or_eq_of_mem_set hu with hu | rfl
      · exact ih u hu
      · exact ht

theorem any_fst_iff {held : List (Lock × Mode)} {l : Lock} :
    held.any (fun h => h.1 == l) = true ↔ ∃ m, (l, m) ∈ held := by
  constructor
  · intro h
    obtain ⟨⟨l', m⟩, hm, hl⟩ := List.any_eq_true.1 h
    cases beq_iff_eq.1 hl
    exact ⟨m, hm⟩
  · rintro ⟨m, hm⟩
    exact List.any_eq_true.2 ⟨_, hm, beq_self_eq_true l⟩

theorem holdsAny_iff {t : Thread} {l : Lock} :
    holdsAny t l = true ↔ ∃ m, (l, m) ∈ t.held :=
  any_fst_iff

theorem mem_of_mayRead {held : List (Lock × Mode)} {g : Lock} (h : mayRead held g = true) :
    ∃ m, (g, m) ∈ held := by
  rcases Bool.or_eq_true _ _ ▸ h with h | h <;> exact ⟨_, List.contains_iff_mem.1 h⟩

theorem holdsAny_of_holdsExcl {t : Thread} {l : Lock} (h : holdsExcl t l = true) :
    holdsAny t l = true :=
  holdsAny_iff.2 ⟨_, List.contains_iff_mem.1 h⟩

theorem holdsExcl_iff {t : Thread} {l : Lock} :
    holdsExcl t l = true ↔ (l, Mode.excl) ∈ t.held := by
  unfold holdsExcl
  exact List.contains_iff_mem

theorem held_advance {t : Thread} {h : Lock × Mode} (hm : h ∈ (advance t).held) :
    h ∈ t.held ∨ ∃ r, t.rest = Event.acq h.1 h.2 :: r := by
  revert hm
  -- the exits of `advance`: nothing left, `acq` (the one new hold), `rel`, `rd`, `wr`
  fun_cases advance t with
  | case1 => exact Or.inl
  | case2 l m r hr =>
    intro hm
    rcases List.mem_cons.mp hm with rfl | hm
    · exact Or.inr ⟨r, hr⟩
    · exact Or.inl hm
  | case3 => exact fun hm => Or.inl (List.mem_of_mem_erase hm)
  | case4 => exact Or.inl
  | case5 => exact Or.inl

theorem canAcq_excl {s : State} {l : Lock} :
    canAcq s l Mode.excl = true ↔ ∀ t ∈ s, holdsAny t l = false := by
  simp only [canAcq, List.all_eq_true, Bool.not_eq_true']

theorem canAcq_shared {s : State} {l : Lock} :
    canAcq s l Mode.shared = true ↔ ∀ t ∈ s, holdsExcl t l = false ∧ wantsExcl t l = false := by
  simp only [canAcq, List.all_eq_true, Bool.and_eq_true, Bool.not_eq_true']

theorem canAcq_excl_refused {s : State} {l : Lock} :
    canAcq s l Mode.excl = false ↔ ∃ t ∈ s, holdsAny t l = true := by
  simp only [canAcq, List.all_eq_false, Bool.not_eq_true', Bool.not_eq_false]

theorem canAcq_shared_refused {s : State} {l : Lock} :
    canAcq s l Mode.shared = false ↔ ∃ t ∈ s, holdsExcl t l = true ∨ wantsExcl t l = true := by
  simp only [canAcq, List.all_eq_false, Bool.and_eq_true, Bool.not_eq_true',
    Decidable.not_and_iff_not_or_not, Bool.not_eq_false]

theorem wantsExcl_iff {t : Thread} {l : Lock} :
    wantsExcl t l = true ↔ t.announced = true ∧ ∃ r, t.rest = Event.acq l Mode.excl :: r := by
  rw [wantsExcl, Bool.and_eq_true, beq_iff_eq, List.head?_eq_some_iff]

def MutexInv (s : State) : Prop :=
  ∀ (i j : Nat) (ti tj : Thread) (l : Lock), i ≠ j → s[i]? = some ti → s[j]? = some tj →
    holdsExcl ti l = true → holdsAny tj l = false

theorem mutexInv_init (p : Prog) : MutexInv (init p) := by
  intro i j ti tj l _ hi _ he
  have hm : ti ∈ init p := List.mem_of_getElem? hi
  unfold init at hm
  obtain ⟨evs, _, rfl⟩ := List.mem_map.1 hm
  simp [holdsExcl, initThread] at he

theorem getElem?_set_some {α : Type} {s : List α} {k i : Nat} {t' u : α}
    (h : (s.set k t')[i]? = some u) : (k = i ∧ u = t') ∨ (k ≠ i ∧ s[i]? = some u) := by
  rw [List.getElem?_set] at h
  by_cases hki : k = i
  · rw [if_pos hki] at h
    by_cases hl : k < s.length
    · rw [if_pos hl] at h
      exact Or.inl ⟨hki, (Option.some.inj h).symm⟩
    · rw [if_neg hl] at h; cases h
  · rw [if_neg hki] at h
    exact Or.inr ⟨hki, h⟩

theorem mutexInv_set {s : State} {k : Nat} {t t' : Thread} (hinv : MutexInv s)
    (hk : s[k]? = some t)
    (hnew : ∀ l m, (l, m) ∈ t'.held → (l, m) ∈ t.held ∨ canAcq s l m = true) :
    MutexInv (s.set k t') := by
  intro i j ti tj l hij hi hj he
  rcases getElem?_set_some hi with ⟨rfl, rfl⟩ | ⟨hki, hi'⟩ <;>
    rcases getElem?_set_some hj with ⟨hkj, rfl⟩ | ⟨hkj, hj'⟩
  · exact absurd hkj hij
  · -- the new thread is the exclusive holder
    rcases hnew l _ (holdsExcl_iff.1 he) with hold | hgr
    · exact hinv _ _ _ _ _ hij hk hj' (holdsExcl_iff.2 hold)
    · exact canAcq_excl.1 hgr tj (List.mem_of_getElem? hj')
  · -- the new thread is the other holder
    cases hkj
    cases hany : holdsAny tj l with
    | false => rfl
    | true =>
      obtain ⟨m, hm⟩ := holdsAny_iff.1 hany
      have hti := List.mem_of_getElem? hi'
      rcases hnew l m hm with hold | hgr
      · exact nomatch (holdsAny_iff.2 ⟨m, hold⟩).symm.trans (hinv _ _ _ _ _ hij hi' hk he)
      · cases m with
        | excl => exact nomatch (holdsAny_of_holdsExcl he).symm.trans (canAcq_excl.1 hgr ti hti)
        | shared => exact nomatch he.symm.trans (canAcq_shared.1 hgr ti hti).1
  · exact hinv _ _ _ _ _ hij hi' hj' he

theorem mutexInv_step {s s' : State} (hinv : MutexInv s) (hst : Step s s') : MutexInv s' := by
  obtain ⟨k, t, hk, hc⟩ := step_cases hst
  rcases hc with ⟨hen, rfl⟩ | ⟨_, _, _, rfl⟩
  · refine mutexInv_set hinv hk fun l m hm => (held_advance hm).imp_right fun ⟨r, hr⟩ => ?_
    -- a lock newly held was granted
    unfold enabled at hen
    rw [hr] at hen
    exact hen
  · exact mutexInv_set hinv hk fun l m hm => Or.inl hm

theorem mutexInv_reach (p : Prog) : ∀ s, Reach (init p) s → MutexInv s := by
  intro s hr
  induction hr with
  | refl => exact mutexInv_init p
  | step _ hst ih => exact mutexInv_step ih hst

theorem discOK_advance (guard : Var → Lock) (t : Thread)
    (h : discOK guard t.held t.rest = true) :
    discOK guard (advance t).held (advance t).rest = true := by
  obtain ⟨held, ann, rest⟩ := t
  cases rest with
  | nil => exact h
  | cons e r =>
    cases e with
    | acq l m | rel l m => simpa [advance, discOK] using h
    | rd x | wr x =>
      simp only [advance, discOK, Bool.and_eq_true] at h ⊢
      exact h.2

theorem discOK_reach (guard : Var → Lock) (p : Prog) (h : progDisc guard p = true) :
    ∀ s, Reach (init p) s → ∀ t ∈ s, discOK guard t.held t.rest = true :=
  reach_forall_thread (discOK guard · · = true) (List.all_eq_true.1 h) (discOK_advance guard)

theorem nextAccess_disc {guard : Var → Lock} {t : Thread} {x : Var} {w : Bool}
    (hd : discOK guard t.held t.rest = true) (hn : nextAccess t = some (x, w)) :
    holdsAny t (guard x) = true ∧ (w = true → holdsExcl t (guard x) = true) := by
  obtain ⟨held, ann, rest⟩ := t
  cases rest with
  | nil => cases hn
  | cons e r =>
    cases e with
    | acq l m | rel l m => cases hn
    | rd y =>
      cases hn
      simp only [discOK, Bool.and_eq_true] at hd
      exact ⟨holdsAny_iff.2 (mem_of_mayRead hd.1), fun h => nomatch h⟩
    | wr y =>
      cases hn
      simp only [discOK, Bool.and_eq_true] at hd
      exact ⟨holdsAny_of_holdsExcl hd.1, fun _ => hd.1⟩

theorem lockset_sound (guard : Var → Lock) (p : Prog) (h : progDisc guard p = true) :
    ∀ s, Reach (init p) s → ¬ Race s := by
  intro s hr hrace
  have hdisc := discOK_reach guard p h s hr
  have hmx := mutexInv_reach p s hr
  obtain ⟨i, j, x, wi, wj, hij, hi, hj, hw⟩ := hrace
  obtain ⟨ti, hsi, hi'⟩ := Option.bind_eq_some_iff.1 hi
  obtain ⟨tj, hsj, hj'⟩ := Option.bind_eq_some_iff.1 hj
  have di := nextAccess_disc (hdisc ti (List.mem_of_getElem? hsi)) hi'
  have dj := nextAccess_disc (hdisc tj (List.mem_of_getElem? hsj)) hj'
  -- the writer holds the guard exclusively, the other thread holds it too
  rcases hw with hw | hw
  · exact nomatch dj.1.symm.trans (hmx i j ti tj (guard x) hij hsi hsj (di.2 hw))
  · exact nomatch di.1.symm.trans (hmx j i tj ti (guard x) (Ne.symm hij) hsj hsi (dj.2 hw))

end AGH.C05
