/-
C04 lemmas: `Storage.Add` / `Update` / `RemoveByName`: what an accepted
operation is (`Accepted`) and the three outcomes of a step (`step_cases`).
Core Lean only.
-/
import AGH.Lemmas.ClientsClash
namespace AGH.C04
open AGH AGH.Bytes
open AGH.C03 (IP)

theorem Inv.remove_found {ci : Index} (h : Inv ci) {n : Bytes} {stored : Client}
    (hf : ci.findByName n = .found stored) : ci.remove stored ≠ none := by
  obtain ⟨_, hr, _⟩ := h.remove ((h.findByName_found_iff _ _).mp hf).1
  exact fun hn => nomatch hn.symm.trans hr

inductive Accepted (s : Storage) : Op → Storage → Prop
  | add {p : Client} : p.validate = none → s.index.client p.uid = none → s.index.clashes p = .ok →
      Accepted s (.add p) { s with index := s.index.add p }
  | update {n : Bytes} {p stored : Client} {idx : Index} : p.validate = none →
      s.index.findByName n = .found stored → s.index.clashes { p with uid := stored.uid } = .ok →
      s.index.remove stored = some idx →
      Accepted s (.update n p) { s with index := idx.add { p with uid := stored.uid } }
  | remove {n : Bytes} {stored : Client} {idx : Index} : s.index.findByName n = .found stored →
      s.index.remove stored = some idx → Accepted s (.remove n) { s with index := idx }
  | dhcpSet (ip : IP) (mac : MAC) :
      Accepted s (.dhcpSet ip mac) { s with dhcp := (ip, mac) :: s.dhcp.filter (·.1 != ip) }
  | dhcpDel (ip : IP) : Accepted s (.dhcpDel ip) { s with dhcp := s.dhcp.filter (·.1 != ip) }

def BadMAC (op : Op) : Prop :=
  ∃ c, (op = .add c ∨ ∃ n, op = .update n c) ∧ ∃ m ∈ c.macs, macOK m = false

/-- The eliminator for `step`.  An error and a crash leave the storage as it was; of the three places
where the code can crash — `clashes` (`macToKey`), a name mapped to a UID without a client,
`index.remove` — only the first is reached on a consistent index.  The cases of each operation are its
exits in the order of its text; the last one of `Add` and of `Update` is any other answer of `clashes`. -/
theorem step_cases (s : Storage) (op : Op) {P : Storage × Res → Prop}
    (err : ∀ e, P (s, .err e)) (panic : (Inv s.index → BadMAC op) → P (s, .panic))
    (ok : ∀ s', Accepted s op s' → P (s', .ok)) : P (step s op) := by
  cases op with
  | add p =>
    show P (s.add p)
    fun_cases Storage.add s p with
    | case1 e hv => exact err e
    | case2 hv hc => exact err _
    | case3 hv hc hcl => exact ok _ (.add hv (Option.not_isSome_iff_eq_none.mp hc) hcl)
    | case4 hv hc hne =>
      cases hcl : s.index.clashes p with
      | ok => exact absurd hcl hne
      | err e => exact err e
      | panic => exact panic fun h => ⟨p, .inl rfl, h.clashes_panic hcl⟩
  | update n p =>
    show P (s.update n p)
    fun_cases Storage.update s n p with
    | case1 e hv => exact err e
    | case2 hv hf => exact err _
    | case3 hv hf => exact panic fun h => absurd hf (h.deref_ne_dangling h.names n)
    | case4 hv stored hf p' hcl idx hr => exact ok _ (.update hv hf hcl hr)
    | case5 hv stored hf p' hcl hr => exact panic fun h => absurd hr (h.remove_found hf)
    | case6 hv stored hf p' hne =>
      cases hcl : s.index.clashes p' with
      | ok => exact absurd hcl hne
      | err e => exact err e
      | panic => exact panic fun h => ⟨p, .inr ⟨n, rfl⟩, h.clashes_panic (c := p') hcl⟩
  | remove n =>
    show P (s.removeByName n)
    fun_cases Storage.removeByName s n with
    | case1 hf => exact err _
    | case2 hf => exact panic fun h => absurd hf (h.deref_ne_dangling h.names n)
    | case3 stored hf idx hr => exact ok _ (.remove hf hr)
    | case4 stored hf hr => exact panic fun h => absurd hr (h.remove_found hf)
  | dhcpSet ip mac => exact ok _ (.dhcpSet ip mac)
  | dhcpDel ip => exact ok _ (.dhcpDel ip)

theorem step_rejected (s : Storage) (op : Op) (h : (step s op).2 ≠ .ok) : (step s op).1 = s :=
  step_cases s op (P := fun r => r.2 ≠ .ok → r.1 = s) (fun _ _ => rfl) (fun _ _ => rfl)
    (fun _ _ h => absurd rfl h) h

theorem step_ok {s : Storage} {op : Op} (h : (step s op).2 = .ok) : Accepted s op (step s op).1 :=
  step_cases s op (P := fun r => r.2 = .ok → Accepted s op r.1) (fun _ => nofun) (fun _ => nofun)
    (fun _ ha _ => ha) h

theorem step_panic {s : Storage} (h : Inv s.index) {op : Op} (hp : (step s op).2 = .panic) :
    BadMAC op :=
  step_cases s op (P := fun r => r.2 = .panic → BadMAC op) (fun _ => nofun) (fun hb _ => hb h)
    (fun _ _ => nofun) hp

theorem Storage.add_dhcp (s : Storage) (p : Client) : (s.add p).1.dhcp = s.dhcp :=
  step_cases s (.add p) (P := fun r => r.1.dhcp = s.dhcp) (fun _ => rfl) (fun _ => rfl)
    fun _ ha => by cases ha; rfl

end AGH.C04
