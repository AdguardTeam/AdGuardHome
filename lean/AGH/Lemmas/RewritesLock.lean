/-
C06 — why an evaluation sees the table of ONE instant.

`evalDuring` (AGH/Model/Rewrites.lean) lets an evaluation read `states[i]` for a
single `i`.  That is a statement about `confMu`, not about the rewrite logic:
it holds because `processRewrites` keeps the read lock for the whole call and
every writer of `conf.Rewrites` holds the write lock.  This file states the argument
as a theorem about a readers–writer lock machine; the premises about the CODE
(which sites hold which lock) are the regenerated facts of `AGH.Gen.C06Sites`,
checked in `Props/C06.lean` (`C06_T_*`).

Machine: threads take and release the lock for reading or writing, read the
table and write it (a write bumps a version counter).  `step` is partial:
`none` stands both for "the lock does not admit this step now" (the schedule
does not take it) and for "this access is not under the lock it needs" (a
program outside the discipline).  For every schedule the machine accepts,
every read made under one read hold returns the version current when the hold
began: no write falls inside a read hold.
-/
namespace AGH.C06.Lock

inductive Ev where
  | rlock (t : Nat)
  | runlock (t : Nat)
  | lock (t : Nat)
  | unlock (t : Nat)
  | read (t : Nat)
  | write (t : Nat)
deriving Repr, DecidableEq

structure LS where
  /-- read holders with the table version at acquisition -/
  held : List (Nat × Nat) := []
  writer : Option Nat := none
  version : Nat := 0
  /-- reads made under a read hold: (thread, version at acquisition, version read) -/
  seen : List (Nat × Nat × Nat) := []

def acq (s : LS) (t : Nat) : Option Nat := (s.held.find? (fun p => p.1 == t)).map (·.2)

def step (s : LS) : Ev → Option LS
  | .rlock t => if s.writer.isNone then some { s with held := (t, s.version) :: s.held } else none
  | .runlock t =>
    if (acq s t).isSome then some { s with held := s.held.filter (fun p => p.1 != t) } else none
  | .lock t => if s.writer.isNone && s.held.isEmpty then some { s with writer := some t } else none
  | .unlock t => if s.writer == some t then some { s with writer := none } else none
  | .read t =>
    match acq s t with
    | some v => some { s with seen := (t, v, s.version) :: s.seen }
    | none => if s.writer == some t then some s else none
  | .write t => if s.writer == some t then some { s with version := s.version + 1 } else none

def run (s : LS) : List Ev → Option LS
  | [] => some s
  | e :: es => (step s e).bind (fun s' => run s' es)

def Inv (s : LS) : Prop :=
  (s.writer.isSome = true → s.held = []) ∧ (∀ p ∈ s.held, p.2 = s.version) ∧
    (∀ r ∈ s.seen, r.2.1 = r.2.2)

theorem inv_init : Inv {} := by
  refine ⟨fun _ => rfl, ?_, ?_⟩ <;> intro _ h <;> cases h

theorem acq_mem {s : LS} {t v : Nat} (h : acq s t = some v) : (t, v) ∈ s.held := by
  unfold acq at h
  cases hf : s.held.find? (fun p => p.1 == t) with
  | none => rw [hf] at h; cases h
  | some p =>
    rw [hf] at h
    simp only [Option.map_some, Option.some.injEq] at h
    have hm := List.mem_of_find?_eq_some hf
    have hp := List.find?_some hf
    simp only [beq_iff_eq] at hp
    cases p with
    | mk a b =>
      simp only at hp h
      subst hp; subst h
      exact hm

/-- The cases are the exits of `step` in the order of its text (`rlock`, `runlock`, `lock`,
`unlock`, `read`, `write`, each admitted and then refused; `read` is admitted under a read hold
and for the writer), and a refused step yields no state. -/
theorem step_inv {s s' : LS} {e : Ev} (hi : Inv s) : step s e = some s' → Inv s' := by
  obtain ⟨hw, hh, hr⟩ := hi
  fun_cases step s e <;> intro hs <;> cases hs
  case case1 t hn =>
    refine ⟨fun hsome => ?_, fun p hp => ?_, hr⟩
    · rw [Option.isNone_iff_eq_none.mp hn] at hsome
      cases hsome
    · rcases List.mem_cons.mp hp with rfl | h
      · rfl
      · exact hh p h
  case case3 t _ =>
    refine ⟨fun hsome => ?_, fun p hp => hh p (List.mem_filter.mp hp).1, hr⟩
    simp only [hw hsome, List.filter_nil]
  case case5 t hc => exact ⟨fun _ => List.isEmpty_iff.mp (Bool.and_eq_true _ _ |>.mp hc).2, hh, hr⟩
  case case7 => exact ⟨fun hsome => (nomatch hsome), hh, hr⟩
  case case9 t v hv =>
    refine ⟨hw, hh, fun r hm => ?_⟩
    rcases List.mem_cons.mp hm with rfl | h
    · exact hh (t, v) (acq_mem hv)
    · exact hr r h
  case case10 => exact ⟨hw, hh, hr⟩
  case case12 t hwt =>
    -- the writer holds the lock, so nobody holds it for reading
    have hemp : s.held = [] := hw (by rw [beq_iff_eq.mp hwt]; rfl)
    exact ⟨fun _ => hemp, fun p hp => (by rw [hemp] at hp; cases hp), hr⟩

theorem run_inv {s : LS} (es : List Ev) {s' : LS} : Inv s → run s es = some s' → Inv s' := by
  fun_induction run s es with
  | case1 s => rintro hi ⟨⟩; exact hi
  | case2 s e es ih =>
    intro hi hr
    obtain ⟨s1, hs, hr⟩ := Option.bind_eq_some_iff.mp hr
    exact ih s1 (step_inv hi hs) hr

theorem reads_of_one_hold_one_version (es : List Ev) (s : LS) (h : run {} es = some s) :
    ∀ r ∈ s.seen, r.2.1 = r.2.2 :=
  (run_inv es inv_init h).2.2

/-- The schedule that would put an update between two lookups of one evaluation does not
exist. -/
theorem no_write_inside_read_hold (es : List Ev) (s : LS) (t : Nat) (h : run {} es = some s)
    (hheld : s.held ≠ []) : step s (.write t) = none := by
  have hi := run_inv es inv_init h
  simp only [step]
  split
  · rename_i hwt
    have hsome : s.writer.isSome = true := by
      simp only [beq_iff_eq] at hwt
      rw [hwt]
      rfl
    exact absurd (hi.1 hsome) hheld
  · rfl

/-- non-vacuity: a reader's two lookups around which a writer tries to update -/
example : (run {} [.rlock 1, .read 1, .read 1, .runlock 1, .lock 2, .write 2, .unlock 2,
    .rlock 1, .read 1, .runlock 1]).map (·.seen) = some [(1, 1, 1), (1, 0, 0), (1, 0, 0)] := by
  decide
example : run {} [.rlock 1, .read 1, .lock 2] = none := by decide
/-- without the lock spanning both lookups the mixture exists (what seed C06-17 did) -/
example : (run {} [.rlock 1, .read 1, .runlock 1, .lock 2, .write 2, .unlock 2, .rlock 1, .read 1,
    .runlock 1]).map (fun s => s.seen.map (·.2.2)) = some [1, 0] := by decide

end AGH.C06.Lock
