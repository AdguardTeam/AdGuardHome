/-
C19: the cache item codec and the layout of the question.
-/
import AGH.Spec.HashPrefix
namespace AGH.C19
open AGH AGH.Bytes

theorem length_be64 (n : Nat) : ∀ k, (be64 n k).length = k
  | 0 => rfl
  | k + 1 => by simp [be64, length_be64 n k]

theorem unbe64_be64 (n k : Nat) : unbe64 (be64 n k) = n % 256 ^ k := by
  induction k with
  | zero => simp [be64, unbe64, Nat.mod_one]
  | succ k ih =>
    simp only [be64, unbe64, length_be64, ih]
    rw [Nat.pow_succ, Nat.mod_mul]
    rw [Nat.mul_comm (n / 256 ^ k % 256)]
    omega

theorem chunk32_flatten (hs : List Hash) : ∀ fuel : Nat, (∀ h ∈ hs, h.length = 32) →
    hs.flatten.length ≤ fuel → chunk32 fuel hs.flatten = hs := by
  induction hs with
  | nil => intro fuel _ _; cases fuel <;> simp [chunk32]
  | cons h hs ih =>
    intro fuel hl hf
    have h32 : h.length = 32 := hl h (by simp)
    have hne : (h ++ hs.flatten).isEmpty = false := by
      cases h with
      | nil => simp at h32
      | cons x xs => rfl
    simp only [List.flatten_cons, List.length_append] at hf
    cases fuel with
    | zero => omega
    | succ f =>
      simp only [List.flatten_cons, chunk32, hne, Bool.false_eq_true, if_false, List.take_left' h32,
        List.drop_left' h32]
      rw [ih f (fun x hx => hl x (List.mem_cons_of_mem _ hx)) (by omega)]

theorem questionOfPrefixes_eq (suffix : Bytes) : ∀ ps : List Prefix,
    questionOfPrefixes suffix ps = (ps.flatMap (fun p => hexBytes p ++ [dot])) ++ suffix
  | [] => rfl
  | p :: ps => by simp [questionOfPrefixes, questionOfPrefixes_eq suffix ps]

theorem length_hexBytes : ∀ p : Bytes, (hexBytes p).length = 2 * p.length
  | [] => rfl
  | b :: rest => by simp [hexBytes, length_hexBytes rest]; omega

theorem isLowerHex_hexBytes : ∀ (p : Bytes) (c : Nat), c ∈ hexBytes p → isLowerHex c = true
  | [], _, h => nomatch h
  | b :: rest, c, h => by
    have hn : ∀ n, n < 16 → isLowerHex (hexNib n) = true := by decide +kernel
    rcases List.mem_cons.mp h with rfl | h
    · exact hn _ (Nat.mod_lt _ (by decide))
    · rcases List.mem_cons.mp h with rfl | h
      · exact hn _ (Nat.mod_lt _ (by decide))
      · exact isLowerHex_hexBytes rest c h

theorem length_questionOfPrefixes (suffix : Bytes) : ∀ ps : List Prefix, (∀ p ∈ ps, p.length = 2) →
    (questionOfPrefixes suffix ps).length = 5 * ps.length + suffix.length
  | [], _ => (Nat.zero_add _).symm
  | p :: ps, hp => by
    rw [questionOfPrefixes, List.length_append, List.length_cons, length_hexBytes,
      hp p (List.mem_cons_self ..), length_questionOfPrefixes suffix ps fun q hq => hp q (List.mem_cons_of_mem _ hq),
      List.length_cons]
    omega

theorem hexBytes_two (x y : Nat) :
    hexBytes [x, y] = [hexNib ((x / 16) % 16), hexNib (x % 16), hexNib ((y / 16) % 16), hexNib (y % 16)] := rfl

theorem questionShape_of_prefixes {allowed : List Bytes} {suffix : Bytes} {ps : List Prefix} :
    ∀ fuel : Nat, 5 * ps.length ≤ fuel → (∀ p ∈ ps, p.length = 2 ∧ hexBytes p ∈ allowed) →
      questionShape allowed suffix fuel (questionOfPrefixes suffix ps) = true := by
  induction ps with
  | nil =>
    intro fuel _ _
    cases fuel with
    | zero => exact beq_self_eq_true suffix
    | succ f =>
      show (suffix == suffix || _) = true
      rw [beq_self_eq_true]
      rfl
  | cons p ps ih =>
    intro fuel hf hp
    obtain ⟨hl, hmem⟩ := hp p (List.mem_cons_self ..)
    match p, hl, hmem with
    | [x, y], _, hmem =>
      match fuel, hf with
      | f + 1, hf =>
        have ih' := ih f
          (Nat.le_of_succ_le_succ (Nat.le_trans (Nat.add_le_add_left (by decide : 1 ≤ 5) _) hf))
          (fun p' hp' => hp p' (List.mem_cons_of_mem _ hp'))
        rw [hexBytes_two] at hmem
        simp only [questionOfPrefixes, hexBytes_two, List.cons_append, List.nil_append, questionShape]
        simp [ih', hmem]

theorem length_prefix2 {h : Hash} (hl : h.length = 32) : (prefix2 h).length = 2 := by
  simp [prefix2, hl]

end AGH.C19
