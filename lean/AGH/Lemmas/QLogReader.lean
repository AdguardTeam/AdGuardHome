/-
C20, the multi-file reader: `qLogReader.ReadNext` in terms of the sequence of lines still
to be returned (`RPos`), and `qLogReader.seekTS` as a function on lines (`lineSeek`): which
lines the reads after a seek return, for ANY number of files and without assuming an order
across files.  This is the interface the C07 model assumes ("list of lines, newest first,
seek by timestamp"); what it gives for timestamps increasing across the files
(`GlobalCtx`) is derived from it.
-/
import AGH.Lemmas.QLogSeek
namespace AGH.C20
open AGH

/-- The file described by a `FileDesc` (what the harness writes to disk). -/
def fileOfDesc (d : FileDesc) : File :=
  File.ofBytes (if d.complete then render d.lines else (render d.lines).dropLast)

theorem readable_iff (d : FileDesc) :
    readable d = true ↔ d.complete = true ∧ ∀ l ∈ d.lines, lineOK l = true := by
  simp [readable, List.all_eq_true]

theorem fileOfDesc_readable (d : FileDesc) (h : readable d = true) :
    fileOfDesc d = fileOfLines d.lines := by
  have := ((readable_iff d).1 h).1
  simp [fileOfDesc, fileOfLines, this]

theorem getD_set_eq {α : Type} {l : List α} {i : Nat} {a d : α} (h : i < l.length) :
    (l.set i a).getD i d = a := by
  simp [List.getD_eq_getElem?_getD, h]

theorem getD_set_ne {α : Type} {l : List α} {i j : Nat} {a d : α} (h : i ≠ j) :
    (l.set i a).getD j d = l.getD j d := by
  simp [List.getD_eq_getElem?_getD, h]

theorem getD_set_some {α : Type} {l : List (Option α)} {k : Nat} {x : Option α} {rem : α}
    (h : (l.set k x).getD k none = some rem) : x = some rem := by
  by_cases hk : k < l.length
  · rwa [getD_set_eq hk] at h
  · rw [List.getD_eq_getElem?_getD,
      List.getElem?_eq_none (by rw [List.length_set]; exact Nat.le_of_not_lt hk)] at h
    cases h

theorem descs_getD (ds : List FileDesc) (k : Nat) (d : FileDesc) (hd : ds[k]? = some d) :
    ds.getD k {lines := []} = d := by
  simp [List.getD_eq_getElem?_getD, hd]

theorem files_getD_readable (ds : List FileDesc) (j : Nat) (d : FileDesc) (hd : ds[j]? = some d)
    (hr : readable d = true) : (ds.map fileOfDesc).getD j noFile = fileOfLines d.lines := by
  simp [List.getD_eq_getElem?_getD, hd, fileOfDesc_readable d hr]

theorem allRev_take_succ (ds : List FileDesc) (j : Nat) (d : FileDesc) (h : ds[j]? = some d) :
    allRev (ds.take (j + 1)) = d.lines.reverse ++ allRev (ds.take j) := by
  rw [List.take_add_one, h]
  simp [allRev, List.reverse_append]

/-- The reader is positioned so that the lines still to be returned are `rem`. -/
def RPos (P : Params) (ds : List FileDesc) (r : RState) (rem : List Bytes) : Prop :=
  (r.curN = 0 ∧ rem = []) ∨
  ∃ j d c, r.curN = j + 1 ∧ ds[j]? = some d ∧ FilePos P d.lines c (r.files.getD j {}) ∧
    rem = (d.lines.take c).reverse ++ allRev (ds.take j)

/-- The `Pos` of `Reads` for the multi-file reader; the length is what lets `files.set j q` be read
back when file `j` becomes the current one (`rrem_cur`). -/
def RRem (P : Params) (ds : List FileDesc) (r : RState) (rem : List Bytes) : Prop :=
  RPos P ds r rem ∧ r.files.length = ds.length

section
variable (P : Params) (ds : List FileDesc)

abbrev RReads (res : RState × Except Err (Nat × Nat × Nat)) (rem : List Bytes) : Prop :=
  Reads (RRem P ds) (fun x => ((ds.map fileOfDesc).getD x.1 noFile).slice x.2.1 x.2.2) res rem

/-- How `RRem` is established: file `j` becomes the current one, in a state that still has
`rem0` to return. -/
theorem rrem_cur (files : List QState) (j : Nat) (d : FileDesc) (q : QState) (rem0 : List Bytes)
    (hlen : files.length = ds.length) (hd : ds[j]? = some d) (hq : FileRem P d.lines q rem0) :
    RRem P ds ⟨files.set j q, j + 1⟩ (rem0 ++ allRev (ds.take j)) := by
  obtain ⟨c, hq, rfl⟩ := hq
  refine ⟨Or.inr ⟨j, d, c, rfl, hd, ?_, rfl⟩, by rw [List.length_set, hlen]⟩
  show FilePos P d.lines c ((files.set j q).getD j {})
  rw [getD_set_eq (hlen ▸ (List.getElem?_eq_some_iff.1 hd).1)]
  exact hq

theorem rrem_done (r : RState) (h0 : r.curN = 0) (hlen : r.files.length = ds.length) :
    RRem P ds r [] :=
  ⟨Or.inl ⟨h0, rfl⟩, hlen⟩

/-- File `j` after `SeekStart` becomes the current one: it and the older files owe all their lines. -/
theorem rrem_seekStart (hrd : ∀ d ∈ ds, readable d = true) (files : List QState) (j : Nat)
    (hj : j < ds.length) (hlen : files.length = ds.length) :
    RRem P ds ⟨files.set j (seekStart ((ds.map fileOfDesc).getD j noFile) (files.getD j {})), j + 1⟩
      (allRev (ds.take (j + 1))) := by
  have hd : ds[j]? = some ds[j] := List.getElem?_eq_getElem hj
  rw [allRev_take_succ ds j ds[j] hd, files_getD_readable ds j ds[j] hd (hrd _ (List.getElem_mem hj))]
  exact rrem_cur P ds files j ds[j] _ _ hlen hd (fileRem_seekStart P ds[j].lines _)

theorem rReadLoop_spec (hP1 : entryLimit ≤ P.maxEntry) (hP2 : P.maxEntry ≤ P.bufSize)
    (hrd : ∀ d ∈ ds, readable d = true) (j : Nat) (files : List QState) (rem : List Bytes)
    (h : RRem P ds ⟨files, j + 1⟩ rem) :
    RReads P ds (rReadLoop P (ds.map fileOfDesc) files (j + 1)) rem := by
  obtain ⟨⟨h, _⟩ | ⟨_, d, c, hcur, hd, hq, rfl⟩, hlen⟩ := h
  · cases h
  cases hcur
  have hrdd := hrd d (List.mem_of_getElem? hd)
  -- one `ReadNext` of file `j` against what it still owes, which decides the exit of the loop
  have hr := readNext_reads P d.lines hP1 hP2 ((readable_iff d).1 hrdd).2 _ _ ⟨c, hq, rfl⟩
  rw [← files_getD_readable ds j d hd hrdd] at hr
  generalize (d.lines.take c).reverse = rem0 at hr ⊢
  match rem0, j, hd, hr with
  | l :: rem0, j, hd, hr =>
    obtain ⟨q', x, h1, h2, h3⟩ := hr
    rw [rReadLoop, h1]
    exact ⟨_, (j, x), rfl, h2, rrem_cur P ds files j d q' rem0 hlen hd h3⟩
  | [], 0, _, hr =>
    obtain ⟨q', h1, _⟩ := hr
    rw [rReadLoop, h1]
    exact ⟨_, rfl, rrem_done P ds _ rfl (by rw [List.length_set, hlen])⟩
  | [], j + 1, hd, hr =>
    obtain ⟨q', h1, _⟩ := hr
    rw [rReadLoop, h1]
    -- file `j + 1` answers `io.EOF`; the loop goes on in file `j` after its `SeekStart`
    exact rReadLoop_spec hP1 hP2 hrd j _ _ (rrem_seekStart P ds hrd _ j
      (Nat.lt_of_succ_lt (List.getElem?_eq_some_iff.1 hd).1) (by rw [List.length_set, hlen]))

theorem rReadNext_reads (hP1 : entryLimit ≤ P.maxEntry) (hP2 : P.maxEntry ≤ P.bufSize)
    (hrd : ∀ d ∈ ds, readable d = true) (r : RState) (rem : List Bytes)
    (h : RRem P ds r rem) : RReads P ds (rReadNext P (ds.map fileOfDesc) r) rem := by
  unfold rReadNext
  rw [List.length_map]
  obtain ⟨files, cur⟩ := r
  rcases h.1 with ⟨h0, rfl⟩ | ⟨j, d, _, hcur, hd, _⟩
  · -- `currentFile` is -1, or there is no file
    cases h0
    by_cases hn : ds.length = 0
    · rw [if_pos hn]
      exact ⟨_, rfl, h⟩
    · rw [if_neg hn, rReadLoop]
      exact ⟨_, rfl, h⟩
  · cases hcur
    rw [if_neg (Nat.ne_of_gt (Nat.lt_of_le_of_lt (Nat.zero_le j) (List.getElem?_eq_some_iff.1 hd).1))]
    exact rReadLoop_spec P ds hP1 hP2 hrd j files rem h

theorem rReadMany_spec (hP1 : entryLimit ≤ P.maxEntry) (hP2 : P.maxEntry ≤ P.bufSize)
    (hrd : ∀ d ∈ ds, readable d = true) (n : Nat) (r : RState) (rem : List Bytes)
    (h : RRem P ds r rem) :
    ∃ r' xs, rReadMany P (ds.map fileOfDesc) n r [] =
        (r', xs, if n > rem.length then some Err.eof else none) ∧
      xs.map (fun x => ((ds.map fileOfDesc).getD x.1 noFile).slice x.2.1 x.2.2) = rem.take n ∧
      RRem P ds r' (rem.drop n) :=
  readMany_spec (rReadNext P (ds.map fileOfDesc)) (rReadMany P (ds.map fileOfDesc))
    (fun _ _ => rfl) (fun _ _ _ _ _ h => by rw [rReadMany, h]) (fun _ _ _ _ _ h => by rw [rReadMany, h])
    _ _ (rReadNext_reads P ds hP1 hP2 hrd) n r rem [] h

theorem rReadMany_eof (hP1 : entryLimit ≤ P.maxEntry) (hP2 : P.maxEntry ≤ P.bufSize)
    (hrd : ∀ d ∈ ds, readable d = true) (r : RState) (rem : List Bytes)
    (hpos : RRem P ds r rem) (n : Nat) (r' : RState) (xs : List (Nat × Nat × Nat))
    (h : rReadMany P (ds.map fileOfDesc) n r [] = (r', xs, some Err.eof)) :
    xs.map (fun x => ((ds.map fileOfDesc).getD x.1 noFile).slice x.2.1 x.2.2) = rem := by
  obtain ⟨r'', xs', h1, h2, _⟩ := rReadMany_spec P ds hP1 hP2 hrd n r rem hpos
  rw [h1, Prod.mk.injEq, Prod.mk.injEq] at h
  obtain ⟨_, rfl, he⟩ := h
  by_cases hn : n > rem.length
  · rw [h2, List.take_of_length_le (Nat.le_of_lt hn)]
  · rw [if_neg hn] at he
    cases he

end

/-- What a failed `seekTS` leaves: `r` with some buffers dropped. -/
def SameUpToBuf (r r' : RState) : Prop :=
  r'.curN = r.curN ∧ r'.files.length = r.files.length ∧
  ∀ k, (r'.files.getD k {}).position = (r.files.getD k {}).position ∧
    ((r'.files.getD k {}) = (r.files.getD k {}) ∨ (r'.files.getD k {}).hasBuf = false)

theorem SameUpToBuf.refl (r : RState) : SameUpToBuf r r :=
  ⟨rfl, rfl, fun _ => ⟨rfl, Or.inl rfl⟩⟩

theorem SameUpToBuf.trans {a b c : RState} (h1 : SameUpToBuf a b) (h2 : SameUpToBuf b c) :
    SameUpToBuf a c := by
  refine ⟨h2.1.trans h1.1, h2.2.1.trans h1.2.1, fun k => ?_⟩
  obtain ⟨p1, b1⟩ := h1.2.2 k
  obtain ⟨p2, b2⟩ := h2.2.2 k
  refine ⟨p2.trans p1, ?_⟩
  rcases b2 with h | h
  · rw [h]; exact b1
  · exact Or.inr h

theorem rpos_sameBuf (P : Params) (ds : List FileDesc) (r r' : RState) (rem : List Bytes)
    (h : RPos P ds r rem) (hs : SameUpToBuf r r') : RPos P ds r' rem := by
  rcases h with ⟨h0, hr⟩ | ⟨j, d, c, hcur, hd, hq, hrem⟩
  · exact Or.inl ⟨hs.1 ▸ h0, hr⟩
  · exact Or.inr ⟨j, d, c, hs.1 ▸ hcur, hd,
      filePos_sameBuf P hq (hs.2.2 j).1 (hs.2.2 j).2, hrem⟩

theorem sameUpToBuf_set (r : RState) (i : Nat) :
    SameUpToBuf r { r with files := r.files.set i { (r.files.getD i {}) with hasBuf := false } } := by
  refine ⟨rfl, by simp, fun k => ?_⟩
  by_cases hk : i = k
  · subst hk
    by_cases hi : i < r.files.length
    · show ((r.files.set i _).getD i {}).position = _ ∧ _
      rw [getD_set_eq hi]
      exact ⟨rfl, Or.inr rfl⟩
    · show ((r.files.set i _).getD i {}).position = _ ∧ _
      rw [List.set_eq_of_length_le (by omega)]
      exact ⟨rfl, Or.inl rfl⟩
  · show ((r.files.set i _).getD k {}).position = _ ∧ _
    rw [getD_set_ne hk]
    exact ⟨rfl, Or.inl rfl⟩

theorem findStampIdx_some (tsOf : Bytes → Int) (lines : List Bytes) (ts : Int) (i : Nat)
    (h : findStampIdx (lines.map tsOf) ts = some i) :
    ∃ hi : i < lines.length, tsOf lines[i] = ts := by
  unfold findStampIdx at h
  rw [List.findIdx?_eq_some_iff_getElem] at h
  obtain ⟨hi, h1, _⟩ := h
  simp only [List.length_map] at hi
  refine ⟨hi, ?_⟩
  simpa using h1

theorem findStampIdx_eq_none_iff (tsOf : Bytes → Int) (lines : List Bytes) (ts : Int) :
    findStampIdx (lines.map tsOf) ts = none ↔ ∀ l ∈ lines, tsOf l ≠ ts := by
  simp [findStampIdx, List.findIdx?_eq_none_iff]

/-- `qLogFile.seekTS` at line level: the index of the entry, or the report. -/
def lineSeekFile (tsOf : Bytes → Int) (lines : List Bytes) (t : Int) : Except Err Nat :=
  match findStampIdx (lines.map tsOf) t with
  | some k => .ok k
  | none => .error (absentErr tsOf t lines)

theorem lineSeekFile_ok (tsOf : Bytes → Int) (lines : List Bytes) (t : Int) (k : Nat)
    (h : lineSeekFile tsOf lines t = .ok k) : ∃ hk : k < lines.length, tsOf lines[k] = t := by
  unfold lineSeekFile at h
  split at h
  · next k' hf => cases h; exact findStampIdx_some tsOf lines t k hf
  · cases h

theorem lineSeekFile_error (tsOf : Bytes → Int) (lines : List Bytes) (t : Int) (e : Err)
    (h : lineSeekFile tsOf lines t = .error e) :
    (∀ l ∈ lines, tsOf l ≠ t) ∧ e = absentErr tsOf t lines := by
  unfold lineSeekFile at h
  split at h
  · cases h
  · next hf => cases h; exact ⟨(findStampIdx_eq_none_iff tsOf lines t).1 hf, rfl⟩

theorem lineSeekFile_absent (tsOf : Bytes → Int) (t : Int) (lines : List Bytes)
    (habs : ∀ l ∈ lines, tsOf l ≠ t) :
    lineSeekFile tsOf lines t = .error (absentErr tsOf t lines) := by
  unfold lineSeekFile
  rw [(findStampIdx_eq_none_iff tsOf lines t).2 habs]

theorem lineSeekFile_found (tsOf : Bytes → Int) (t : Int) (lines : List Bytes)
    (hs : lines.Pairwise (fun a b => tsOf a < tsOf b))
    (k : Nat) (hk : k < lines.length) (hts : tsOf lines[k] = t) :
    lineSeekFile tsOf lines t = .ok k := by
  unfold lineSeekFile findStampIdx
  rw [List.findIdx?_eq_some_iff_getElem.2 ⟨by simpa using hk, by simpa using hts, fun j hj => by
    have := List.pairwise_iff_getElem.1 hs j k (Nat.lt_trans hj hk) hk hj
    simp only [List.getElem_map, beq_iff_eq]
    omega⟩]

/-- `qLogReader.seekTS` at line level over files `i-1 … 0`: the lines the following reads return
(`none`: an error is reported and nothing moves; no files at all: success with nothing to read). -/
def lineSeek (tsOf : Bytes → Int) (ds : List FileDesc) (t : Int) : Nat → Option (List Bytes)
  | 0 => if ds = [] then some [] else none
  | i + 1 =>
    match lineSeekFile tsOf (ds.getD i {lines := []}).lines t with
    | .ok k => some (fromEntry ds i k)
    | .error .tooEarly => lineSeek tsOf ds t i
    | .error .tooLate => some (allRev ds)
    | .error _ => none

/-- What the refinement assumes of every file; nothing across files. -/
structure FilesCtx (tsOf : Bytes → Int) (ds : List FileDesc) : Prop where
  rd : ∀ d ∈ ds, readable d = true
  ctx : ∀ d ∈ ds, SeekCtx tsOf d.lines
  small : ∀ d ∈ ds, (render d.lines).length < 2 ^ 63

/-- The result `res` of a seek from `r` agrees with the line-level answer (`lineSeek`). -/
def SeeksTo (P : Params) (ds : List FileDesc) (r : RState) (res : RState × Except Err Unit) :
    Option (List Bytes) → Prop
  | some rem => ∃ r', res = (r', .ok ()) ∧ RRem P ds r' rem
  | none => ∃ r', res = (r', .error .notFound) ∧ SameUpToBuf r r'

theorem SeeksTo.from {P : Params} {ds : List FileDesc} {r0 r : RState} {res} {ans}
    (h0 : SameUpToBuf r0 r) (h : SeeksTo P ds r res ans) : SeeksTo P ds r0 res ans := by
  cases ans with
  | some rem => exact h
  | none => obtain ⟨r', h1, h2⟩ := h; exact ⟨r', h1, h0.trans h2⟩

section
variable (P : Params) (tsOf : Bytes → Int) (t : Int) (ds : List FileDesc)

/-- `h0`: with no file `rSeekStart` leaves `currentFile` alone, and `RPos P [] r rem` holds only
of `curN = 0` (Go's `-1`, where `rInit 0` starts). -/
theorem rSeekStart_rrem (r : RState) (hlen : r.files.length = ds.length)
    (hrd : ∀ d ∈ ds, readable d = true) (h0 : ds = [] → r.curN = 0) :
    RRem P ds (rSeekStart (ds.map fileOfDesc) r) (allRev ds) := by
  unfold rSeekStart
  rw [List.length_map]
  cases hn : ds.length with
  | zero =>
    cases List.eq_nil_of_length_eq_zero hn
    exact rrem_done P [] r (h0 rfl) hlen
  | succ n =>
    have := rrem_seekStart P ds hrd r.files n (hn ▸ Nat.lt_succ_self n) hlen
    rwa [List.take_of_length_le (Nat.le_of_eq hn)] at this

theorem rSeekLoop_seeksTo (hP1 : entryLimit ≤ P.maxEntry) (g : FilesCtx tsOf ds) :
    ∀ (i : Nat) (r : RState), i ≤ ds.length → r.files.length = ds.length → (ds = [] → r.curN = 0) →
      SeeksTo P ds r (rSeekLoop P (ds.map fileOfDesc) tsOf t i r) (lineSeek tsOf ds t i) := by
  intro i
  induction i with
  | zero =>
    intro r _ hlen h0
    rw [rSeekLoop, lineSeek, List.length_map]
    by_cases hne : ds = []
    · rw [if_pos hne, if_pos (hne ▸ rfl)]
      exact ⟨r, rfl, rrem_done P ds r (h0 hne) hlen⟩
    · rw [if_neg hne, if_neg (fun h => hne (List.eq_nil_of_length_eq_zero h))]
      exact ⟨r, rfl, SameUpToBuf.refl r⟩
  | succ i ih =>
    intro r hile hlen h0
    have hilt : i < ds.length := hile
    let d := ds[i]
    have hd : ds[i]? = some d := List.getElem?_eq_getElem hilt
    have hdm : d ∈ ds := List.getElem_mem hilt
    have hgd : ds.getD i {lines := []} = d := descs_getD ds i d hd
    have hfs := files_getD_readable ds i d hd (g.rd d hdm)
    have hsame := sameUpToBuf_set r i
    rw [rSeekLoop, hfs, lineSeek, hgd]
    cases hf : lineSeekFile tsOf d.lines t with
    | ok k =>
      obtain ⟨hk, hts⟩ := lineSeekFile_ok tsOf d.lines t k hf
      obtain ⟨dd, _, hseek⟩ := seekTS_found P tsOf t d.lines hP1 (g.ctx d hdm) (g.small d hdm) k hk hts
        (r.files.getD i {})
      rw [hseek]
      refine ⟨_, rfl, ?_⟩
      unfold fromEntry
      rw [hgd]
      exact rrem_cur P ds r.files i d _ _ hlen hd (fileRem_seek P d.lines k hk _)
    | error e =>
      obtain ⟨habs, rfl⟩ := lineSeekFile_error tsOf d.lines t e hf
      rw [seekTS_absent P tsOf t d.lines hP1 (g.ctx d hdm).le (g.small d hdm) habs (r.files.getD i {})]
      rcases absentErr_cases tsOf t d.lines with he | ⟨he, _⟩ | he <;> rw [he]
      · exact (ih { r with files := r.files.set i _ } (Nat.le_of_lt hilt) (by simp [hlen]) h0).from hsame
      · exact ⟨_, rfl, rSeekStart_rrem P ds { r with files := r.files.set i _ } (by simp [hlen]) g.rd h0⟩
      · exact ⟨_, rfl, hsame⟩

theorem rSeekTS_seeksTo (hP1 : entryLimit ≤ P.maxEntry) (g : FilesCtx tsOf ds) (r : RState)
    (hlen : r.files.length = ds.length) (h0 : ds = [] → r.curN = 0) :
    SeeksTo P ds r (rSeekTS P (ds.map fileOfDesc) tsOf r t) (lineSeek tsOf ds t ds.length) := by
  unfold rSeekTS
  rw [List.length_map]
  exact rSeekLoop_seeksTo P tsOf t ds hP1 g ds.length r (Nat.le_refl _) hlen h0

theorem rSeekTS_lineSeek (hP1 : entryLimit ≤ P.maxEntry) (hP2 : P.maxEntry ≤ P.bufSize)
    (g : FilesCtx tsOf ds) (r : RState) (hlen : r.files.length = ds.length)
    (h0 : ds = [] → r.curN = 0) :
    (∀ rem, lineSeek tsOf ds t ds.length = some rem →
      ∃ r1, rSeekTS P (ds.map fileOfDesc) tsOf r t = (r1, .ok ()) ∧
        ∀ n, ∃ r' xs, rReadMany P (ds.map fileOfDesc) n r1 [] =
            (r', xs, if n > rem.length then some Err.eof else none) ∧
          xs.map (fun x => ((ds.map fileOfDesc).getD x.1 noFile).slice x.2.1 x.2.2) = rem.take n) ∧
    (lineSeek tsOf ds t ds.length = none →
      ∃ r', rSeekTS P (ds.map fileOfDesc) tsOf r t = (r', .error .notFound) ∧ SameUpToBuf r r') := by
  have hs := rSeekTS_seeksTo P tsOf t ds hP1 g r hlen h0
  refine ⟨fun rem hrem => ?_, fun hn => ?_⟩
  · rw [hrem] at hs
    obtain ⟨r1, h3, h4⟩ := hs
    refine ⟨r1, h3, fun n => ?_⟩
    obtain ⟨r', xs, h5, h6, _⟩ := rReadMany_spec P ds hP1 hP2 g.rd n r1 rem h4
    exact ⟨r', xs, h5, h6⟩
  · rw [hn] at hs
    exact hs

/-- Line files whose timestamps are non-zero and strictly increasing across the
whole sequence rotated → current. -/
structure GlobalCtx : Prop where
  rd : ∀ d ∈ ds, readable d = true
  nz : ∀ d ∈ ds, ∀ l ∈ d.lines, tsOf l ≠ 0
  sorted : (ds.flatMap (fun d => d.lines)).Pairwise (fun a b => tsOf a < tsOf b)
  small : ∀ d ∈ ds, (render d.lines).length < 2 ^ 63

variable {tsOf} {ds} in
theorem GlobalCtx.file (g : GlobalCtx tsOf ds) (d : FileDesc) (hd : d ∈ ds) : SeekCtx tsOf d.lines :=
  ⟨((readable_iff d).1 (g.rd d hd)).2, g.nz d hd, (List.pairwise_flatMap.1 g.sorted).1 d hd⟩

variable {tsOf} {ds} in
theorem GlobalCtx.cross (g : GlobalCtx tsOf ds) (j j' : Nat) (d d' : FileDesc)
    (hd : ds[j]? = some d) (hd' : ds[j']? = some d') (hjj : j < j') :
    ∀ a ∈ d.lines, ∀ b ∈ d'.lines, tsOf a < tsOf b := by
  obtain ⟨hj, rfl⟩ := List.getElem?_eq_some_iff.1 hd
  obtain ⟨hj', rfl⟩ := List.getElem?_eq_some_iff.1 hd'
  exact List.pairwise_iff_getElem.1 (List.pairwise_flatMap.1 g.sorted).2 j j' hj hj' hjj

theorem lineSeek_absent (habs : ∀ d ∈ ds, ∀ l ∈ d.lines, tsOf l ≠ t) :
    ∀ i, i ≤ ds.length → lineSeek tsOf ds t i = none ∨
      (lineSeek tsOf ds t i = some (allRev ds) ∧
        (ds = [] ∨ ∃ d ∈ ds, d.lines ≠ [] ∧ ∀ l ∈ d.lines, tsOf l < t)) := by
  intro i
  induction i with
  | zero =>
    intro _
    by_cases hne : ds = []
    · subst hne; exact Or.inr ⟨rfl, Or.inl rfl⟩
    · exact Or.inl (by simp [lineSeek, hne])
  | succ i ih =>
    intro hi
    have hd : ds[i]? = some ds[i] := List.getElem?_eq_getElem hi
    have hdm : ds[i] ∈ ds := List.getElem_mem hi
    rw [lineSeek, descs_getD ds i ds[i] hd, lineSeekFile_absent tsOf t _ (habs _ hdm)]
    rcases absentErr_cases tsOf t ds[i].lines with he | ⟨he, hlate⟩ | he
    · rw [he]
      exact ih (Nat.le_of_succ_le hi)
    · rw [he]
      exact Or.inr ⟨rfl, Or.inr ⟨ds[i], hdm, hlate⟩⟩
    · rw [he]
      exact Or.inl rfl

/-- Every newer file reports too-early, file `j` finds it. -/
theorem lineSeek_found (g : GlobalCtx tsOf ds) (j k : Nat) (d : FileDesc) (hd : ds[j]? = some d)
    (hk : k < d.lines.length) (hts : tsOf d.lines[k] = t) :
    ∀ i, j < i → i ≤ ds.length → lineSeek tsOf ds t i = some (fromEntry ds j k) := by
  intro i
  induction i with
  | zero => intro h; exact absurd h (Nat.not_lt_zero j)
  | succ i ih =>
    intro hji hi
    rcases Nat.lt_or_eq_of_le (Nat.le_of_lt_succ hji) with hlt | rfl
    · have hd' : ds[i]? = some ds[i] := List.getElem?_eq_getElem hi
      have hgt : ∀ l ∈ ds[i].lines, t < tsOf l := fun l hl =>
        hts ▸ g.cross j i d ds[i] hd hd' hlt _ (List.getElem_mem hk) l hl
      rw [lineSeek, descs_getD ds i ds[i] hd',
        lineSeekFile_absent tsOf t _ (fun l hl => (Int.ne_of_lt (hgt l hl)).symm),
        absentErr_tooEarly tsOf t _ hgt]
      exact ih hlt (Nat.le_of_succ_le hi)
    · rw [lineSeek, descs_getD ds j d hd, lineSeekFile_found tsOf t _
        (g.file d (List.mem_of_getElem? hd)).sorted k hk hts]

variable {tsOf} {ds} in
theorem GlobalCtx.filesCtx (g : GlobalCtx tsOf ds) : FilesCtx tsOf ds :=
  ⟨g.rd, g.file, g.small⟩

end

theorem rSeekStart_length (fs : List File) (r : RState) :
    (rSeekStart fs r).files.length = r.files.length := by
  unfold rSeekStart
  split <;> simp

theorem rReadLoop_length (P : Params) (fs : List File) (c : Nat) (files : List QState) :
    (rReadLoop P fs files c).1.files.length = files.length := by
  -- no file left; a line read; file 0 (the oldest) gives none: the end; a newer file gives none: the next older from its start
  fun_induction rReadLoop P fs files c with
  | case1 => rfl
  | case2 => exact List.length_set
  | case3 => exact List.length_set
  | case4 files q _ c' _ files1 files2 ih =>
    rw [ih]
    exact List.length_set.trans List.length_set

theorem rReadNext_length (P : Params) (fs : List File) (r : RState) :
    (rReadNext P fs r).1.files.length = r.files.length := by
  unfold rReadNext
  split
  · rfl
  · exact rReadLoop_length P fs _ _

theorem rReadMany_length (P : Params) (fs : List File) (n : Nat) (r : RState)
    (acc : List (Nat × Nat × Nat)) :
    (rReadMany P fs n r acc).1.files.length = r.files.length := by
  fun_induction rReadMany P fs n r acc with
  | case1 => rfl
  | case2 n r acc r' x heq ih => rw [ih, ← rReadNext_length P fs r, heq]
  | case3 n r acc r' e heq => rw [← rReadNext_length P fs r, heq]

theorem rSeekLoop_length (P : Params) (fs : List File) (tsOf : Bytes → Int) (target : Int)
    (i : Nat) (r : RState) :
    (rSeekLoop P fs tsOf target i r).1.files.length = r.files.length := by
  -- no file left to try; found in file `i`; too early for it: the next older file; too late: `rSeekStart`; another error: final
  fun_induction rSeekLoop P fs tsOf target i r with
  | case1 => rfl
  | case2 => exact List.length_set
  | case3 i r q r1 _ ih => rw [ih]; exact List.length_set
  | case4 => rw [rSeekStart_length]; exact List.length_set
  | case5 => exact List.length_set

end AGH.C20
