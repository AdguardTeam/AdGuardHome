/-
Helper lemmas for C16: what the label test, the server-name extraction and the
DoH-path extraction compute, in the vocabulary of the spec (`sni_char`, `path_char`); the
server-name extraction meets the spec's three SNI clauses (`fromSNI_meets_sni_clauses`,
`specOK_fromSNI`); what `handleBefore` returns and leaves in the cache (`handleBefore_view`).
-/
import AGH.Spec.ClientID
import AGH.Lemmas.Bytes

namespace AGH.C16
open AGH AGH.Bytes

theorem isOuter_lowerB (b : Nat) : isOuter (lowerB b) = isOuter b := isAlnumB_lowerB b

theorem isInner_lowerB (b : Nat) : isInner (lowerB b) = isInner b := by
  rw [isInner, isInner, isOuter_lowerB, lowerB_beq dash rfl rfl]

theorem isInner_of_isOuter {b : Nat} (h : isOuter b = true) : isInner b = true := by
  rw [isInner, h, Bool.or_true]

theorem validLabel_snoc (a z : Nat) (m : Bytes) :
    validLabel (a :: (m ++ [z])) =
      (decide (m.length + 2 ≤ 63) && isOuter a && m.all isInner && isOuter z) := by
  cases m with
  | nil => simp [validLabel]
  | cons x m' =>
    simp only [validLabel, List.cons_append, List.length_cons, List.length_append, List.length_nil]
    rw [← List.cons_append, List.dropLast_concat, List.getLast?_concat]

theorem validLabel_lower (l : Bytes) : validLabel (lower l) = validLabel l := by
  cases l with
  | nil => rfl
  | cons a rest =>
    rcases List.eq_nil_or_concat rest with rfl | ⟨m, z, rfl⟩
    · exact isOuter_lowerB a
    · rw [List.concat_eq_append, lower, List.map_cons, List.map_append, List.map_singleton,
        validLabel_snoc, validLabel_snoc, List.length_map, List.all_map, isOuter_lowerB, isOuter_lowerB,
        show isInner ∘ lowerB = isInner from funext isInner_lowerB]

theorem validLabel_all_inner (l : Bytes) (h : validLabel l = true) : ∀ b ∈ l, isInner b = true := by
  cases l with
  | nil => cases h
  | cons a rest =>
    rcases List.eq_nil_or_concat rest with rfl | ⟨m, z, rfl⟩
    · intro b hb
      rw [List.mem_singleton.mp hb]
      exact isInner_of_isOuter h
    · rw [List.concat_eq_append] at h ⊢
      rw [validLabel_snoc] at h
      simp only [Bool.and_eq_true, List.all_eq_true] at h
      obtain ⟨⟨⟨_, ha⟩, hm⟩, hz⟩ := h
      intro b hb
      rcases List.mem_cons.mp hb with rfl | hb
      · exact isInner_of_isOuter ha
      · rcases List.mem_append.mp hb with hb | hb
        · exact hm b hb
        · rw [List.mem_singleton.mp hb]
          exact isInner_of_isOuter hz

theorem not_valid_of_slash (l : Bytes) (h : slash ∈ l) : validLabel l = false := by
  cases hv : validLabel l with
  | false => rfl
  | true =>
    have := validLabel_all_inner l hv slash h
    revert this; decide

theorem length_sub_suffix (l t : Bytes) : (l ++ dot :: t).length - t.length - 1 = l.length := by
  simp only [List.length_append, List.length_cons, Nat.sub_sub, Nat.add_sub_cancel]

theorem stripDotSuffix_iff {s h l : Bytes} : stripDotSuffix s h = some l ↔ s = l ++ dot :: h := by
  unfold stripDotSuffix
  constructor
  · intro hs
    split at hs
    · next hc =>
      cases hs
      have := List.take_append_drop (s.length - h.length - 1) s
      rw [hc.2] at this
      exact this.symm
    · cases hs
  · rintro rfl
    rw [length_sub_suffix]
    simp

theorem isSubdomain_iff (d t : Bytes) :
    isSubdomain d t = true ↔ ∃ l, l ≠ [] ∧ d = l ++ dot :: t := by
  unfold isSubdomain hasSuffix
  simp only [Bool.and_eq_true, decide_eq_true_eq, List.isSuffixOf_iff_suffix, beq_iff_eq]
  constructor
  · rintro ⟨⟨hlen, p, rfl⟩, hdot⟩
    -- the byte before the suffix `t` is the last one of `p`
    have hi : (p ++ t).length - t.length - 1 = p.length - 1 := by simp
    rw [hi, List.getElem?_append_left (by simp at hlen; omega), ← List.getLast?_eq_getElem?,
      List.getLast?_eq_some_iff] at hdot
    obtain ⟨l, rfl⟩ := hdot
    refine ⟨l, ?_, by simp⟩
    rintro rfl
    simp at hlen
  · rintro ⟨l, hl, rfl⟩
    have hlen := List.length_pos_iff.mpr hl
    refine ⟨⟨by simp; omega, l ++ [dot], by simp⟩, ?_⟩
    rw [length_sub_suffix]
    simp

theorem isImmediateSubdomain_iff (d t : Bytes) :
    isImmediateSubdomain d t = true ↔ ∃ l, l ≠ [] ∧ dot ∉ l ∧ d = l ++ dot :: t := by
  unfold isImmediateSubdomain
  rw [Bool.and_eq_true, isSubdomain_iff, beq_iff_eq]
  constructor
  · rintro ⟨⟨l, hl, rfl⟩, hc⟩
    rw [List.count_append, List.count_cons_self] at hc
    exact ⟨l, hl, List.count_eq_zero.mp (by omega), rfl⟩
  · rintro ⟨l, hl, hd, rfl⟩
    refine ⟨⟨l, hl, rfl⟩, ?_⟩
    rw [List.count_append, List.count_cons_self, List.count_eq_zero_of_not_mem hd]; omega

theorem sni_char (h c : Bytes) (s : Bool) :
    clientIDFromServerName h c s =
      if h = c then .ok []
      else match stripDotSuffix c h with
        | some l =>
          if l ≠ [] ∧ dot ∉ l then (if validLabel l then .ok (lower l) else .error .badLabel)
          else (if s then .error .sniMismatch else .ok [])
        | none => if s then .error .sniMismatch else .ok [] := by
  unfold clientIDFromServerName
  by_cases hhc : h = c
  · rw [if_pos hhc, if_pos hhc]
  rw [if_neg hhc, if_neg hhc]
  have hstrict : (if (!s) = true then (.ok [] : Except Err Bytes) else .error .sniMismatch) =
      if s = true then .error .sniMismatch else .ok [] := by cases s <;> rfl
  by_cases himm : isImmediateSubdomain c h = true
  · obtain ⟨l, hl, hd, rfl⟩ := (isImmediateSubdomain_iff c h).mp himm
    rw [stripDotSuffix_iff.mpr rfl, himm, length_sub_suffix, List.take_left]
    simp only [Bool.not_true, Bool.false_eq_true, if_false]
    rw [if_pos (And.intro hl hd)]
  · have hno : ∀ l, stripDotSuffix c h = some l → ¬ (l ≠ [] ∧ dot ∉ l) := fun l hs hl =>
      himm ((isImmediateSubdomain_iff c h).mpr ⟨l, hl.1, hl.2, stripDotSuffix_iff.mp hs⟩)
    rw [Bool.not_eq_true] at himm
    rw [himm]
    simp only [Bool.not_false, if_true, hstrict]
    cases hs : stripDotSuffix c h with
    | none => rfl
    | some l => simp only [if_neg (hno l hs)]

theorem ctx_sni (c : Ctx) (h : c.proto = .tls ∨ c.proto = .quic) : clientIDFromCtx c = fromSNI c := by
  rcases h with h | h <;> simp only [clientIDFromCtx, h]

theorem ctx_congr {c c' : Ctx} (hp : c.proto = c'.proto) (hpath : c.path = c'.path)
    (hcs : clientServerName c = clientServerName c') (hh : c.hostSrvName = c'.hostSrvName)
    (hst : c.strict = c'.strict) : clientIDFromCtx c = clientIDFromCtx c' := by
  unfold clientIDFromCtx fromSNI
  rw [hp, hpath, hcs, hh, hst]

theorem lower_ne_nil {l : Bytes} (h : l ≠ []) : lower l ≠ [] := mt lower_eq_nil.1 h

theorem validLabel_ne_nil {l : Bytes} (h : validLabel l = true) : l ≠ [] := by
  rintro rfl
  cases h

theorem fromSNI_meets_sni_clauses (c : Ctx) :
    match fromSNI c with
    | .ok id =>
      if id ≠ [] then sniIdOK c.hostSrvName (clientServerName c) id = true
      else sniNobodyOK c.hostSrvName c.strict (clientServerName c) = true
    | .error _ => sniErrOK c.hostSrvName c.strict (clientServerName c) = true := by
  unfold fromSNI
  generalize c.hostSrvName = host, c.strict = strict, clientServerName c = cs
  by_cases hh : host = []
  · simp [hh, sniNobodyOK]
  · cases cs with
    | error e => simp [hh, sniErrOK]
    | ok cli =>
      simp only [hh, if_false, sni_char]
      by_cases hc : host = cli
      · simp [hc, sniNobodyOK]
      · cases hs : stripDotSuffix cli host with
        | none => cases strict <;> simp [hh, hc, hs, Ne.symm hc, sniNobodyOK, sniErrOK]
        | some l =>
          by_cases hl : l ≠ [] ∧ dot ∉ l
          · by_cases hv : validLabel l = true
            · simp [hh, hc, hs, hl, hv, sniIdOK, idOf, lower_ne_nil hl.1]
            · simp [hh, hc, hs, hl, hv, Ne.symm hc, sniErrOK]
          · cases strict <;> simp [hh, hc, hs, hl, Ne.symm hc, sniNobodyOK, sniErrOK]

/-- The spec asks of a failure only that there is one, so `E2E.servfailHasReason` may test
`.error .badLabel` for every error. -/
theorem specOK_error_irrel (c : Ctx) (e e' : Err) : specOK c (.error e) = specOK c (.error e') := rfl

theorem specOK_fromSNI (c : Ctx) (hcap : sniCapable c.proto = true)
    (hpath : c.proto = .https → ∃ p, c.path = some p ∧ pathLabel p = none) :
    specOK c (fromSNI c) = true := by
  have hsni := fromSNI_meets_sni_clauses c
  unfold specOK
  rw [hcap]
  cases hr : fromSNI c with
  | error e => rw [hr] at hsni; simp [hsni]
  | ok id =>
    rw [hr] at hsni
    by_cases hid : id = []
    · -- nobody: the path clause holds since no label is present
      subst hid
      simp only [ne_eq, not_true_eq_false, if_false] at hsni
      cases hp : c.proto
      case https =>
        obtain ⟨p, h1, h2⟩ := hpath hp
        simp [h1, h2, hsni]
      all_goals simp [hsni]
    · simp only [hid, ne_eq, not_false_eq_true, if_true] at hsni
      simp [hid, hsni]

theorem pathLabel_some {p l : Bytes} : pathLabel p = some l →
    pathClean p = slash :: dnsQuery ++ slash :: l ∨ pathClean p = dnsQuery ++ slash :: l := by
  fun_cases pathLabel p with
  | case1 c pre1 hp =>
    obtain ⟨t, ht⟩ := List.isPrefixOf_iff_prefix.mp hp
    rw [← ht, List.drop_left]
    intro h
    cases h
    exact Or.inl (ht.symm.trans (by simp [pre1]))
  | case2 c pre1 pre2 _ hp =>
    obtain ⟨t, ht⟩ := List.isPrefixOf_iff_prefix.mp hp
    rw [← ht, List.drop_left]
    intro h
    cases h
    exact Or.inr (ht.symm.trans (by simp [pre2]))
  | case3 => intro h; cases h

theorem slash_not_mem_dnsQuery : slash ∉ dnsQuery := by decide

/-- The part of `clientIDFromPath` after the split, as a function of the parts
that follow `dns-query`. -/
def afterDnsQuery (rest : List Bytes) : Except Err Bytes :=
  match rest with
  | [] => .ok []
  | [id] => if validLabel id then .ok (lower id) else .error .badLabel
  | _ => .error .extraParts

theorem afterDnsQuery_split (t : Bytes) :
    afterDnsQuery (splitOn slash t) =
      if slash ∈ t then .error .extraParts
      else if validLabel t then .ok (lower t) else .error .badLabel := by
  obtain ⟨a, ha, ⟨h, hs⟩ | ⟨u, h, hs⟩⟩ := splitOn_view slash t <;> subst h <;> rw [hs]
  · rw [if_neg ha]; rfl
  · cases hu : splitOn slash u with
    | nil => exact absurd hu (splitOn_ne_nil _ _)
    | cons x xs => simp [afterDnsQuery]

/-- What `clientIDFromPath` makes of the parts of the cleaned path once a
leading empty part (rooted path) is dropped. -/
def fromParts : List Bytes → Except Err Bytes
  | [] => .error .badPath
  | first :: rest => if first ≠ dnsQuery then .error .badPath else afterDnsQuery rest

theorem fromParts_split (c : Bytes) :
    fromParts (splitOn slash c) =
      if (dnsQuery ++ [slash]).isPrefixOf c then
        (if slash ∈ c.drop (dnsQuery ++ [slash]).length then .error .extraParts
         else if validLabel (c.drop (dnsQuery ++ [slash]).length) then
           .ok (lower (c.drop (dnsQuery ++ [slash]).length))
         else .error .badLabel)
      else if c = dnsQuery then .ok [] else .error .badPath := by
  split
  · next hp =>
    obtain ⟨t, rfl⟩ := List.isPrefixOf_iff_prefix.mp hp
    rw [List.drop_left, List.append_assoc, List.singleton_append,
      splitOn_free_sep _ _ _ slash_not_mem_dnsQuery]
    simp only [fromParts, ne_eq, not_true_eq_false, if_false]
    exact afterDnsQuery_split t
  · next hp =>
    rw [List.isPrefixOf_iff_prefix] at hp
    obtain ⟨a, ha, ⟨h, hs⟩ | ⟨t, h, hs⟩⟩ := splitOn_view slash c <;> subst h <;> rw [hs]
    · by_cases hc : c = dnsQuery <;> simp [fromParts, hc, afterDnsQuery]
    · -- the first part is not `dns-query`: else `c` would begin with `dns-query/`
      have hd : a ≠ dnsQuery := fun h => hp ⟨t, by rw [h, List.append_assoc]; rfl⟩
      have hne : a ++ slash :: t ≠ dnsQuery := fun h => slash_not_mem_dnsQuery (h ▸ by simp)
      simp [fromParts, hd, hne]

theorem path_char (p : Bytes) :
    clientIDFromPath p =
      match pathLabel p with
      | some l =>
        if slash ∈ l then .error .extraParts
        else if validLabel l then .ok (lower l) else .error .badLabel
      | none =>
        if pathClean p = slash :: dnsQuery ∨ pathClean p = dnsQuery then .ok [] else .error .badPath := by
  show fromParts (match splitOn slash (pathClean p) with | [] :: rest => rest | ps => ps) = _
  unfold pathLabel
  generalize pathClean p = c
  dsimp only
  cases c with
  | nil => rfl
  | cons b bs =>
    by_cases hb : b = slash
    · -- rooted: the parts are those of what follows the slash
      subst hb
      have hs := splitOn_cons_sep slash bs
      have h1 : (slash :: dnsQuery ++ [slash]).isPrefixOf (slash :: bs) =
          (dnsQuery ++ [slash]).isPrefixOf bs := rfl
      have hq : (slash :: bs = slash :: dnsQuery ∨ slash :: bs = dnsQuery) ↔ bs = dnsQuery := by
        simp [dnsQuery, slash]
      rw [hs, h1]
      simp only [hq]
      rw [fromParts_split]
      cases (dnsQuery ++ [slash]).isPrefixOf bs <;> rfl
    · -- relative: the first part is not empty
      have hs : (match splitOn slash (b :: bs) with | [] :: rest => rest | ps => ps) =
          splitOn slash (b :: bs) := by
        unfold splitOn
        rw [if_neg hb]
        cases splitOn slash bs <;> rfl
      have h1 : (slash :: dnsQuery ++ [slash]).isPrefixOf (b :: bs) = false := by
        simp [List.isPrefixOf, Ne.symm hb]
      have hq : (b :: bs = slash :: dnsQuery ∨ b :: bs = dnsQuery) ↔ b :: bs = dnsQuery := by
        simp [hb]
      rw [hs, h1, fromParts_split]
      simp only [hq]
      cases (dnsQuery ++ [slash]).isPrefixOf (b :: bs) <;> rfl

theorem Cache.get_set (c : Cache) (r : Nat) (id : Bytes) : (c.set r id).get r = id := by
  simp [Cache.set, Cache.get]

theorem Cache.get_del (c : Cache) (r : Nat) : (c.del r).get r = [] := by
  unfold Cache.get Cache.del
  cases h : List.find? (fun x => x.1 == r) (List.filter (fun x => x.1 != r) c) with
  | none => rfl
  | some p =>
    have h1 := List.find?_some h
    have h2 := List.mem_of_find?_eq_some h
    simp at h2
    simp at h1
    exact absurd h1 h2.2

theorem handleBefore_view (c : Cache) (r : Nat) (ctx : Ctx) :
    (handleBefore c r ctx).2 = clientIDFromCtx ctx ∧
      ∀ id, clientIDFromCtx ctx = .ok id → attributed (handleBefore c r ctx).1 r = id := by
  unfold handleBefore
  cases clientIDFromCtx ctx with
  | error e => exact ⟨rfl, fun id h => nomatch h⟩
  | ok id' =>
    dsimp only
    by_cases hid : id' = []
    · subst hid
      exact ⟨rfl, fun id h => by cases h; exact Cache.get_del c r⟩
    · rw [if_pos hid]
      exact ⟨rfl, fun id h => by cases h; exact Cache.get_set c r id'⟩

end AGH.C16
