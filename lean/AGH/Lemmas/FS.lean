/-
The file system as a machine.  A settled path names an inode that is `Frozen`; if that
inode is still frozen at the crash, a crash that brings back an earlier entry of `dest`
finds the version installed then (`settled_crashIn`).  `Effect` lists what a syscall can
do, and the rest is read off it: no syscall but an in-place open touches a frozen inode
(`frozen_step`), and a syscall that does not name `dest` leaves a settled `dest` settled
(the frame, `step_safe`).  A rename onto `dest` of a file that is complete, synced and
closed leaves it settled at that file's content (`rename_settles`).  `runAbort` stops at
the first error, `run` skips what fails; `performed` turns an instant of the first into
an instant of the second.  A trace made of frame steps and such renames, a `GoodTrace`,
keeps `dest` settled at every instant (`goodTrace_settled`).
-/
import AGH.Spec.Crash
namespace AGH.C14

@[simp] theorem upd_same {α : Type} [DecidableEq α] {β : Type} (f : α → β) (a : α) (b : β) :
    upd f a b a = b := by simp [upd]

theorem upd_ne {α : Type} [DecidableEq α] {β : Type} (f : α → β) {a x : α} (b : β) (h : x ≠ a) :
    upd f a b x = f x := by simp [upd, h]

theorem upd_some_cases {α : Type} [DecidableEq α] {β : Type} {f : α → Option β} {a x : α}
    {b : Option β} {v : β} (h : upd f a b x = some v) :
    (x = a ∧ b = some v) ∨ (x ≠ a ∧ f x = some v) := by
  unfold upd at h
  split at h
  · exact Or.inl ⟨‹x = a›, h⟩
  · exact Or.inr ⟨‹¬x = a›, h⟩

theorem upd_fds_some {f : Nat → Option (Nat × Nat)} {fd j o : Nat} (fd' i off : Nat)
    (h : upd f fd (some (j, o)) fd' = some (i, off)) : i = j ∨ f fd' = some (i, off) := by
  rcases upd_some_cases h with ⟨_, h⟩ | ⟨_, h⟩
  · cases h; exact Or.inl rfl
  · exact Or.inr h

def Frozen (s : FS) (i : Nat) (c : Content) : Prop :=
  s.cache i = c ∧ s.disk i = c ∧ s.dirty i = false ∧ ∀ fd off, s.fds fd ≠ some (i, off)

/-- `Settled … (some c)` and `TmpReady` are one formula: the path names a frozen inode. -/
theorem settled_some_iff {s : FS} {p : Path} {c : Content} :
    Settled s p (some c) ↔ ∃ i, s.names p = some i ∧ Frozen s i c :=
  Iff.rfl

theorem tmpReady_iff {s : FS} {p : Path} {c : Content} :
    TmpReady s p c ↔ ∃ i, s.names p = some i ∧ Frozen s i c :=
  Iff.rfl

theorem settled_visible {s : FS} {dest : Path} {v : Option Content} (h : Settled s dest v) :
    visible s dest = v := by
  cases v with
  | none => simp [Settled] at h; simp [visible, h]
  | some c =>
    obtain ⟨i, hn, hc, _⟩ := settled_some_iff.1 h
    simp [visible, hn, hc]

theorem settled_frozen {s : FS} {dest : Path} {c : Content} {i : Nat}
    (h : Settled s dest (some c)) (hi : s.names dest = some i) : Frozen s i c := by
  obtain ⟨j, hn, hfr⟩ := settled_some_iff.1 h
  rw [hn] at hi; cases hi
  exact hfr

theorem afterCrash_strict {s : FS} {p : Path} {c : Option Content} (h : AfterCrash s p c) :
    AfterCrashIn s.names s p c := by
  cases c with
  | none => exact h
  | some x =>
    obtain ⟨i, hi, hs⟩ := h
    refine ⟨i, hi, fun hd => ?_⟩
    simpa [Survives, hd] using hs

/-- `s` is the instant whose entry of `dest` the crash brings back, `t` the instant of the
crash; `t = s` is the strict crash model. -/
theorem settled_crashIn {s t : FS} {dest : Path} {v : Option Content} (h : Settled s dest v)
    (hfr : ∀ i c, s.names dest = some i → Frozen s i c → Frozen t i c) {out : Dir}
    (ho : out dest = s.names dest) {c : Option Content} (hc : AfterCrashIn out t dest c) :
    c = v := by
  cases v with
  | none =>
    cases c with
    | none => rfl
    | some x => obtain ⟨i, hi, _⟩ := hc; cases hi.symm.trans (ho.trans h)
  | some cv =>
    obtain ⟨i, hn, hf⟩ := settled_some_iff.1 h
    cases c with
    | none => cases hn.symm.trans (ho.symm.trans hc)
    | some x =>
      obtain ⟨i', hi', hsurv⟩ := hc
      cases hn.symm.trans (ho.symm.trans hi')
      obtain ⟨hca, _, hd, _⟩ := hfr i cv hn hf
      rw [hsurv hd, hca]

theorem settled_crash {s : FS} {dest : Path} {v : Option Content} (h : Settled s dest v)
    {c : Option Content} (hc : AfterCrash s dest c) : c = v :=
  settled_crashIn h (fun _ _ _ hf => hf) rfl (afterCrash_strict hc)

theorem settled_old_ok {s : FS} {dest : Path} {old : Option Content} (new : Content)
    (h : Settled s dest old) : OKAt s dest old new :=
  ⟨Or.inl (settled_visible h), fun _ hc => Or.inl (settled_crash h hc)⟩

theorem settled_new_ok {s : FS} {dest : Path} (old : Option Content) {new : Content}
    (h : Settled s dest (some new)) : OKAt s dest old new :=
  ⟨Or.inr (settled_visible h), fun _ hc => Or.inr (settled_crash h hc)⟩

def Sys.isOpenWr : Sys → Bool
  | .openWr _ _ _ => true
  | _ => false

theorem isOpenWr_of_safeFor {e : Sys} {dest : Path} (h : e.safeFor dest = true) :
    e.isOpenWr = false := by
  cases e with
  | openWr p fd t => cases h
  | _ => rfl

theorem mkFile_wf {s : FS} (h : WF s) (p : Path) (fd : Nat) : WF (s.mkFile p fd) := by
  constructor
  · intro q i hq
    rcases upd_some_cases hq with ⟨_, hi⟩ | ⟨_, hq⟩
    · cases hi; exact Nat.lt_succ_self _
    · exact Nat.lt_succ_of_lt (h.names_lt q i hq)
  · intro fd' i off hq
    rcases upd_some_cases hq with ⟨_, hi⟩ | ⟨_, hq⟩
    · cases hi; exact Nat.lt_succ_self _
    · exact Nat.lt_succ_of_lt (h.fds_lt fd' i off hq)

/-- What a successful syscall can have done to the state.  The frame lemmas case on
these four, not on the eight syscalls. -/
inductive Effect (s : FS) (e : Sys) (s' : FS) : Prop
  | none : s' = s → Effect s e s'
  | alloc (p : Path) (fd : Nat) : s' = s.mkFile p fd →
      (∀ dest, e.safeFor dest = true → p ≠ dest) → Effect s e s'
  | data (j : Nat) :
      ((∃ fd off, s.fds fd = some (j, off)) ∨ (e.isOpenWr = true ∧ ∃ p, s.names p = some j)) →
      s'.names = s.names → s'.next = s.next →
      (∀ fd i off, s'.fds fd = some (i, off) → i = j ∨ s.fds fd = some (i, off)) →
      (∀ i, i ≠ j → s'.cache i = s.cache i ∧ s'.disk i = s.disk i ∧ s'.dirty i = s.dirty i) →
      Effect s e s'
  | dir : s'.cache = s.cache → s'.disk = s.disk → s'.dirty = s.dirty → s'.fds = s.fds →
      s'.next = s.next → (∀ q j, s'.names q = some j → ∃ q', s.names q' = some j) →
      (∀ dest, e.safeFor dest = true → s'.names dest = s.names dest) → Effect s e s'

/-- The cases are the 20 exits of `step` in the order of its text; those that succeed: 3 `creat`; 5–7 `openWr`
(new file, truncating, in place); 9–10 `write` (empty, data); 12 `fsync`; 14 `close`; 16–17 `rename` (onto itself,
onto another name); 19 `unlink`; 20 `fsyncDir`.  The eight that return an errno are left to `nofun`. -/
theorem step_effect {s s' : FS} {e : Sys} : step s e = .ok s' → Effect s e s' := by
  fun_cases step s e with
  | case3 p fd => intro hs; cases hs; exact .alloc p fd rfl fun _ h => bne_iff_ne.1 h
  | case5 p fd => intro hs; cases hs; exact .alloc p fd rfl fun _ h => nomatch h
  | case6 p fd t _ i hi =>
    intro hs; cases hs
    exact .data i (Or.inr ⟨rfl, p, hi⟩) rfl rfl upd_fds_some
      fun _ hne => ⟨upd_ne _ _ hne, rfl, upd_ne _ _ hne⟩
  | case7 p fd t _ i hi =>
    intro hs; cases hs
    exact .data i (Or.inr ⟨rfl, p, hi⟩) rfl rfl upd_fds_some fun _ _ => ⟨rfl, rfl, rfl⟩
  | case9 | case16 | case20 => intro hs; cases hs; exact .none rfl
  | case10 fd d i off hi =>
    intro hs; cases hs
    exact .data i (Or.inl ⟨fd, off, hi⟩) rfl rfl upd_fds_some
      fun _ hne => ⟨upd_ne _ _ hne, rfl, upd_ne _ _ hne⟩
  | case12 fd i off hi =>
    intro hs; cases hs
    exact .data i (Or.inl ⟨fd, off, hi⟩) rfl rfl (fun _ _ _ hq => Or.inr hq)
      fun _ hne => ⟨rfl, upd_ne _ _ hne, upd_ne _ _ hne⟩
  | case14 fd io hi =>
    intro hs; cases hs
    refine .data io.1 (Or.inl ⟨fd, io.2, hi⟩) rfl rfl (fun fd' i' off' hq => ?_)
      fun _ _ => ⟨rfl, rfl, rfl⟩
    rcases upd_some_cases hq with ⟨_, hq⟩ | ⟨_, hq⟩
    · cases hq
    · exact Or.inr hq
  | case17 a b i hi =>
    intro hs; cases hs
    refine .dir rfl rfl rfl rfl rfl (fun q j hq => ?_) fun dest h => ?_
    · rcases upd_some_cases hq with ⟨_, hq⟩ | ⟨_, hq⟩
      · cases hq
      · rcases upd_some_cases hq with ⟨_, hq⟩ | ⟨_, hq⟩
        · cases hq; exact ⟨a, hi⟩
        · exact ⟨q, hq⟩
    · rw [Sys.safeFor, Bool.and_eq_true, bne_iff_ne, bne_iff_ne] at h
      exact (upd_ne _ _ (Ne.symm h.1)).trans (upd_ne _ _ (Ne.symm h.2))
  | case19 a i hi =>
    intro hs; cases hs
    refine .dir rfl rfl rfl rfl rfl (fun q j hq => ?_) fun _ h => upd_ne _ _ (Ne.symm (bne_iff_ne.1 h))
    rcases upd_some_cases hq with ⟨_, hq⟩ | ⟨_, hq⟩
    · cases hq
    · exact ⟨q, hq⟩
  | _ => nofun

theorem step_wf {s s' : FS} {e : Sys} (h : WF s) (hs : step s e = .ok s') : WF s' := by
  cases step_effect hs with
  | none h' => rw [h']; exact h
  | alloc p fd h' _ => rw [h']; exact mkFile_wf h p fd
  | data j hj hn hx hf _ =>
    have hlt : j < s.next :=
      hj.elim (fun ⟨fd, off, h'⟩ => h.fds_lt fd j off h') fun ⟨_, p, h'⟩ => h.names_lt p j h'
    constructor
    · intro q i hq
      rw [hn] at hq; rw [hx]
      exact h.names_lt q i hq
    · intro fd i off hq
      rw [hx]
      rcases hf fd i off hq with rfl | hq
      · exact hlt
      · exact h.fds_lt fd i off hq
  | dir _ _ _ hf hx hn _ =>
    constructor
    · intro q i hq
      rw [hx]
      obtain ⟨q', hq'⟩ := hn q i hq
      exact h.names_lt q' i hq'
    · intro fd i off hq
      rw [hf] at hq; rw [hx]
      exact h.fds_lt fd i off hq

theorem step_names_safe {s s' : FS} {e : Sys} {dest : Path} (hsafe : e.safeFor dest = true)
    (hs : step s e = .ok s') : s'.names dest = s.names dest := by
  cases step_effect hs with
  | none h' => rw [h']
  | alloc p fd h' hp => rw [h']; exact upd_ne _ _ (Ne.symm (hp dest hsafe))
  | data j _ hn _ _ _ => rw [hn]
  | dir _ _ _ _ _ _ hfr => exact hfr dest hsafe

/-- Data is only written through a descriptor, and a fresh file gets a fresh inode
(hence `hlt`); an in-place open is the one syscall that reaches a closed inode,
by its name. -/
theorem frozen_step {s s' : FS} {e : Sys} {i : Nat} {c : Content} (hlt : i < s.next)
    (h : Frozen s i c) (he : e.isOpenWr = false) (hs : step s e = .ok s') :
    i < s'.next ∧ Frozen s' i c := by
  obtain ⟨hc, hd, hdi, hfd⟩ := h
  cases step_effect hs with
  | none h' => rw [h']; exact ⟨hlt, hc, hd, hdi, hfd⟩
  | alloc p fd h' _ =>
    have hi : i ≠ s.next := Nat.ne_of_lt hlt
    rw [h']
    refine ⟨Nat.lt_succ_of_lt hlt, (upd_ne _ _ hi).trans hc, (upd_ne _ _ hi).trans hd,
      (upd_ne _ _ hi).trans hdi, fun fd' off hq => ?_⟩
    rcases upd_some_cases hq with ⟨_, hq⟩ | ⟨_, hq⟩
    · cases hq; exact hi rfl
    · exact hfd fd' off hq
  | data j hj hn hx hf hdat =>
    have hij : i ≠ j := by
      rintro rfl
      rcases hj with ⟨fd, off, h'⟩ | ⟨ho, _⟩
      · exact hfd fd off h'
      · rw [he] at ho; cases ho
    obtain ⟨h1, h2, h3⟩ := hdat i hij
    exact ⟨hx ▸ hlt, h1.trans hc, h2.trans hd, h3.trans hdi,
      fun fd off hq => (hf fd i off hq).elim hij (hfd fd off)⟩
  | dir h1 h2 h3 h4 hx _ _ =>
    refine ⟨hx ▸ hlt, ?_, ?_, ?_, ?_⟩
    · rw [h1]; exact hc
    · rw [h2]; exact hd
    · rw [h3]; exact hdi
    · rw [h4]; exact hfd

theorem step_safe {s s' : FS} {e : Sys} {dest : Path} {v : Option Content} (hwf : WF s)
    (h : Settled s dest v) (hsafe : e.safeFor dest = true) (hs : step s e = .ok s') :
    Settled s' dest v := by
  cases v with
  | none => exact (step_names_safe hsafe hs).trans h
  | some c =>
    obtain ⟨i, hn, hfr⟩ := settled_some_iff.1 h
    exact settled_some_iff.2 ⟨i, (step_names_safe hsafe hs).trans hn,
      (frozen_step (hwf.names_lt dest i hn) hfr (isOpenWr_of_safeFor hsafe) hs).2⟩

theorem rename_settles {s s' : FS} {tmp dest : Path} {c : Content} (h : TmpReady s tmp c)
    (hne : tmp ≠ dest) (hs : step s (.rename tmp dest) = .ok s') : Settled s' dest (some c) := by
  obtain ⟨i, hn, hfr⟩ := tmpReady_iff.1 h
  simp only [step, hn, hne, if_false] at hs
  cases hs
  exact settled_some_iff.2 ⟨i, (upd_ne _ _ (Ne.symm hne)).trans (upd_same _ _ _), hfr⟩

theorem runAbort_cons_ok {s s' : FS} {e : Sys} (h : step s e = .ok s') (es : List Sys) :
    runAbort s (e :: es) = runAbort s' es := by
  simp only [runAbort, h]

theorem runAbort_cons_err {s : FS} {e : Sys} {er : Errno} (h : step s e = .error er)
    (es : List Sys) : runAbort s (e :: es) = (s, false) := by
  simp only [runAbort, h]

theorem runAbort_append (s : FS) (a b : List Sys) :
    runAbort s (a ++ b) =
      if (runAbort s a).2 then runAbort (runAbort s a).1 b else ((runAbort s a).1, false) := by
  fun_induction runAbort s a with
  | case1 s => rfl
  | case2 s e es s' hstep ih => rw [List.cons_append, runAbort_cons_ok hstep]; exact ih
  | case3 s e es er hstep => rw [List.cons_append, runAbort_cons_err hstep]; rfl

theorem runAbort_append_ok {s s' : FS} {a b : List Sys} :
    runAbort s (a ++ b) = (s', true) ↔
      ∃ s₁, runAbort s a = (s₁, true) ∧ runAbort s₁ b = (s', true) := by
  rw [runAbort_append]
  cases runAbort s a with
  | mk s₁ ok =>
    cases ok with
    | false => exact ⟨fun h => (nomatch h), fun ⟨_, h, _⟩ => (nomatch h)⟩
    | true => exact ⟨fun h => ⟨s₁, rfl, h⟩, fun ⟨_, h, h'⟩ => by cases h; exact h'⟩

theorem runAbort_cons_ok_iff {s s' : FS} {e : Sys} {es : List Sys} :
    runAbort s (e :: es) = (s', true) ↔ ∃ s₁, step s e = .ok s₁ ∧ runAbort s₁ es = (s', true) := by
  cases hstep : step s e with
  | error er => rw [runAbort_cons_err hstep]; exact ⟨fun h => (nomatch h), fun ⟨_, h, _⟩ => (nomatch h)⟩
  | ok s₁ =>
    rw [runAbort_cons_ok hstep]
    exact ⟨fun h => ⟨s₁, rfl, h⟩, fun ⟨_, h, h'⟩ => by cases h; exact h'⟩

theorem run_cons (s : FS) (e : Sys) (es : List Sys) : run s (e :: es) = run (exec s e) es := rfl

theorem run_append (s : FS) (a b : List Sys) : run s (a ++ b) = run (run s a) b := by
  simp [run, List.foldl_append]

theorem run_invariant {P : FS → Prop} {es : List Sys}
    (hstep : ∀ e ∈ es, ∀ s s', P s → step s e = .ok s' → P s') {s : FS} (h : P s) :
    P (run s es) :=
  List.foldlRecOn es exec h fun s hs e he => by
    unfold exec
    cases hst : step s e with
    | error er => exact hs
    | ok s' => exact hstep e he s s' hs hst

def performed (s : FS) : List Sys → List Sys
  | [] => []
  | e :: es =>
    match step s e with
    | .ok s' => e :: performed s' es
    | .error _ => []

theorem performed_prefix (s : FS) (es : List Sys) : performed s es <+: es := by
  fun_induction performed s es with
  | case1 => exact List.prefix_refl _
  | case2 s e es s' _ ih => exact (List.prefix_cons_inj e).2 ih
  | case3 => exact List.nil_prefix

theorem mem_of_mem_performed {s : FS} {es : List Sys} {e : Sys} (he : e ∈ performed s es) :
    e ∈ es :=
  (performed_prefix s es).subset he

theorem run_performed_take (s : FS) (es : List Sys) (j : Nat) :
    run s ((performed s es).take j) = (runAbort s (es.take j)).1 := by
  fun_induction performed s es generalizing j with
  | case1 => simp [run, runAbort]
  | case2 s e es s' hstep ih =>
    cases j with
    | zero => rfl
    | succ j =>
      rw [List.take_succ_cons, List.take_succ_cons, run_cons, exec, hstep, runAbort_cons_ok hstep]
      exact ih j
  | case3 s e es er hstep =>
    cases j with
    | zero => rfl
    | succ j => rw [List.take_succ_cons, runAbort_cons_err hstep]; rfl

theorem run_performed (s : FS) (es : List Sys) :
    run s (performed s es) = (runAbort s es).1 := by
  have := run_performed_take s es es.length
  rwa [List.take_of_length_le (performed_prefix s es).length_le, List.take_length] at this

theorem runAbort_invariant {P : FS → Prop} {es : List Sys}
    (hstep : ∀ e ∈ es, ∀ s s', P s → step s e = .ok s' → P s') {s : FS} (h : P s) :
    P (runAbort s es).1 :=
  run_performed s es ▸ run_invariant (fun e he => hstep e (mem_of_mem_performed he)) h

theorem run_wf {s : FS} (h : WF s) (es : List Sys) : WF (run s es) :=
  run_invariant (fun _ _ _ _ h hs => step_wf h hs) h

theorem runAbort_wf {s : FS} (h : WF s) (es : List Sys) : WF (runAbort s es).1 :=
  runAbort_invariant (fun _ _ _ _ h hs => step_wf h hs) h

/-- Covers every abandoned save and every cleanup path: none of them names `dest`. -/
theorem runAbort_safe {s : FS} {dest : Path} {v : Option Content} (hwf : WF s)
    (h : Settled s dest v) {es : List Sys} (hes : es.all (Sys.safeFor dest) = true) (k : Nat) :
    Settled (runAbort s (es.take k)).1 dest v :=
  (runAbort_invariant (P := fun s => WF s ∧ Settled s dest v)
    (fun e he _ _ h hs => ⟨step_wf h.1 hs,
      step_safe h.1 h.2 (List.all_eq_true.1 hes e (List.mem_of_mem_take he)) hs⟩)
    ⟨hwf, h⟩).2

theorem frozen_run {i : Nat} {c : Content} (es : List Sys) (s : FS) (hlt : i < s.next)
    (h : Frozen s i c) (hes : ∀ e ∈ es, e.isOpenWr = false) : Frozen (run s es) i c :=
  (run_invariant (P := fun s => i < s.next ∧ Frozen s i c)
    (fun e he _ _ h hs => frozen_step h.1 h.2 (hes e he) hs) ⟨hlt, h⟩).2

theorem goodTrace_settled (dest : Path) (V : List Content) (es : List Sys) :
    ∀ (s : FS) (v : Option Content), WF s → Settled s dest v → GoodTrace dest V s es →
      ∀ j, ∃ w, (w = v ∨ ∃ c ∈ V, w = some c) ∧ Settled (run s (es.take j)) dest w := by
  induction es with
  | nil => intro s v _ h _ j; exact ⟨v, Or.inl rfl, by rw [List.take_nil]; exact h⟩
  | cons e es ih =>
    intro s v hwf h hg j
    cases j with
    | zero => exact ⟨v, Or.inl rfl, h⟩
    | succ j =>
      simp only [List.take_succ_cons, run_cons]
      obtain ⟨hstep, hrest⟩ := hg
      unfold exec at hrest ⊢
      cases hs : step s e with
      | error er =>
        simp only [hs] at hrest ⊢
        exact ih s v hwf h hrest j
      | ok s' =>
        simp only [hs] at hrest ⊢
        have hwf' := step_wf hwf hs
        rcases hstep with hsafe | ⟨tmp, c, rfl, hne, hready, hc⟩
        · exact ih s' v hwf' (step_safe hwf h hsafe hs) hrest j
        · obtain ⟨w, hw, hset⟩ := ih s' (some c) hwf' (rename_settles hready hne hs) hrest j
          refine ⟨w, ?_, hset⟩
          rcases hw with rfl | hw
          · exact Or.inr ⟨c, hc, rfl⟩
          · exact Or.inr hw

theorem goodTrace_append {dest : Path} {V : List Content} {a b : List Sys} :
    ∀ {s : FS}, GoodTrace dest V s a → GoodTrace dest V (run s a) b → GoodTrace dest V s (a ++ b) := by
  induction a with
  | nil => exact fun _ hb => hb
  | cons e es ih => exact fun ha hb => ⟨ha.1, ih ha.2 hb⟩

theorem goodTrace_performed_append {dest : Path} {V : List Content} {a b : List Sys}
    (ha : ∀ x ∈ a, x.safeFor dest = true) :
    ∀ s, (∀ s₁, runAbort s a = (s₁, true) → GoodTrace dest V s₁ (performed s₁ b)) →
      GoodTrace dest V s (performed s (a ++ b)) := by
  induction a with
  | nil => exact fun s hb => hb s rfl
  | cons x xs ih =>
    intro s hb
    rw [List.cons_append]
    unfold performed
    cases hstep : step s x with
    | error er => exact trivial
    | ok s' =>
      refine ⟨Or.inl (ha x List.mem_cons_self), ?_⟩
      unfold exec
      rw [hstep]
      exact ih (fun y hy => ha y (List.mem_cons_of_mem _ hy)) s'
        fun s₁ h => hb s₁ ((runAbort_cons_ok hstep xs).trans h)

end AGH.C14
