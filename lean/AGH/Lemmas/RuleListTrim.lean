/-
C15 helper lemmas about the model of `bytes.TrimSpace`, for all byte strings
(invalid UTF-8 included): the result is what remains of the input after
deleting bytes; a trailing ASCII space (the scanner's CR) does not survive;
trimming is idempotent.

The ASCII fast path is an optimisation (`trimSpace_eq_trimFunc`), so all of
this is proved of `TrimFunc(s, unicode.IsSpace)`; there the byte tests in front
of the two decoders are the decoders' own first tests (`lastIdxF_succ`,
`trimRightFunc_eq`), and what the backward loop needs of `utf8.DecodeLastRune`
is `decodeLastRune_spec`.  A trimmed string (`Trimmed`: empty, or `LeftOK` and
`RightOK`) is a fixed point, and every result of `trimFunc` is of that kind.
-/
import AGH.Model.RuleList
import AGH.Lemmas.Utf8
namespace AGH.C15
open AGH AGH.Bytes
open AGH.C17 (decodeRune runeError isCont decodeRune_ascii decodeRune_single decodeRune_size decodeRune_shape
  decodeRune_take_width decodeRune_append decodeRune_append_of_not_cont)

/-- No continuation byte stands at index `e` of `z`: the invariant of `lastIndexFunc`'s backward loop
(`lastIdxF_step`). -/
def RuneStartAt (z : Bytes) (e : Nat) : Prop := ∀ c, z[e]? = some c → isCont c = false

/-- The first rune is not a space: `TrimLeftFunc` leaves such a string as it is (`trimLeftFunc_fixed`). -/
def LeftOK (y : Bytes) : Prop := y ≠ [] ∧ isSpaceRune (decodeRune y).1 = false

/-- The last rune is not a space and, decoded backwards as `utf8.DecodeLastRune` does, spans exactly the bytes
the forward decoder assigns to it: `TrimRightFunc` leaves such a string as it is (`trimRightFunc_fixed`). -/
def RightOK (y : Bytes) : Prop :=
  y ≠ [] ∧ isSpaceRune (decodeLastRune y).1 = false ∧
  (y.length - (decodeLastRune y).2) + (decodeRune (y.drop (y.length - (decodeLastRune y).2))).2 = y.length

/-- What `trimFunc` returns and leaves as it is. -/
def Trimmed (y : Bytes) : Prop := y = [] ∨ (LeftOK y ∧ RightOK y)

theorem runeStartAt_length (z : Bytes) : RuneStartAt z z.length := fun c hc => by
  rw [List.getElem?_eq_none (Nat.le_refl _)] at hc; cases hc

theorem trimLeftF_cons (f c : Nat) (t : Bytes) :
    trimLeftF (f + 1) (c :: t) =
      if (!isSpaceRune (decodeRune (c :: t)).1) = true then c :: t
      else trimLeftF f ((c :: t).drop (decodeRune (c :: t)).2) := rfl

/-- The cases of `trimLeftF`, here and below: no fuel; an empty string; the first rune is not a space;
it is one, and the loop goes on behind it. -/
theorem trimLeftF_sub (f : Nat) (s : Bytes) : (trimLeftF f s).Sublist s := by
  fun_induction trimLeftF f s with
  | case1 => exact List.nil_sublist _
  | case2 => exact List.Sublist.refl _
  | case3 f c t d h => rw [if_pos h]; exact List.Sublist.refl _
  | case4 f c t d h ih => rw [if_neg h]; exact ih.trans (List.drop_sublist _ _)

theorem trimRightFunc_sub (s : Bytes) : (trimRightFunc s).Sublist s := by
  unfold trimRightFunc
  split
  · split <;> exact List.take_sublist _ _
  · exact List.nil_sublist _

theorem trimFunc_sub (s : Bytes) : (trimFunc s).Sublist s :=
  (trimRightFunc_sub _).trans (trimLeftF_sub _ _)

theorem isSpaceRune_ascii (c : Nat) (h : c < 0x80) : isSpaceRune c = isAsciiSpace c := by
  have e : ∀ k, 0x80 ≤ k → (c == k) = false := fun k hk =>
    beq_eq_false_iff_ne.mpr (Nat.ne_of_lt (Nat.lt_of_lt_of_le h hk))
  have e4 : decide (0x2000 ≤ c) = false := decide_eq_false (by omega)
  unfold isSpaceRune isAsciiSpace
  rw [e 0x85 (by decide), e 0xA0 (by decide), e 0x1680 (by decide), e 0x2028 (by decide), e 0x2029 (by decide),
    e 0x202F (by decide), e 0x205F (by decide), e 0x3000 (by decide), e4]
  simp only [Bool.false_and, Bool.or_false]

theorem isCont_lt {b : Nat} (h : b < 0x80) : isCont b = false := by
  simp only [isCont, Bool.and_eq_false_iff, decide_eq_false_iff_not]; omega

theorem isCont_lead {c : Nat} (h : 0xC2 ≤ c) : isCont c = false := by
  simp only [isCont, Bool.and_eq_false_iff, decide_eq_false_iff_not]; omega

theorem isSpaceRune_runeError : isSpaceRune runeError = false := by decide

theorem decodeLastRune_snoc_ascii (r : Bytes) {b : Nat} (hb : b < 0x80) : decodeLastRune (r ++ [b]) = (b, 1) := by
  unfold decodeLastRune
  rw [List.reverse_append, List.reverse_singleton, List.singleton_append]
  exact if_pos hb

/-- `lastIndexFunc`'s test `r >= RuneSelf` is `DecodeLastRune`'s own first test, so a round
decodes the last rune of the prefix. -/
theorem lastIdxF_succ (f : Nat) (z : Bytes) (e : Nat) (he : e ≠ 0) (hle : e ≤ z.length) :
    lastIdxF (f + 1) z e =
      if (!isSpaceRune (decodeLastRune (z.take e)).1) = true then some (e - (decodeLastRune (z.take e)).2)
      else lastIdxF f z (e - (decodeLastRune (z.take e)).2) := by
  have hd : (if z.getD (e - 1) 0 < 0x80 then (z.getD (e - 1) 0, 1) else decodeLastRune (z.take e)) =
      decodeLastRune (z.take e) := by
    split
    · rename_i hb
      obtain ⟨e, rfl⟩ : ∃ e', e = e' + 1 := ⟨e - 1, by omega⟩
      have hlt : e < z.length := hle
      rw [Nat.add_sub_cancel, List.getD_eq_getElem?_getD, List.getElem?_eq_getElem hlt, Option.getD_some] at hb ⊢
      rw [List.take_succ_eq_append_getElem hlt, decodeLastRune_snoc_ascii _ hb]
    · rfl
  rw [lastIdxF, if_neg he]
  dsimp only
  rw [hd]

/-- `TrimRightFunc` cuts behind the rune at the index found: its test
`s[i] >= RuneSelf` is `DecodeRune`'s own first test. -/
theorem trimRightFunc_eq (z : Bytes) :
    trimRightFunc z =
      match lastIdxF (z.length + 1) z z.length with
      | some i => z.take (i + (decodeRune (z.drop i)).2)
      | none => [] := by
  unfold trimRightFunc
  cases lastIdxF (z.length + 1) z z.length with
  | none => rfl
  | some i =>
    dsimp only
    split
    · rfl
    · rename_i hb
      by_cases hi : i < z.length
      · rw [List.getD_eq_getElem?_getD, List.getElem?_eq_getElem hi, Option.getD_some] at hb
        rw [List.drop_eq_getElem_cons hi, decodeRune_ascii _ (Nat.lt_of_not_le hb)]
      · -- past the end both cuts keep all of `z`
        rw [List.take_of_length_le (by omega), List.take_of_length_le (by omega)]

theorem trimLeftFunc_fixed {y : Bytes} (h : LeftOK y) : trimLeftFunc y = y := by
  obtain ⟨hne, hns⟩ := h
  cases y with
  | nil => exact absurd rfl hne
  | cons c t => rw [trimLeftFunc, trimLeftF_cons, hns]; rfl

theorem trimRightFunc_fixed {y : Bytes} (h : RightOK y) : trimRightFunc y = y := by
  obtain ⟨hne, hns, hw⟩ := h
  have hlen : y.length ≠ 0 := fun h0 => hne (List.length_eq_zero_iff.mp h0)
  rw [trimRightFunc_eq, lastIdxF_succ _ _ _ hlen (Nat.le_refl _), List.take_length, if_pos (by rw [hns]; rfl)]
  dsimp only
  rw [hw, List.take_length]

theorem trimFunc_fixed {y : Bytes} (h : Trimmed y) : trimFunc y = y := by
  rcases h with rfl | ⟨hl, hr⟩
  · rfl
  · rw [trimFunc, trimLeftFunc_fixed hl, trimRightFunc_fixed hr]

theorem exists_snoc {y : Bytes} (h : y ≠ []) : ∃ r b, y = r ++ [b] :=
  ⟨_, _, (List.dropLast_concat_getLast h).symm⟩

theorem rightOK_ascii (r : Bytes) (b : Nat) (hb : b < 0x80) (hs : isSpaceRune b = false) :
    RightOK (r ++ [b]) := by
  unfold RightOK
  rw [decodeLastRune_snoc_ascii r hb, List.length_append, List.length_singleton, Nat.add_sub_cancel, List.drop_left,
    decodeRune_ascii [] hb]
  exact ⟨by simp, hs, rfl⟩

theorem leftOK_ascii (c : Nat) (t : Bytes) (hc : c < 0x80) (hs : isSpaceRune c = false) :
    LeftOK (c :: t) := by
  refine ⟨List.cons_ne_nil _ _, ?_⟩
  rw [decodeRune_ascii t hc]; exact hs

theorem le_ite {c : Prop} [Decidable c] {n x y : Nat} (hx : n ≤ x) (hy : n ≤ y) : n ≤ if c then x else y := by
  split
  · exact hx
  · exact hy

/-- A rune other than the error rune starts at a byte that is not a continuation byte. -/
theorem decodeRune_start (c : Nat) (t : Bytes) (h : (decodeRune (c :: t)).1 ≠ runeError) : isCont c = false := by
  rcases decodeRune_shape c t with ⟨hc, _⟩ | ⟨_, h'⟩ | ⟨hc, _⟩
  · exact isCont_lt hc
  · rw [h'] at h; exact absurd rfl h
  · exact isCont_lead hc

/-- The rune found backwards is as wide as the forward decoder makes the bytes it spans, and unless it
is the error rune it is the rune found there. -/
theorem decodeLastRev_width : ∀ rev : Bytes, rev ≠ [] →
    1 ≤ (decodeLastRev rev).2 ∧ (decodeLastRev rev).2 ≤ rev.length ∧
    (decodeRune (rev.take (decodeLastRev rev).2).reverse).2 = (decodeLastRev rev).2 ∧
    ((decodeLastRev rev).1 ≠ runeError →
      (decodeRune (rev.take (decodeLastRev rev).2).reverse).1 = (decodeLastRev rev).1)
  | b :: rest, _ => by
    have h1 : 1 ≤ (b :: rest).length := Nat.succ_le_succ (Nat.zero_le _)
    by_cases hb : b < 0x80
    · have hd : decodeLastRev (b :: rest) = (b, 1) := if_pos hb
      rw [hd]
      exact ⟨Nat.le_refl _, h1, congrArg Prod.snd (decodeRune_ascii [] hb),
        fun _ => congrArg Prod.fst (decodeRune_ascii [] hb)⟩
    · -- the model decodes the last `k` bytes forwards, `k` from its search for a lead byte
      obtain ⟨k, hk1, hk⟩ : ∃ k, 1 ≤ k ∧ decodeLastRev (b :: rest) =
          if (decodeRune ((b :: rest).take k).reverse).2 ≠ k then (runeError, 1)
          else decodeRune ((b :: rest).take k).reverse := by
        refine ⟨_, ?_, if_neg hb⟩
        exact le_ite (by decide) (le_ite (by decide) (le_ite (by decide) (Nat.le_min.mpr ⟨h1, by decide⟩)))
      rw [hk]
      by_cases hd : (decodeRune ((b :: rest).take k).reverse).2 ≠ k
      · -- a stray byte: alone it is the error rune forwards as well
        rw [if_pos hd]
        exact ⟨Nat.le_refl _, h1, congrArg Prod.snd (decodeRune_single b (Nat.le_of_not_lt hb)), fun h => absurd rfl h⟩
      · rw [if_neg hd]
        have hd' : (decodeRune ((b :: rest).take k).reverse).2 = k := Decidable.not_not.mp hd
        have hne : ((b :: rest).take k).reverse ≠ [] := by
          obtain ⟨k, rfl⟩ := Nat.exists_eq_succ_of_ne_zero (Nat.ne_of_gt hk1)
          exact fun h0 => List.cons_ne_nil _ _ (List.reverse_eq_nil_iff.mp h0)
        have hsz := (decodeRune_size _ hne).2
        rw [hd', List.length_reverse, List.length_take] at hsz
        rw [hd']
        exact ⟨hk1, Nat.le_trans hsz (Nat.min_le_right _ _), hd', fun _ => rfl⟩

/-- The last rune of `p`, decoded backwards, is made of the last bytes `c :: t` of `p`.  Unless it
is the error rune, which is not a space, `c` is not a continuation byte; and with no continuation
byte behind them these bytes decode forwards to a rune of the same width. -/
theorem decodeLastRune_spec (p : Bytes) (hp : p ≠ []) :
    ∃ pre c t, p = pre ++ c :: t ∧ (decodeLastRune p).2 = t.length + 1 ∧
      (isSpaceRune (decodeLastRune p).1 = true → isCont c = false) ∧
      ∀ s, (∀ x, s.head? = some x → isCont x = false) → (decodeRune (c :: t ++ s)).2 = t.length + 1 := by
  obtain ⟨h1, h2, h3, h4⟩ := decodeLastRev_width p.reverse fun h0 => hp (List.reverse_eq_nil_iff.mp h0)
  unfold decodeLastRune
  generalize decodeLastRev p.reverse = d at h1 h2 h3 h4 ⊢
  rw [List.length_reverse] at h2
  rw [List.take_reverse, List.reverse_reverse] at h3 h4
  -- the last `d.2` bytes of `p`
  have hlen : (p.drop (p.length - d.2)).length = d.2 := by rw [List.length_drop]; omega
  cases hdr : p.drop (p.length - d.2) with
  | nil => rw [hdr, List.length_nil] at hlen; omega
  | cons c t =>
    rw [hdr] at h3 h4 hlen
    refine ⟨_, c, t, ((List.take_append_drop _ _).symm.trans (congrArg _ hdr)), hlen.symm, fun hs => ?_, fun s hs => ?_⟩
    · have hd : d.1 ≠ runeError := fun e => by rw [e, isSpaceRune_runeError] at hs; cases hs
      exact decodeRune_start c t (h4 hd ▸ hd)
    · rw [decodeRune_append_of_not_cont _ s (List.cons_ne_nil _ _) hs, h3]
      exact hlen.symm

/-- One backward step of `lastIndexFunc` from prefix length `e`.  `RuneStartAt` is the loop's invariant:
a step over a space rune reaches such an index, and from one the forward decoder at the index reached
finds a rune of the same width. -/
theorem lastIdxF_step (z : Bytes) (e : Nat) (he : e ≠ 0) (hle : e ≤ z.length) :
    1 ≤ (decodeLastRune (z.take e)).2 ∧ (decodeLastRune (z.take e)).2 ≤ e ∧
    (isSpaceRune (decodeLastRune (z.take e)).1 = true → RuneStartAt z (e - (decodeLastRune (z.take e)).2)) ∧
    (RuneStartAt z e →
      (e - (decodeLastRune (z.take e)).2) + (decodeRune (z.drop (e - (decodeLastRune (z.take e)).2))).2 = e) := by
  have hte : (z.take e).length = e := by rw [List.length_take, Nat.min_eq_left hle]
  have hne : z.take e ≠ [] := fun h0 => by rw [h0, List.length_nil] at hte; omega
  obtain ⟨pre, c, t, htake, hw, hhead, hfwd⟩ := decodeLastRune_spec (z.take e) hne
  have hlen : e = pre.length + (t.length + 1) := by
    rw [← hte, htake, List.length_append, List.length_cons]
  have hi : e - (decodeLastRune (z.take e)).2 = pre.length := by rw [hw, hlen, Nat.add_sub_cancel]
  have hz : z = pre ++ (c :: t ++ z.drop e) := by
    rw [← List.append_assoc, ← htake, List.take_append_drop]
  have hc : z[pre.length]? = some c := by
    rw [hz, List.getElem?_append_right (Nat.le_refl _), Nat.sub_self]; rfl
  have hdz : (pre ++ (c :: t ++ z.drop e)).drop pre.length = c :: t ++ z.drop e := List.drop_left ..
  rw [← hz] at hdz
  rw [hi, hdz]
  refine ⟨hw ▸ Nat.succ_le_succ (Nat.zero_le _), by rw [hw, hlen]; exact Nat.le_add_left _ _, ?_, fun hnc => ?_⟩
  · intro hs x hx
    rw [hc] at hx; cases hx
    exact hhead hs
  · rw [hfwd _ fun x hx => hnc x (by rwa [List.head?_drop] at hx)]
    exact hlen.symm

/-- Where `lastIndexFunc` stops: at a prefix length `e'` whose last rune is not
a space, and `TrimRightFunc` then cuts exactly there. -/
theorem lastIdxF_found : ∀ (f : Nat) (z : Bytes) (e i : Nat), lastIdxF f z e = some i → e ≤ z.length →
    RuneStartAt z e → ∃ e', 1 ≤ e' ∧ e' ≤ e ∧ isSpaceRune (decodeLastRune (z.take e')).1 = false ∧
      i = e' - (decodeLastRune (z.take e')).2 ∧
      i < e' ∧ i + (decodeRune (z.drop i)).2 = e' := by
  intro f
  induction f with
  | zero => intro z e i h; cases h
  | succ f ih =>
    intro z e i h hle hnc
    by_cases he : e = 0
    · subst he; cases h
    rw [lastIdxF_succ _ _ _ he hle] at h
    obtain ⟨hs1, hs2, hstep, hwidth⟩ := lastIdxF_step z e he hle
    by_cases hns : (!isSpaceRune (decodeLastRune (z.take e)).1) = true
    · rw [if_pos hns] at h
      cases h
      exact ⟨e, Nat.pos_of_ne_zero he, Nat.le_refl _, Eq.mp (Bool.not_eq_true' _) hns, rfl,
        Nat.sub_lt (Nat.pos_of_ne_zero he) hs1, hwidth hnc⟩
    · rw [if_neg hns] at h
      obtain ⟨e', h1, h2, h3⟩ := ih z _ i h (Nat.le_trans (Nat.sub_le _ _) hle)
        (hstep (Eq.mp (Bool.not_eq_false' _) (Eq.mp (Bool.not_eq_true _) hns)))
      exact ⟨e', h1, Nat.le_trans h2 (Nat.sub_le _ _), h3⟩

theorem trimLeftF_leftOK (f : Nat) (s : Bytes) : trimLeftF f s = [] ∨ LeftOK (trimLeftF f s) := by
  fun_induction trimLeftF f s with
  | case1 => exact .inl rfl
  | case2 => exact .inl rfl
  | case3 f c t d h => rw [if_pos h]; exact .inr ⟨List.cons_ne_nil _ _, Eq.mp (Bool.not_eq_true' _) h⟩
  | case4 f c t d h ih => rw [if_neg h]; exact ih

/-- Cutting inside the first rune leaves the error rune, which is not a space. -/
theorem leftOK_take (z : Bytes) (e : Nat) (h : LeftOK z) (he : 1 ≤ e) : LeftOK (z.take e) := by
  obtain ⟨hne, hns⟩ := h
  have hne' : z.take e ≠ [] := by
    cases z with
    | nil => exact absurd rfl hne
    | cons c t =>
      obtain ⟨e, rfl⟩ : ∃ e', e = e' + 1 := ⟨e - 1, by omega⟩
      simp
  refine ⟨hne', ?_⟩
  by_cases hv : (decodeRune (z.take e)).1 = runeError ∧ (decodeRune (z.take e)).2 = 1
  · rw [hv.1]; exact isSpaceRune_runeError
  · have := decodeRune_append (z.take e) (z.drop e) hv hne'
    rw [List.take_append_drop] at this
    rw [← this]; exact hns

theorem trimRightFunc_trimmed (z : Bytes) (hz : z = [] ∨ LeftOK z) : Trimmed (trimRightFunc z) := by
  rw [trimRightFunc_eq]
  cases hl : lastIdxF (z.length + 1) z z.length with
  | none => left; rfl
  | some i =>
    simp only
    obtain ⟨e, he1, hele, hns, hi, hie, hw1⟩ := lastIdxF_found _ _ _ _ hl (Nat.le_refl _) (runeStartAt_length z)
    rw [hw1]
    right
    have hzl : LeftOK z := by
      rcases hz with rfl | hz
      · exact absurd (Nat.le_trans he1 hele) (Nat.not_succ_le_zero 0)
      · exact hz
    refine ⟨leftOK_take z e hzl he1, ?_⟩
    have hlen : (z.take e).length = e := by rw [List.length_take, Nat.min_eq_left hele]
    refine ⟨(leftOK_take z e hzl he1).1, hns, ?_⟩
    -- the rune at `i` is decoded from its own bytes, which the cut keeps
    have hne : z.drop i ≠ [] := fun h0 =>
      Nat.not_le.mpr (Nat.lt_of_lt_of_le hie hele) (List.drop_eq_nil_iff.mp h0)
    have hei : e - i = (decodeRune (z.drop i)).2 := by rw [← hw1, Nat.add_sub_cancel_left]
    rw [hlen, ← hi, List.drop_take, hei, decodeRune_take_width _ hne]
    exact hw1

theorem trimFunc_trimmed (s : Bytes) : Trimmed (trimFunc s) :=
  trimRightFunc_trimmed _ (trimLeftF_leftOK _ _)

theorem lastIdxF_append (t : Bytes) : ∀ (f : Nat) (z : Bytes) (e : Nat), e ≤ z.length →
    lastIdxF f (z ++ t) e = lastIdxF f z e := by
  intro f
  induction f with
  | zero => intro z e _; rfl
  | succ f ih =>
    intro z e hle
    by_cases he : e = 0
    · rw [lastIdxF, lastIdxF, if_pos he, if_pos he]
    · have hle' : e ≤ (z ++ t).length := by rw [List.length_append]; exact Nat.le_trans hle (Nat.le_add_right _ _)
      rw [lastIdxF_succ _ _ _ he hle, lastIdxF_succ _ _ _ he hle', List.take_append_of_le_length hle]
      split
      · rfl
      · exact ih z _ (Nat.le_trans (Nat.sub_le _ _) hle)

section TrailingSpace
variable {w : Nat} (hw : w < 0x80) (hs : isAsciiSpace w = true)
include hw

theorem decodeRune_snoc_ascii {s : Bytes} (hne : s ≠ []) : decodeRune (s ++ [w]) = decodeRune s :=
  decodeRune_append_of_not_cont s [w] hne fun x hx => by cases hx; exact isCont_lt hw

include hs

theorem trimLeftF_snoc_space (f : Nat) (s : Bytes) : s.length + 1 ≤ f →
    trimLeftF (f + 1) (s ++ [w]) = (if trimLeftF f s = [] then [] else trimLeftF f s ++ [w]) := by
  fun_induction trimLeftF f s with
  | case1 => nofun
  | case2 =>
    rw [List.nil_append, trimLeftF_cons, decodeRune_ascii [] hw, isSpaceRune_ascii w hw, hs]
    exact fun _ => rfl
  | case3 f c t d h =>
    rw [if_pos h, List.cons_append, trimLeftF_cons, ← List.cons_append, decodeRune_snoc_ascii hw (List.cons_ne_nil c t),
      if_pos h]
    exact fun _ => rfl
  | case4 f c t d h ih =>
    have hsz : 1 ≤ d.2 ∧ d.2 ≤ (c :: t).length := decodeRune_size (c :: t) (List.cons_ne_nil c t)
    rw [if_neg h, List.cons_append, trimLeftF_cons, ← List.cons_append, decodeRune_snoc_ascii hw (List.cons_ne_nil c t),
      if_neg h, List.drop_append_of_le_length hsz.2]
    exact fun hf => ih (by rw [List.length_drop]; omega)

theorem trimLeftFunc_snoc_space (s : Bytes) :
    trimLeftFunc (s ++ [w]) = (if trimLeftFunc s = [] then [] else trimLeftFunc s ++ [w]) := by
  unfold trimLeftFunc
  have := trimLeftF_snoc_space hw hs (s.length + 1) s (Nat.le_refl _)
  simpa using this

theorem trimRightFunc_snoc_space (z : Bytes) : trimRightFunc (z ++ [w]) = trimRightFunc z := by
  have hne : (z ++ [w]).length ≠ 0 := by rw [List.length_append]; exact Nat.succ_ne_zero _
  -- the first step back is over `w`
  rw [trimRightFunc_eq, trimRightFunc_eq, lastIdxF_succ _ _ _ hne (Nat.le_refl _), List.take_length,
    decodeLastRune_snoc_ascii z hw, if_neg (by rw [isSpaceRune_ascii w hw, hs]; exact Bool.false_ne_true),
    List.length_append, List.length_singleton, Nat.add_sub_cancel,
    lastIdxF_append [w] (z.length + 1) z z.length (Nat.le_refl _)]
  cases hl : lastIdxF (z.length + 1) z z.length with
  | none => rfl
  | some i =>
    obtain ⟨e', _, hele, _, _, hlt, hcut⟩ := lastIdxF_found _ _ _ _ hl (Nat.le_refl _) (runeStartAt_length z)
    have hi : i < z.length := Nat.lt_of_lt_of_le hlt hele
    have hne : z.drop i ≠ [] := fun h0 => by
      rw [List.drop_eq_nil_iff] at h0; omega
    -- the rune at `i` is decoded alike with `w` behind it
    show (z ++ [w]).take (i + (decodeRune ((z ++ [w]).drop i)).2) = z.take (i + (decodeRune (z.drop i)).2)
    rw [List.drop_append_of_le_length (Nat.le_of_lt hi), decodeRune_snoc_ascii hw hne, hcut]
    exact List.take_append_of_le_length hele

theorem trimFunc_snoc_space (s : Bytes) : trimFunc (s ++ [w]) = trimFunc s := by
  unfold trimFunc
  rw [trimLeftFunc_snoc_space hw hs]
  by_cases h : trimLeftFunc s = []
  · rw [if_pos h, h]
  · rw [if_neg h, trimRightFunc_snoc_space hw hs]

end TrailingSpace

theorem trimLeftFunc_cons_space {c : Nat} (t : Bytes) (hc : c < 0x80) (hs : isAsciiSpace c = true) :
    trimLeftFunc (c :: t) = trimLeftFunc t := by
  unfold trimLeftFunc
  rw [List.length_cons, trimLeftF_cons, decodeRune_ascii t hc, isSpaceRune_ascii c hc, hs]
  rfl

theorem isSpaceRune_of_not_ascii {c : Nat} (hc : c < 0x80) (hs : ¬ isAsciiSpace c = true) : isSpaceRune c = false := by
  rw [isSpaceRune_ascii c hc]; exact Bool.eq_false_iff.mpr hs

/-- The argument of `trimSpaceBack` is the REVERSED slice; its last byte `c0` is the first byte of the string, a
non-space ASCII byte, where the loop stops at the latest: the backward ASCII loop is `TrimRightFunc` of the string. -/
theorem trimSpaceBack_eq {c0 : Nat} (hc0 : c0 < 0x80) (hs0 : isSpaceRune c0 = false) :
    ∀ r : Bytes, trimSpaceBack (r ++ [c0]) = trimRightFunc (c0 :: r.reverse) := by
  intro r
  induction r with
  | nil =>
    refine Eq.trans ?_ (trimRightFunc_fixed (rightOK_ascii [] c0 hc0 hs0)).symm
    rw [List.nil_append, trimSpaceBack, if_neg (Nat.not_le.mpr hc0), ← isSpaceRune_ascii c0 hc0, hs0]
    rfl
  | cons c r ih =>
    have hrev : (r ++ [c0]).reverse = c0 :: r.reverse := by rw [List.reverse_append]; rfl
    rw [List.cons_append, trimSpaceBack, List.reverse_cons, List.reverse_cons, hrev, ← List.cons_append]
    by_cases hc : c ≥ 0x80
    · have hl : LeftOK (c0 :: r.reverse ++ [c]) := leftOK_ascii c0 (r.reverse ++ [c]) hc0 hs0
      rw [if_pos hc, trimFunc, trimLeftFunc_fixed hl]
    · rw [if_neg hc]
      by_cases hsp : isAsciiSpace c = true
      · rw [if_pos hsp, ih, trimRightFunc_snoc_space (Nat.lt_of_not_le hc) hsp]
      · rw [if_neg hsp, trimRightFunc_fixed
          (rightOK_ascii _ c (Nat.lt_of_not_le hc) (isSpaceRune_of_not_ascii (Nat.lt_of_not_le hc) hsp))]

/-- The cases of `trimSpace`: an empty string; a first byte outside ASCII, where `trimFunc` takes over; an
ASCII space, skipped; another ASCII byte, from which the backward loop runs. -/
theorem trimSpace_eq_trimFunc (x : Bytes) : trimSpace x = trimFunc x := by
  fun_induction trimSpace x with
  | case1 => rfl
  | case2 => rfl
  | case3 c rest hc hsp ih => rw [ih, trimFunc, trimFunc, trimLeftFunc_cons_space rest (Nat.lt_of_not_le hc) hsp]
  | case4 c rest hc hsp =>
    have hs := isSpaceRune_of_not_ascii (Nat.lt_of_not_le hc) hsp
    rw [List.reverse_cons, trimSpaceBack_eq (Nat.lt_of_not_le hc) hs, List.reverse_reverse,
      trimFunc, trimLeftFunc_fixed (leftOK_ascii c rest (Nat.lt_of_not_le hc) hs)]

theorem trimSpace_sub (x : Bytes) : (trimSpace x).Sublist x :=
  trimSpace_eq_trimFunc x ▸ trimFunc_sub x

theorem trimSpace_idem (x : Bytes) : trimSpace (trimSpace x) = trimSpace x := by
  rw [trimSpace_eq_trimFunc, trimSpace_eq_trimFunc]
  exact trimFunc_fixed (trimFunc_trimmed x)

theorem trimSpace_last_not_space (x : Bytes) {b : Nat} (h : (trimSpace x).getLast? = some b) (hb : b < 0x80) :
    isSpaceRune b = false := by
  rw [trimSpace_eq_trimFunc] at h
  rcases trimFunc_trimmed x with h0 | ⟨_, hne, hns, _⟩
  · rw [h0] at h; cases h
  · obtain ⟨r, b', hy⟩ := exists_snoc hne
    rw [hy, List.getLast?_concat] at h
    cases h
    rwa [hy, decodeLastRune_snoc_ascii r hb] at hns

theorem trimSpace_noCR (x : Bytes) : (trimSpace x).getLast? ≠ some 13 :=
  fun h => absurd (trimSpace_last_not_space x h (by decide)) (by decide)

theorem trimSpace_snoc_cr (l : Bytes) : trimSpace (l ++ [13]) = trimSpace l := by
  rw [trimSpace_eq_trimFunc, trimSpace_eq_trimFunc]
  exact trimFunc_snoc_space (by decide) (by decide) l

theorem trimSpace_dropCR (l : Bytes) : trimSpace (dropCR l) = trimSpace l := by
  unfold dropCR
  split
  · rename_i h
    have hne : l ≠ [] := fun h0 => by rw [h0] at h; cases h
    obtain ⟨r, b, rfl⟩ := exists_snoc hne
    rw [List.getLast?_concat] at h
    rw [Option.some.inj h, List.dropLast_concat, trimSpace_snoc_cr]
  · rfl

end AGH.C15
