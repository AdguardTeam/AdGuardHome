/-
C20, byte level: the two newline scans, one `ReadNext` and one `readProbeLine` —
on a position that lies in a line (`LineAt`) and on arbitrary content (overlong
lines, no final newline, empty lines, CRLF, binary garbage).
-/
import AGH.Model.QLogFile
namespace AGH.C20
open AGH

theorem scanBack_le (g : Nat → Nat) (rel : Nat) : scanBack g rel ≤ rel := by
  fun_induction scanBack with
  | case1 => exact Nat.le_refl _
  | case2 => exact Nat.le_refl _
  | case3 r _ ih => exact Nat.le_succ_of_le ih

theorem scanBack_eq (g : Nat → Nat) (s rel : Nat) (hle : s ≤ rel)
    (hbody : ∀ i, s ≤ i → i < rel → g i ≠ 10) (hbef : s = 0 ∨ g (s - 1) = 10) :
    scanBack g rel = s := by
  induction rel with
  | zero => exact (Nat.le_zero.1 hle).symm
  | succ r ih =>
    unfold scanBack
    rcases Nat.lt_or_eq_of_le hle with hlt | rfl
    · rw [if_neg (hbody r (Nat.le_of_lt_succ hlt) (Nat.lt_succ_self r))]
      exact ih (Nat.le_of_lt_succ hlt) (fun i h1 h2 => hbody i h1 (Nat.lt_succ_of_lt h2))
    · rcases hbef with h | h
      · cases h
      · rw [Nat.add_sub_cancel] at h
        rw [if_pos h]

theorem scanFwd_eq (g : Nat → Nat) (e : Nat) (he : g e = 10) :
    ∀ n rel, rel ≤ e → e < rel + n → (∀ i, rel ≤ i → i < e → g i ≠ 10) →
      scanFwd g rel n = some e := by
  intro n
  induction n with
  | zero => intro rel h1 h2; exact absurd h2 (Nat.not_lt.2 h1)
  | succ n ih =>
    intro rel h1 h2 hbody
    unfold scanFwd
    rcases Nat.lt_or_eq_of_le h1 with hlt | rfl
    · rw [if_neg (hbody rel (Nat.le_refl _) hlt)]
      exact ih (rel + 1) hlt (Nat.add_right_comm rel 1 n ▸ Nat.add_assoc rel n 1 ▸ h2)
        (fun i h3 h4 => hbody i (Nat.le_of_succ_le h3) h4)
    · rw [if_pos he]

/-- The line `file[s, e)`, `e` the index of its newline; the reader that returns it next stands at
`position = e`. -/
structure LineAt (f : File) (s e : Nat) : Prop where
  le : s ≤ e
  lt : e < f.size
  nl : f.byte e = 10
  body : ∀ i, s ≤ i → i < e → f.byte i ≠ 10
  before : s = 0 ∨ f.byte (s - 1) = 10

/-- Buffer invariant of a `qLogFile`: a live buffer is the window the code
thinks it is and the position is not beyond it. -/
def Inv (P : Params) (f : File) (q : QState) : Prop :=
  q.hasBuf = true →
    q.position ≤ q.bufStart + P.bufSize ∧ q.bufLen = min P.bufSize (f.size - q.bufStart)

/-- Stated for abstract cells `g` that hold the file bytes from `b` on: it serves both the
`ReadNext` buffer (`bufByte`) and the probe window (`probeWindow`). -/
theorem scanBack_line (f : File) (g : Nat → Nat) (b k rel e : Nat) (hl : LineAt f (b + k) e)
    (hrel1 : k ≤ rel) (hrel2 : b + rel ≤ e) (hg : ∀ i, i < rel → g i = f.byte (b + i)) :
    scanBack g rel = k := by
  apply scanBack_eq g k rel hrel1
  · intro i hi1 hi2
    rw [hg i hi2]
    exact hl.body _ (Nat.add_le_add_left hi1 b) (Nat.lt_of_lt_of_le (Nat.add_lt_add_left hi2 b) hrel2)
  · cases k with
    | zero => exact Or.inl rfl
    | succ k =>
      right
      rw [Nat.add_sub_cancel, hg k (Nat.lt_of_succ_le hrel1)]
      exact hl.before.resolve_left (Nat.succ_ne_zero _)

theorem initBuffer_eq (P : Params) (f : File) (q : QState) (p : Nat) :
    initBuffer P f q p =
      ({ q with hasBuf := true, bufStart := p - P.bufSize,
                bufLen := min P.bufSize (f.size - (p - P.bufSize)) },
       min P.bufSize (f.size - (p - P.bufSize)) != 0) := by
  have : (if p > P.bufSize then p - P.bufSize else 0) = p - P.bufSize := by
    split
    · rfl
    · exact (Nat.sub_eq_zero_of_le (Nat.le_of_not_lt ‹_›)).symm
  simp only [initBuffer, this]

/-- `ReadNext` once its buffer `w.1` is decided (a refill, `w.2 = false` if it read nothing, or the
live one) and holds the position at offset `rel`. -/
theorem readNext_eq (P : Params) (f : File) (q : QState) (h0 : q.position ≠ 0) (w : QState × Bool)
    (rel : Nat)
    (hw : (if (!q.hasBuf || (decide (q.position < q.bufStart + P.maxEntry) && q.bufStart != 0)) = true
           then initBuffer P f q q.position else (q, true)) = w)
    (hp : q.position = w.1.bufStart + rel) (hrel : rel ≤ P.bufSize) :
    readNext P f q =
      if w.2 = false then (w.1, .error .eof)
      else ({ w.1 with position := w.1.bufStart + scanBack (bufByte f w.1) rel - 1 },
            .ok (w.1.bufStart + scanBack (bufByte f w.1) rel, q.position)) := by
  have hpred : ∀ a : Nat, (if a = 0 then 0 else a - 1) = a - 1 := by
    intro a; split
    · subst a; rfl
    · rfl
  unfold readNext readNextLine
  simp only [if_neg h0, hw, Nat.sub_eq_of_eq_add' hp, if_neg (Nat.not_lt.2 hrel), ← hp, hpred]
  obtain ⟨q1, _ | _⟩ := w <;> rfl

/-- A window of `B` cells that ends at `p`, or starts at 0 when `p` is nearer than that. -/
theorem window_split (p B : Nat) : ∃ b rel, b = p - B ∧ p = b + rel ∧ rel ≤ B ∧ (b = 0 ∨ rel = B) := by
  rcases Nat.le_total p B with h | h
  · exact ⟨0, p, (Nat.sub_eq_zero_of_le h).symm, (Nat.zero_add p).symm, h, Or.inl rfl⟩
  · exact ⟨p - B, B, rfl, (Nat.sub_add_cancel h).symm, Nat.le_refl B, Or.inr rfl⟩

/-- Why one buffer is enough: a window that starts at 0, or at least `M` cells before the
position, reaches back to the start of any line shorter than `M` that the position lies in. -/
theorem window_line (b rel M s e : Nat) (hw : b = 0 ∨ M ≤ rel) (h1 : s ≤ b + rel) (h2 : b + rel ≤ e)
    (hlen : e - s < M) : ∃ k, s = b + k ∧ k ≤ rel := by
  have hb : b ≤ s := by
    rcases hw with h | h
    · exact h ▸ Nat.zero_le s
    · exact Nat.le_of_lt (Nat.lt_of_add_lt_add_right (Nat.lt_of_le_of_lt
        (Nat.le_trans (Nat.add_le_add_left h b) h2)
        ((Nat.sub_lt_iff_lt_add' (Nat.le_trans h1 h2)).1 hlen)))
  obtain ⟨k, rfl⟩ := Nat.exists_eq_add_of_le hb
  exact ⟨k, rfl, Nat.le_of_add_le_add_left h1⟩

theorem bufByte_eq (P : Params) (f : File) (q : QState) (i : Nat)
    (hlen : q.bufLen = min P.bufSize (f.size - q.bufStart)) (h1 : i < P.bufSize)
    (h2 : q.bufStart + i < f.size) : bufByte f q i = f.byte (q.bufStart + i) := by
  unfold bufByte
  rw [if_pos (hlen ▸ Nat.lt_min.2 ⟨h1, Nat.lt_sub_of_add_lt (Nat.add_comm _ _ ▸ h2)⟩)]

/-- `ReadNext` on any content: the two ways it gets its buffer (a refill, the live one) brought
to one form — a sound buffer `q1` holding the position at offset `rel`. -/
theorem readNext_window (P : Params) (f : File) (q : QState) (hinv : Inv P f q)
    (h0 : q.position ≠ 0) :
    ∃ q1 rel, q1.position = q.position ∧ q1.bufLen = min P.bufSize (f.size - q1.bufStart) ∧
      q.position = q1.bufStart + rel ∧ rel ≤ P.bufSize ∧
      (q1.bufStart = 0 ∨ P.maxEntry ≤ rel ∨ rel = P.bufSize) ∧
      (readNext P f q =
          ({ q1 with position := q1.bufStart + scanBack (bufByte f q1) rel - 1 },
           .ok (q1.bufStart + scanBack (bufByte f q1) rel, q.position)) ∨
       readNext P f q = (q1, .error .eof) ∧ q1.bufLen = 0) := by
  by_cases hinit : (!q.hasBuf || (decide (q.position < q.bufStart + P.maxEntry) && q.bufStart != 0)) = true
  · obtain ⟨b, rel, hb, hp, hrel, hor⟩ := window_split q.position P.bufSize
    refine ⟨{ q with hasBuf := true, bufStart := b, bufLen := min P.bufSize (f.size - b) }, rel,
      rfl, rfl, hp, hrel, hor.imp_right Or.inr, ?_⟩
    rw [readNext_eq P f q h0 _ rel (by rw [if_pos hinit, initBuffer_eq, ← hb]) hp hrel]
    by_cases hn : min P.bufSize (f.size - b) = 0
    · exact Or.inr ⟨by simp [hn], hn⟩
    · exact Or.inl (if_neg (by simpa using hn))
  · have heq := readNext_eq P f q h0 _ (q.position - q.bufStart) (if_neg hinit)
    simp only [Bool.or_eq_true, Bool.not_eq_true', Bool.and_eq_true, decide_eq_true_eq, bne_iff_ne,
      not_or, not_and, Bool.not_eq_false, Decidable.not_not] at hinit
    obtain ⟨hcap, hlen⟩ := hinv hinit.1
    have hb : q.bufStart = 0 ∨ q.bufStart + P.maxEntry ≤ q.position :=
      (Nat.lt_or_ge q.position (q.bufStart + P.maxEntry)).imp hinit.2 id
    have hle : q.bufStart ≤ q.position := by
      rcases hb with h | h
      · rw [h]; exact Nat.zero_le _
      · exact Nat.le_trans (Nat.le_add_right _ _) h
    have hp := (Nat.add_sub_of_le hle).symm
    have hrel := Nat.sub_le_iff_le_add'.2 hcap
    exact ⟨q, q.position - q.bufStart, rfl, hlen, hp, hrel,
      hb.imp_right (fun h => Or.inl (Nat.le_sub_of_add_le' h)), Or.inl (heq hp hrel)⟩

theorem readNext_line (P : Params) (f : File) (q : QState) (s e : Nat)
    (hP : P.maxEntry ≤ P.bufSize) (hl : LineAt f s e) (hlen : e - s < P.maxEntry)
    (hpos : q.position = e) (he : 0 < e) (hinv : Inv P f q) :
    ∃ q', readNext P f q = (q', .ok (s, e)) ∧ q'.position = s - 1 ∧ Inv P f q' := by
  obtain ⟨q1, rel, _, hlenb, hp, hrel, hbs, hres⟩ :=
    readNext_window P f q hinv (by rw [hpos]; exact Nat.ne_of_gt he)
  rw [hpos] at hp hres
  subst hp
  obtain ⟨k, rfl, hk⟩ := window_line q1.bufStart rel P.maxEntry s _
    (hbs.imp_right fun h => h.elim id (fun h => h ▸ hP)) hl.le (Nat.le_refl _) hlen
  have hg : ∀ i, i < rel → bufByte f q1 i = f.byte (q1.bufStart + i) := fun i hi =>
    bufByte_eq P f q1 i hlenb (Nat.lt_of_lt_of_le hi hrel)
      (Nat.lt_trans (Nat.add_lt_add_left hi _) hl.lt)
  rcases hres with h | ⟨_, h0⟩
  · rw [scanBack_line f _ q1.bufStart k rel _ hl hk (Nat.le_refl _) hg] at h
    exact ⟨_, h, rfl, fun _ =>
      ⟨Nat.le_trans (Nat.sub_le _ _) (Nat.add_le_add_left (Nat.le_trans hk hrel) _), hlenb⟩⟩
  · have : 0 < min P.bufSize (f.size - q1.bufStart) :=
      Nat.lt_min.2 ⟨Nat.lt_of_lt_of_le (Nat.pos_of_ne_zero fun h => absurd (h ▸ hlen) (Nat.not_lt_zero _)) hP,
        Nat.sub_pos_of_lt (Nat.lt_of_le_of_lt (Nat.le_add_right _ _) hl.lt)⟩
    rw [← hlenb, h0] at this
    exact absurd this (Nat.lt_irrefl 0)

theorem pred_lt_of_le (a p : Nat) (ha : a ≤ p) (hp : p ≠ 0) : a - 1 < p := by
  cases a with
  | zero => exact Nat.pos_of_ne_zero hp
  | succ a => exact Nat.lt_of_succ_le ha

theorem readNext_eof (P : Params) (f : File) (q : QState) (h : q.position = 0) :
    readNext P f q = (q, .error .eof) := by
  unfold readNext
  rw [if_pos h]

theorem readNext_any (P : Params) (f : File) (q : QState) (hinv : Inv P f q) :
    ∃ q' res, readNext P f q = (q', res) ∧ Inv P f q' ∧ q'.position ≤ q.position ∧
      (∀ e, res = .error e → e = .eof) ∧
      (q.position = 0 → res = .error .eof) ∧
      ∀ a b, res = .ok (a, b) → a ≤ b ∧ b = q.position ∧ q'.position < q.position := by
  by_cases h0 : q.position = 0
  · exact ⟨q, .error .eof, readNext_eof P f q h0, hinv, Nat.le_refl _,
      (by intro e h; cases h; rfl), fun _ => rfl, (by intro a b h; cases h)⟩
  · obtain ⟨q1, rel, hq1, hlenb, hp, hrel, _, hres⟩ := readNext_window P f q hinv h0
    have ha : q1.bufStart + scanBack (bufByte f q1) rel ≤ q.position :=
      hp ▸ Nat.add_le_add_left (scanBack_le _ rel) _
    have hcap : q.position ≤ q1.bufStart + P.bufSize := hp ▸ Nat.add_le_add_left hrel _
    rcases hres with h | ⟨h, _⟩
    · refine ⟨_, _, h, fun _ => ⟨Nat.le_trans (Nat.sub_le _ _) (Nat.le_trans ha hcap), hlenb⟩,
        Nat.le_trans (Nat.sub_le _ _) ha, (by intro e h; cases h), fun h => absurd h h0, ?_⟩
      intro a b hab
      simp only [Except.ok.injEq, Prod.mk.injEq] at hab
      obtain ⟨rfl, rfl⟩ := hab
      exact ⟨ha, rfl, pred_lt_of_le _ _ ha h0⟩
    · exact ⟨q1, .error .eof, h, fun _ => ⟨hq1 ▸ hcap, hlenb⟩, Nat.le_of_eq hq1,
        (by intro e h; cases h; rfl), fun h => absurd h h0, (by intro a b h; cases h)⟩

theorem fReadMany_terminates (P : Params) (f : File) :
    ∀ (n : Nat) (q : QState) (acc : List (Nat × Nat)), Inv P f q → q.position < n →
      (fReadMany P f n q acc).2.2 = some .eof := by
  intro n
  induction n with
  | zero => intro q acc _ h; exact absurd h (Nat.not_lt_zero _)
  | succ n ih =>
    intro q acc hinv hlt
    obtain ⟨q', res, h1, h2, h3, h4, h5, h6⟩ := readNext_any P f q hinv
    rw [fReadMany, h1]
    cases res with
    | error e =>
      exact congrArg some (h4 e rfl)
    | ok ab =>
      obtain ⟨a, b⟩ := ab
      exact ih q' ((a, b) :: acc) h2 (Nat.lt_of_lt_of_le (h6 a b rfl).2.2 (Nat.le_of_lt_succ hlt))

/-- The source's case `p ≤ maxEntry` absorbed into truncated subtraction: the probe reads
`2·maxEntry` bytes (fewer at the file end) from `p - maxEntry`. -/
theorem readProbeLine_eq (P : Params) (f : File) (p : Nat) :
    readProbeLine P f p =
      if min (2 * P.maxEntry) (f.size - (p - P.maxEntry)) = 0 then .error .eof
      else probeScan (probeWindow f (p - P.maxEntry) (min (2 * P.maxEntry) (f.size - (p - P.maxEntry))))
        (p - P.maxEntry) (p - (p - P.maxEntry)) (min (2 * P.maxEntry) (f.size - (p - P.maxEntry))) := by
  unfold readProbeLine
  by_cases hp : p > P.maxEntry
  · simp only [if_pos hp, Nat.sub_sub_self (Nat.le_of_lt hp)]
  · simp only [if_neg hp, Nat.sub_eq_zero_of_le (Nat.le_of_not_lt hp), Nat.sub_zero]

theorem readProbeLine_error (P : Params) (f : File) (p : Nat) (e : Err) :
    readProbeLine P f p = .error e → e = .eof ∨ e = .panic := by
  rw [readProbeLine_eq]
  split
  · intro h; cases h; exact Or.inl rfl
  · fun_cases probeScan with
    | case1 => intro h; cases h; exact Or.inr rfl
    | case2 => intro h; cases h

theorem probeScan_line (f : File) (sp rel bl k m : Nat) (hl : LineAt f (sp + k) (sp + (k + m)))
    (hrel1 : k ≤ rel) (hrel2 : rel ≤ k + m) (heb : k + m < bl) :
    probeScan (probeWindow f sp bl) sp rel bl = .ok (sp + k, sp + (k + m), sp + (k + m) + 1) := by
  have hg : ∀ i, i < bl → probeWindow f sp bl i = f.byte (sp + i) := by
    intro i hi
    unfold probeWindow
    rw [if_pos hi]
  have hrelbl : rel < bl := Nat.lt_of_le_of_lt hrel2 heb
  have hback : scanBack (probeWindow f sp bl) rel = k :=
    scanBack_line f _ sp k rel _ hl hrel1 (Nat.add_le_add_left hrel2 sp)
      (fun i hi => hg i (Nat.lt_trans hi hrelbl))
  have hfwd : scanFwd (probeWindow f sp bl) rel (bl - rel) = some (k + m) := by
    apply scanFwd_eq _ _ (by rw [hg _ heb]; exact hl.nl) _ _ hrel2
      (by rw [Nat.add_sub_of_le (Nat.le_of_lt hrelbl)]; exact heb)
    intro i hi1 hi2
    rw [hg i (Nat.lt_trans hi2 heb)]
    exact hl.body _ (Nat.add_le_add_left (Nat.le_trans hrel1 hi1) sp) (Nat.add_lt_add_left hi2 sp)
  unfold probeScan
  rw [hfwd, hback]
  simp only [if_neg (Nat.not_lt.2 (Nat.le_add_right k m)), Nat.add_comm k sp, Nat.add_comm (k + m) sp]

theorem readProbeLine_line (P : Params) (f : File) (s e p : Nat)
    (hl : LineAt f s e) (hlen : e - s < P.maxEntry) (h1 : s ≤ p) (h2 : p ≤ e) :
    readProbeLine P f p = .ok (s, e, e + 1) := by
  obtain ⟨sp, rel, hsp, rfl, hrelM, hrel⟩ := window_split p P.maxEntry
  obtain ⟨k, rfl, hk⟩ := window_line sp rel P.maxEntry s e
    (hrel.imp_right fun h => Nat.le_of_eq h.symm) h1 h2 hlen
  obtain ⟨m, rfl⟩ := Nat.exists_eq_add_of_le hl.le
  rw [Nat.add_sub_cancel_left] at hlen
  rw [Nat.add_assoc] at hl h2 ⊢
  have heb : k + m < min (2 * P.maxEntry) (f.size - sp) :=
    Nat.lt_min.2 ⟨Nat.two_mul _ ▸ Nat.add_lt_add_of_le_of_lt (Nat.le_trans hk hrelM) hlen,
      Nat.lt_sub_of_add_lt (Nat.add_comm _ _ ▸ hl.lt)⟩
  rw [readProbeLine_eq, ← hsp, Nat.add_sub_cancel_left,
    if_neg (Nat.ne_of_gt (Nat.lt_of_le_of_lt (Nat.zero_le _) heb))]
  exact probeScan_line f _ _ _ k m hl hk (Nat.le_of_add_le_add_left h2) heb

theorem probeScan_end (f : File) (seekPos rel : Nat) (hrel0 : 0 < rel)
    (hnl : f.byte (seekPos + rel - 1) = 10) :
    probeScan (probeWindow f seekPos rel) seekPos rel rel = .ok (seekPos + rel, seekPos + rel, seekPos + rel) := by
  have hback : scanBack (probeWindow f seekPos rel) rel = rel := by
    apply scanBack_eq _ _ _ (Nat.le_refl _)
    · intro i hi1 hi2
      exact absurd hi2 (Nat.not_lt.2 hi1)
    · right
      unfold probeWindow
      rw [if_pos (Nat.sub_lt hrel0 Nat.one_pos), ← Nat.add_sub_assoc hrel0]
      exact hnl
  unfold probeScan
  rw [hback, Nat.sub_self]
  simp only [scanFwd, if_neg (Nat.lt_irrefl rel), Nat.add_comm rel seekPos]

theorem readProbeLine_end (P : Params) (f : File) (p : Nat) (hM : 0 < P.maxEntry) (hp : f.size = p)
    (h0 : 0 < p) (hnl : f.byte (p - 1) = 10) :
    readProbeLine P f p = .ok (p, p, p) := by
  -- the window is `[sp, p)`, `rel ≤ maxEntry` bytes
  obtain ⟨sp, rel, hsp, rfl, hrelM, hrel⟩ := window_split p P.maxEntry
  have hpos : 0 < rel := by
    rcases hrel with h | h
    · rwa [h, Nat.zero_add] at h0
    · exact h ▸ hM
  rw [readProbeLine_eq, ← hsp, hp, Nat.add_sub_cancel_left,
    Nat.min_eq_right (Nat.le_trans hrelM (Nat.le_mul_of_pos_left _ (by decide))),
    if_neg (Nat.ne_of_gt hpos)]
  exact probeScan_end f sp rel hpos hnl

end AGH.C20
