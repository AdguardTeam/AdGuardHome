/-
C15 helper lemmas about the parser, `bytes.TrimSpace` a black box.  The
`for s.Scan()` loop in terms of the trimmed lines it keeps (`keptLines`): when
it succeeds and what it then writes (`runLines_ok_iff`, `runLines_ok_out`).
`bufio.ScanLines` in closed form: its tokens are `tokensOf` of the LF-separated
segments of the text (`scanLines_eq`).  `parse` is the loop over those tokens
(`parse_short`), and fails on an over-long line or a body cut short at any
byte (`parse_long`, `parse_incomplete`).
-/
import AGH.Spec.RuleList
namespace AGH.C15
open AGH AGH.Bytes

def kept (t : Bytes) : Bool := isContent t

theorem binIdx_none_iff (t : Bytes) (i : Nat) : binIdx t i = none ↔ t.any likelyBinary = false := by
  fun_induction binIdx t i with
  | case1 => exact iff_of_true rfl rfl
  | case2 c s i h => rw [List.any_cons, h]; exact iff_of_false nofun nofun
  | case3 c s i h ih => rw [List.any_cons, Bool.eq_false_iff.mpr h]; exact ih

theorem isContent_cons_eq_false {c : Nat} {s : Bytes} : isContent (c :: s) = false ↔ c = 35 ∨ c = 33 := by
  simp only [isContent, Bool.and_eq_false_iff, bne_eq_false_iff_eq]

theorem parseLine_skip (st : PState) (t : Bytes) (hc : isContent t = false) :
    ∃ st', (if st.titleFound = true then (st, parseLine t) else parseLineTitle st t) = (st', none, false) ∧
      st'.count = st.count ∧ st'.written = st.written ∧ st'.crc = st.crc := by
  cases t with
  | nil => exact ⟨st, by split <;> rfl, rfl, rfl, rfl⟩
  | cons c s =>
    have hc' := isContent_cons_eq_false.mp hc
    by_cases htf : st.titleFound = true
    · rw [if_pos htf]
      exact ⟨st, congrArg (Prod.mk st) (if_pos hc'), rfl, rfl, rfl⟩
    · rw [if_neg htf, parseLineTitle]
      by_cases h35 : c = 35
      · rw [if_pos h35]; exact ⟨st, rfl, rfl, rfl, rfl⟩
      · have h33 : c = 33 := hc'.resolve_left h35
        rw [if_neg h35, if_neg (not_not_intro h33)]
        split
        · exact ⟨st, rfl, rfl, rfl, rfl⟩
        · dsimp only
          split
          · exact ⟨st, rfl, rfl, rfl, rfl⟩
          · exact ⟨_, rfl, rfl, rfl, rfl⟩

theorem parseLine_content (st : PState) (t : Bytes) (hc : isContent t = true) :
    (if st.titleFound = true then (st, parseLine t) else parseLineTitle st t) =
      (st, match binIdx t 0 with | some i => (some i, false) | none => (none, true)) := by
  cases t with
  | nil => cases hc
  | cons c s =>
    have hc' := mt isContent_cons_eq_false.mpr ((Bool.not_eq_false _).mpr hc)
    by_cases htf : st.titleFound = true
    · rw [if_pos htf]
      refine congrArg (Prod.mk st) ((if_neg hc').trans ?_)
      cases binIdx (c :: s) 0 <;> rfl
    · rw [if_neg htf]
      refine (if_neg (not_or.mp hc').1).trans ((if_pos (not_or.mp hc').2).trans ?_)
      cases binIdx (c :: s) 0 <;> rfl

theorem hasPrefixFold_head {c a : Nat} {s p : Bytes} (h : hasPrefixFold (c :: s) (a :: p) = true) :
    lowerB c = a := by
  simp only [hasPrefixFold, List.length_cons, List.take_succ_cons, lower, List.map_cons, Bool.and_eq_true,
    beq_iff_eq, List.cons.injEq] at h
  exact h.2.1

/-- Both HTML openers start with `<`; a blank line or a comment does not. -/
theorem isHTMLLine_noncontent (t : Bytes) (h : isContent t = false) : isHTMLLine t = false := by
  cases t with
  | nil => rfl
  | cons c s =>
    have hl : lowerB c ≠ 60 := by
      rcases isContent_cons_eq_false.mp h with rfl | rfl <;> decide
    cases hx : isHTMLLine (c :: s) with
    | false => rfl
    | true =>
      rw [isHTMLLine, Bool.or_eq_true] at hx
      exact absurd (hx.elim hasPrefixFold_head hasPrefixFold_head) hl

theorem processLine_skip (st : PState) (line : Bytes) (n : Nat) (hc : isContent (trimSpace line) = false) :
    ∃ st', processLine st line n = .ok (st', []) ∧ st'.count = st.count ∧ st'.written = st.written ∧
      st'.crc = st.crc := by
  obtain ⟨st', h, h1, h2, h3⟩ := parseLine_skip st _ hc
  refine ⟨st', ?_, h1, h2, h3⟩
  unfold processLine
  simp only [isHTMLLine_noncontent _ hc, Bool.false_eq_true, and_false, if_false, h]
  rfl

def bump (st : PState) (t : Bytes) : PState :=
  { st with count := st.count + 1, crc := crcUpdate st.crc t, written := st.written + (t.length + 1) }

theorem processLine_content (st : PState) (line : Bytes) (n : Nat) (hc : isContent (trimSpace line) = true) :
    processLine st line n =
      if st.written = 0 ∧ isHTMLLine (trimSpace line) = true then .error .html
      else match binIdx (trimSpace line) 0 with
        | some bad => .error (.binary n (bad + (indexOf (trimSpace line) line 0).getD 0 + 1) ((trimSpace line).getD bad 0))
        | none => .ok (bump st (trimSpace line), trimSpace line ++ [nl]) := by
  unfold processLine
  simp only [parseLine_content st _ hc]
  split
  · rfl
  · cases binIdx (trimSpace line) 0 <;> rfl

def keptLines (ls : List Bytes) : List Bytes := (ls.map trimSpace).filter isContent

theorem specLines_eq_keptLines (src : Bytes) : specLines src = keptLines (splitOn nl src) := rfl

theorem mem_specLines {src k : Bytes} :
    k ∈ specLines src ↔ (∃ l ∈ splitOn nl src, trimSpace l = k) ∧ isContent k = true :=
  List.mem_filter.trans (and_congr_left fun _ => List.mem_map)

theorem keptLines_append (as bs : List Bytes) : keptLines (as ++ bs) = keptLines as ++ keptLines bs := by
  rw [keptLines, List.map_append, List.filter_append]
  rfl

theorem keptLines_cons (l : Bytes) (ls : List Bytes) :
    keptLines (l :: ls) = if isContent (trimSpace l) = true then trimSpace l :: keptLines ls else keptLines ls :=
  List.filter_cons

theorem keptLines_of_normal {ks : List Bytes} (h : ∀ k ∈ ks, trimSpace k = k ∧ isContent k = true) :
    keptLines ks = ks := by
  unfold keptLines
  rw [List.map_congr_left (g := id) (fun k hk => (h k hk).1), List.map_id,
    List.filter_eq_self.mpr (fun k hk => (h k hk).2)]

theorem runLines_cons_ok {st st' : PState} {l w : Bytes} {n : Nat} (h : processLine st l n = .ok (st', w))
    (out : Bytes) (ls : List Bytes) (e : ScanEnd) :
    runLines st out (l :: ls) n e = runLines st' (out ++ w) ls (n + 1) e := by
  rw [runLines, h]

theorem runLines_cons_error {st : PState} {l : Bytes} {n : Nat} {er : PErr} (h : processLine st l n = .error er)
    (out : Bytes) (ls : List Bytes) (e : ScanEnd) : runLines st out (l :: ls) n e = ⟨st, out, some er⟩ := by
  rw [runLines, h]

/-- One induction over the lines for both facts about the loop: when it succeeds, and what it has then written. -/
theorem runLines_ok {ls : List Bytes} {st : PState} {out : Bytes} {n : Nat} {e : ScanEnd} :
    ((runLines st out ls n e).err = none ↔ e = .eof ∧
      (∀ k ∈ keptLines ls, k.any likelyBinary = false) ∧
      (st.written = 0 → ∀ k rest, keptLines ls = k :: rest → isHTMLLine k = false)) ∧
    ((runLines st out ls n e).err = none →
      (runLines st out ls n e).out = out ++ joinLines (keptLines ls) ∧
      (runLines st out ls n e).st.count = st.count + (keptLines ls).length ∧
      (runLines st out ls n e).st.crc = crcLines st.crc (keptLines ls)) := by
  induction ls generalizing st out n with
  | nil =>
    refine ⟨⟨fun h => ⟨?_, nofun, fun _ _ _ h => nomatch h⟩, fun h => h.1 ▸ rfl⟩, fun _ => ⟨(List.append_nil _).symm, rfl, rfl⟩⟩
    cases e with
    | eof => rfl
    | tooLong => cases h
    | readErr => cases h
  | cons l ls ih =>
    rw [keptLines_cons]
    by_cases hc : isContent (trimSpace l) = true
    · rw [if_pos hc]
      have hp := processLine_content st l n hc
      by_cases hh : st.written = 0 ∧ isHTMLLine (trimSpace l) = true
      · rw [if_pos hh] at hp
        rw [runLines_cons_error hp]
        refine ⟨⟨nofun, fun h => ?_⟩, nofun⟩
        rw [h.2.2 hh.1 _ _ rfl] at hh; cases hh.2
      · rw [if_neg hh] at hp
        cases hb : binIdx (trimSpace l) 0 with
        | some bad =>
          rw [hb] at hp
          rw [runLines_cons_error hp]
          refine ⟨⟨nofun, fun h => ?_⟩, nofun⟩
          rw [(binIdx_none_iff _ 0).mpr (h.2.1 _ List.mem_cons_self)] at hb; cases hb
        | none =>
          rw [hb] at hp
          rw [runLines_cons_ok hp]
          obtain ⟨ihi, ihc⟩ := @ih (bump st (trimSpace l)) (out ++ (trimSpace l ++ [nl])) (n + 1)
          -- a line has been written, so `written ≠ 0` from here on: the HTML test bears on the first kept line only
          have hw : (bump st (trimSpace l)).written ≠ 0 := Nat.succ_ne_zero _
          refine ⟨ihi.trans (and_congr_right fun _ => ⟨fun h => ⟨List.forall_mem_cons.mpr ⟨(binIdx_none_iff _ 0).mp hb, h.1⟩, fun hw0 k rest hk => ?_⟩,
            fun h => ⟨fun k hk => h.1 k (List.mem_cons_of_mem _ hk), fun h0 => absurd h0 hw⟩⟩), fun h => ?_⟩
          · cases hk
            exact Bool.eq_false_iff.mpr fun hx => hh ⟨hw0, hx⟩
          · obtain ⟨h1, h2, h3⟩ := ihc h
            refine ⟨h1.trans ?_, h2.trans ?_, h3⟩
            · rw [List.append_assoc, List.append_assoc]; rfl
            · show st.count + 1 + _ = st.count + (_ + 1)
              omega
    · rw [if_neg hc]
      obtain ⟨st', hp, h1, h2, h3⟩ := processLine_skip st l n (Bool.eq_false_iff.mpr hc)
      rw [runLines_cons_ok hp, ← h1, ← h2, ← h3, List.append_nil]
      exact ih

theorem runLines_ok_iff {ls : List Bytes} {st : PState} {out : Bytes} {n : Nat} {e : ScanEnd} :
    (runLines st out ls n e).err = none ↔ e = .eof ∧
      (∀ k ∈ keptLines ls, k.any likelyBinary = false) ∧
      (st.written = 0 → ∀ k rest, keptLines ls = k :: rest → isHTMLLine k = false) :=
  runLines_ok.1

theorem runLines_ok_out {ls : List Bytes} {st : PState} {out : Bytes} {n : Nat} {e : ScanEnd}
    (h : (runLines st out ls n e).err = none) :
    (runLines st out ls n e).out = out ++ joinLines (keptLines ls) ∧
    (runLines st out ls n e).st.count = st.count + (keptLines ls).length ∧
    (runLines st out ls n e).st.crc = crcLines st.crc (keptLines ls) :=
  runLines_ok.2 h

theorem splitOn_splitNL : ∀ (s : Bytes),
    splitOn nl s = (splitNL s).1 :: (if (splitNL s).2.2 = true then splitOn nl (splitNL s).2.1 else []) := by
  intro s
  induction s with
  | nil => simp [splitOn, splitNL]
  | cons c t ih =>
    by_cases hc : c = nl
    · subst hc; simp [splitOn, splitNL]
    · have h1 : splitNL (c :: t) = (c :: (splitNL t).1, (splitNL t).2.1, (splitNL t).2.2) := by
        simp [splitNL, hc]
      rw [h1]
      simp only
      simp [splitOn, hc, ih]

theorem splitNL_found_len (s : Bytes) : (splitNL s).2.2 = true → (splitNL s).2.1.length + 1 ≤ s.length := by
  fun_induction splitNL s with
  | case1 => nofun
  | case2 s => exact fun _ => Nat.le_refl _
  | case3 c s _ r ih => exact fun h => Nat.le_succ_of_le (ih h)

/-- The tokens `bufio.ScanLines` cuts from a text with LF-separated segments
`segs`: each segment without its trailing CR, except an empty last one (the
text is empty or ends in LF). -/
def tokensOf : List Bytes → List Bytes
  | [] => []
  | [s] => if s = [] then [] else [dropCR s]
  | s :: rest => dropCR s :: tokensOf rest

theorem tokensOf_cons (s : Bytes) {rest : List Bytes} (h : rest ≠ []) :
    tokensOf (s :: rest) = dropCR s :: tokensOf rest := by
  cases rest with
  | nil => exact absurd rfl h
  | cons _ _ => rfl

theorem splitNL_not_found {a : Nat} {s : Bytes} (h : (splitNL (a :: s)).2.2 = false) : (splitNL (a :: s)).1 ≠ [] := by
  unfold splitNL at h ⊢
  split
  · rename_i hc; rw [if_pos hc] at h; cases h
  · exact List.cons_ne_nil _ _

/-- The cases of `scanLines`: no fuel; an empty text; a first segment of `maxToken` bytes or more; a
line feed found, and the scan goes on behind it; the last segment. -/
theorem scanLines_eq (c : Bool) (f : Nat) (data : Bytes) : data.length < f →
    ((∀ l ∈ splitOn nl data, l.length < maxToken) →
      scanLines f data c = (tokensOf (splitOn nl data), if c then .eof else .readErr)) ∧
    ((¬ ∀ l ∈ splitOn nl data, l.length < maxToken) → (scanLines f data c).2 = .tooLong) := by
  fun_induction scanLines f data c with
  | case1 => intro h; cases h
  | case2 => exact fun _ => ⟨fun _ => rfl, fun h => absurd (by decide) h⟩
  | case3 f c a s sp h1 =>
    rw [splitOn_splitNL]
    exact fun _ => ⟨fun h => absurd (h _ List.mem_cons_self) (Nat.not_lt.mpr h1), fun _ => if_pos h1 ▸ rfl⟩
  | case4 f c a s sp h1 h2 ih =>
    intro hf
    rw [splitOn_splitNL, if_pos h2, tokensOf_cons _ (splitOn_ne_nil nl _)]
    dsimp only
    rw [if_neg h1, if_pos h2]
    obtain ⟨ihs, ihl⟩ :=
      ih (Nat.lt_of_lt_of_le (Nat.lt_of_succ_le (splitNL_found_len (a :: s) h2)) (Nat.le_of_lt_succ hf))
    refine ⟨fun h => ?_, fun h => ihl fun hall => h ?_⟩
    · rw [ihs fun l hl => h l (List.mem_cons_of_mem _ hl)]
    · exact List.forall_mem_cons.mpr ⟨Nat.lt_of_not_le h1, hall⟩
  | case5 f c a s sp h1 h2 =>
    intro _
    rw [splitOn_splitNL, if_neg h2]
    dsimp only
    rw [if_neg h1, if_neg h2]
    refine ⟨fun _ => ?_, fun h => absurd (fun l hl => ?_) h⟩
    · exact congrArg (·, _) (if_neg (splitNL_not_found (Bool.eq_false_iff.mpr h2))).symm
    · rw [List.mem_singleton.mp hl]; exact Nat.lt_of_not_le h1

theorem parse_ok_eof {src : Bytes} {c : Bool} (h : (parse src c).err = none) :
    (scanLines (src.length + 1) src c).2 = .eof :=
  (runLines_ok_iff.mp h).1

theorem parse_short {src : Bytes} (hs : ∀ l ∈ splitOn nl src, l.length < maxToken) :
    parse src true = runLines PState.init [] (tokensOf (splitOn nl src)) 1 .eof := by
  rw [parse, (scanLines_eq true _ src (Nat.lt_succ_self _)).1 hs]
  rfl

theorem parse_long {src : Bytes} {c : Bool} (hs : ¬ ∀ l ∈ splitOn nl src, l.length < maxToken) :
    (parse src c).err ≠ none := by
  intro h
  have he := parse_ok_eof h
  rw [(scanLines_eq c _ src (Nat.lt_succ_self _)).2 hs] at he; cases he

theorem parse_incomplete (data : Bytes) : (parse data false).err ≠ none := by
  intro h
  have he := parse_ok_eof h
  by_cases hs : ∀ l ∈ splitOn nl data, l.length < maxToken
  · rw [(scanLines_eq false _ data (Nat.lt_succ_self _)).1 hs] at he; cases he
  · exact parse_long hs h

end AGH.C15
