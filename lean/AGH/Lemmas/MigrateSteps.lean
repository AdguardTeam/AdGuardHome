/-
C13: what every step does to its input — it does not panic on a non-nil map, the result is
a map stamped with the step's number, and it differs from the input only on the paths
`touched n`, at every depth.

`Fr fp rp a b` is the spec's frame between two documents in memory; a step is judged by
`Safe (Fr fp rp d)` (the rules of `Lemmas/Migrate.lean`).  `Fr` is reflexive and transitive, and every
write a step makes (`setK`, `putK`, `delK`, and `moveVal`, `moves`, `mapM'` built from them)
frames the map it is applied to as soon as the key written is concerned.  So the frame of a
step is read off its text, branch by branch; what is left is that the keys written are among
the concrete paths `touched n`, which is evaluated.  That a map written into is not nil comes
from where it was read (`fieldVal_obj_ok`) or from the frame itself (`Fr.isObj`); the stamp and
the top-level keys a step leaves alone are read off the frame at the root (`Fr.top`).
-/
import AGH.Lemmas.MigrateFrame
namespace AGH.C13
open AGH

/-- Below the (reversed) path `rp`, the document `b` differs from `a` only on the paths `fp`; both as
they are in memory.  What is read back of them differs no more (`frameV_er`). -/
def Fr (fp : List Path) (rp : Path) (a b : YVal) : Prop := frameV fp rp a (some b) = true

section
variable {fp : List Path} {rp : Path} {a b c d m m' v src dst s' d' : YVal} {k k' sk dk : Key}
  {T : Ty} {e : Bool}

theorem Fr.refl : Fr fp rp a a := frameV_self fp rp _

theorem Fr.trans (h1 : Fr fp rp a b) (h2 : Fr fp rp b c) : Fr fp rp a c :=
  frameV_trans h1 h2

theorem Fr.append {f1 f2 : List Path} (h1 : Fr f1 rp a b) (h2 : Fr f2 rp b c) : Fr (f1 ++ f2) rp a c :=
  frameV_trans (frameV_mono (fun _ => List.mem_append_left f2) h1) (frameV_mono (fun _ => List.mem_append_right f1) h2)

theorem fr_then {r : M YVal} (h1 : Fr fp rp a b) (h2 : Safe (Fr fp rp b) r) : Safe (Fr fp rp a) r :=
  h2.mono fun _ => h1.trans

theorem Fr.isObj (h : Fr fp rp a b) (hfp : isTouched fp rp.reverse = false) (ha : IsObj a) : IsObj b := by
  obtain ⟨es, rfl⟩ := ha.elim
  cases frameV_cases h with
  | touched ht => rw [ht] at hfp; cases hfp
  | same => trivial
  | obj _ _ _ => trivial

theorem fr_putK_touched {y : YVal} (ht : isTouched fp (pk k :: rp).reverse = true) : Fr fp rp m (putK m k y) :=
  frameV_putK fp rp _ k _ (fun _ _ => frameV_touched ht) fun _ => ht

theorem fr_delK (ht : isTouched fp (pk k :: rp).reverse = true) : Fr fp rp m (delK m k) :=
  frameV_delK fp rp _ k ht

theorem fr_putK {x y : YVal} (hg : getK m k = some x) (h : Fr fp (pk k :: rp) x y) : Fr fp rp m (putK m k y) :=
  frameV_putK fp rp _ k _ (fun x' hx' => by rw [hg] at hx'; cases hx'; exact h) fun hn => by rw [hg] at hn; cases hn

theorem fr_setK (hm : IsObj m) (ht : isTouched fp (pk k :: rp).reverse = true) : Safe (Fr fp rp m) (setK m k v) := by
  rw [setK_ok hm]; exact fr_putK_touched ht

theorem moveVal_safe (hdst : IsObj dst) :
    Safe (fun t => moveVal T src dst sk dk = .ok t) (moveVal T src dst sk dk) := by
  refine Yields.named ?_
  unfold moveVal
  dsimp only
  rw [setK_ok hdst]
  split <;> trivial

theorem moveVal_cases :
    moveVal T src dst sk dk = .ok (s', d', e) →
    (s' = src ∧ d' = dst) ∨ (s' = delK src sk ∧ d' = putK dst dk (fieldVal T src sk).v) := by
  fun_cases moveVal T src dst sk dk with
  | case1 r _ dst' hs => rintro ⟨⟩; exact Or.inr ⟨rfl, putK_of_setK hs⟩
  | case2 => exact nofun
  | case3 => rintro ⟨⟩; exact Or.inl ⟨rfl, rfl⟩

theorem moveVal_dst_isObj (h : moveVal T src dst sk dk = .ok (s', d', e)) (hdst : IsObj dst) : IsObj d' := by
  rcases moveVal_cases h with ⟨_, rfl⟩ | ⟨_, rfl⟩
  · exact hdst
  · exact putK_isObj hdst _ _

theorem getK_moveVal_ne
    (h : moveVal T src dst sk dk = .ok (s', d', e)) (hk : sk ≠ k) : getK s' k = getK src k := by
  rcases moveVal_cases h with ⟨rfl, _⟩ | ⟨rfl, _⟩
  · rfl
  · exact getK_delK_ne hk

theorem fr_moveVal_src
    (ht : isTouched fp (pk sk :: rp).reverse = true) (h : moveVal T src dst sk dk = .ok (s', d', e)) :
    Fr fp rp src s' := by
  rcases moveVal_cases h with ⟨rfl, _⟩ | ⟨rfl, _⟩
  · exact Fr.refl
  · exact fr_delK ht

theorem fr_moveVal_dst
    (ht : isTouched fp (pk dk :: rp).reverse = true) (h : moveVal T src dst sk dk = .ok (s', d', e)) :
    Fr fp rp dst d' := by
  rcases moveVal_cases h with ⟨_, rfl⟩ | ⟨_, rfl⟩
  · exact Fr.refl
  · exact fr_putK_touched ht

theorem moveSelf_safe (hm : IsObj m) :
    Safe (fun t => moveSelf T m sk dk = .ok t) (moveSelf T m sk dk) := by
  refine Yields.named ?_
  unfold moveSelf
  dsimp only
  rw [setK_ok hm]
  split <;> trivial

theorem fr_moveSelf
    (hs : isTouched fp (pk sk :: rp).reverse = true) (hd : isTouched fp (pk dk :: rp).reverse = true) :
    moveSelf T m sk dk = .ok (m', e) → Fr fp rp m m' := by
  fun_cases moveSelf T m sk dk with
  | case1 r _ dst' hm => rintro ⟨⟩; rw [putK_of_setK hm]; exact (fr_putK_touched hd).trans (fr_delK hs)
  | case2 => exact nofun
  | case3 => rintro ⟨⟩; exact Fr.refl

theorem fr_moves (fp : List Path) (rp : Path) : ∀ {ms : List (Ty × Key × Key)} {src dst : YVal}, IsObj dst →
    (∀ m ∈ ms, isTouched fp (pk m.2.1 :: rp).reverse = true) →
    Safe (fun t => Fr fp rp src t.1) (moves ms src dst)
  | [], _, _, _, _ => Fr.refl
  | _ :: _, _, _, hdst, ht => by
    unfold moves
    refine (moveVal_safe hdst).bind₃ fun _ _ _ hm => ?_
    refine (fr_moves fp rp (moveVal_dst_isObj hm hdst) fun m h => ht m (.tail _ h)).bind₃ fun _ _ _ hs => ?_
    exact (fr_moveVal_src (ht _ (.head _)) hm).trans hs

end

theorem mapM'_safe {f : YVal → M YVal} (hf : ∀ x, NoPanic (f x)) (xs : List YVal) :
    NoPanic (mapM' f xs) := by
  induction xs with
  | nil => trivial
  | cons x xs ih =>
    unfold mapM'
    exact (hf x).bind fun _ _ => ih.bindL fun _ _ => trivial

theorem fr_mapM' (fp : List Path) (rp : Path) {f : YVal → M YVal} (hr : reaches fp rp.reverse = true)
    (hf : ∀ x, Safe (Fr fp (.each :: rp) x) (f x)) (xs : List YVal) :
    Safe (fun ys => Fr fp rp (.arr xs) (.arr ys)) (mapM' f xs) := by
  suffices h : Safe (fun ys => frameList fp rp xs ys = true) (mapM' f xs) from
    h.mono fun ys hl => frameV_of_shape (Or.inr hr) hl
  induction xs with
  | nil => rfl
  | cons x xs ih =>
    unfold mapM'
    refine (hf x).bind fun y hy => ih.bindL fun ys hys => ?_
    simp only [Yields, frameList, Bool.and_eq_true]
    exact ⟨hy, hys⟩

def keyedPaths (fp : List Path) : Bool :=
  fp.all fun q => match q with | .key _ :: _ => true | _ => false

theorem onBranch_of_not_topKeys {k : Key} : ∀ {fp : List Path}, keyedPaths fp = true → k ∉ topKeys fp →
    ∀ q ∈ fp, onBranch q [pk k] = false
  | (.key k' :: r) :: fp, hfp, hk, q, hq => by
    rw [keyedPaths, List.all_cons, Bool.and_eq_true] at hfp
    rw [topKeys, List.mem_cons, not_or] at hk
    rcases List.mem_cons.mp hq with rfl | hq
    · have hne : (PC.key k' == pk k) = false := by simpa [pk] using Ne.symm hk.1
      simp [onBranch, List.isPrefixOf, hne, Bool.beq_comm (a := pk k)]
    · exact onBranch_of_not_topKeys hfp.2 hk.2 q hq

theorem keyedPaths_root {fp : List Path} (h : keyedPaths fp = true) : isTouched fp [] = false := by
  rw [Bool.eq_false_iff]
  intro hc
  simp only [isTouched, List.any_eq_true, beq_iff_eq] at hc
  obtain ⟨q, hq, rfl⟩ := hc
  cases List.all_eq_true.mp h _ hq

theorem Fr.top {fp : List Path} {a b : YVal} {k : Key} (h : Fr fp [] a b) (hfp : keyedPaths fp = true)
    (hk : k ∉ topKeys fp) : getK b k = getK a k := by
  have := frameV_getKeys fp a b h [k] (onBranch_of_not_topKeys hfp hk)
  rwa [getKeys_one, getKeys_one] at this

theorem touched_shape : ∀ n < 30, 0 < n →
    (touched n).head? = some sv ∧ keyedPaths (touched n) = true ∧
      kSchemaVersion ∉ topKeys (touched n).tail := by
  decide +kernel

def StepOK (n : Nat) (d : YVal) : M YVal → Prop :=
  Safe fun d' => IsObj d' ∧ getK d' kSchemaVersion = some (.int n) ∧ Fr (touched n) [] d d'

def IsStep (n : Nat) (f : YVal → M YVal) : Prop := ∀ {d}, IsObj d → StepOK n d (f d)

/-- Every step first writes its number; the rest is judged on a non-nil map and with `(touched n).tail`,
the concerned paths other than the stamp, none of which lies under `schema_version` (`touched_shape`), so
that `Fr.top` keeps the stamp. -/
theorem stepOK_stamp {n : Nat} {body : YVal → M YVal} (h0 : 0 < n) (h30 : n < 30)
    (h : ∀ d, IsObj d → Safe (Fr (touched n).tail [] d) (body d)) :
    IsStep n fun d => match stamp n d with | .error f => .error f | .ok d' => body d' := by
  intro d hd
  obtain ⟨hK, hkey, hsv⟩ := touched_shape n h30 h0
  replace hK : touched n = sv :: (touched n).tail := by
    cases ht : touched n <;> rw [ht] at hK <;> cases hK
    rfl
  replace hkey : keyedPaths (touched n).tail = true := by
    rw [hK, keyedPaths, List.all_cons, Bool.and_eq_true] at hkey
    exact hkey.2
  simp only [stamp, setK_ok hd]
  have hd1 := putK_isObj hd kSchemaVersion (.int n)
  refine (h _ hd1).mono fun d' h' => ⟨h'.isObj (keyedPaths_root hkey) hd1, ?_, ?_⟩
  · rw [h'.top hkey hsv, getK_putK_same hd]
  · rw [hK]
    exact Fr.append (f1 := [sv]) (fr_putK_touched (by decide +kernel)) h'

section
variable {fp : List Path} {rp : Path}

theorem v4Client_frame (ht : isTouched fp (pk kUseGlobalBlockedServices :: rp).reverse = true) (x : YVal) :
    Safe (Fr fp rp x) (v4Client x) := by
  unfold v4Client
  split
  · exact fr_setK (isObj_obj _) ht
  · exact Fr.refl

theorem v6Ids_safe (c : YVal) (ids : List Key) : NoPanic (v6Ids c ids) := by
  induction ids with
  | nil => trivial
  | cons id rest ih =>
    unfold v6Ids
    dsimp only
    refine .guard ?_
    refine ih.bindL fun _ _ => ?_
    split <;> trivial

theorem v6Client_frame (ht : isTouched fp (pk kIds :: rp).reverse = true) (x : YVal) :
    Safe (Fr fp rp x) (v6Client x) := by
  unfold v6Client
  split
  · exact (v6Ids_safe _ _).bindL fun _ _ => fr_setK (isObj_obj _) ht
  · trivial

theorem v10Ups_safe (o : Oracles) (u : YVal) : NoPanic (v10Ups o u) := by
  unfold v10Ups
  split
  · split <;> trivial
  · trivial

theorem v10Field_frame (o : Oracles) {k : Key} {dns : YVal} (hd : IsObj dns)
    (ht : isTouched fp (pk k :: rp).reverse = true) : Safe (Fr fp rp dns) (v10Field o dns k) := by
  unfold v10Field
  dsimp only
  refine .guard (.ite (fun hr => ?_) fun _ => Fr.refl)
  obtain ⟨xs, hv⟩ := fieldVal_arr_ok hr
  rw [hv]
  exact (mapM'_safe (v10Ups_safe o) xs).bindL fun _ _ => fr_setK hd ht

theorem v19Client_frame (hn : isTouched fp rp.reverse = false)
    (ht1 : isTouched fp (pk kSafesearchEnabled :: rp).reverse = true)
    (ht2 : isTouched fp (pk kSafeSearch :: rp).reverse = true) (x : YVal) : Safe (Fr fp rp x) (v19Client x) := by
  unfold v19Client
  split
  · refine (moveVal_safe (isObj_obj _)).bind₃ fun c' _ _ hm => ?_
    have hs : Fr fp rp _ c' := fr_moveVal_src ht1 hm
    exact fr_then hs (fr_setK (hs.isObj hn (isObj_obj _)) ht2)
  · exact Fr.refl

theorem v22Client_frame (ht : isTouched fp (pk kBlockedServices :: rp).reverse = true) (x : YVal) :
    Safe (Fr fp rp x) (v22Client x) := by
  unfold v22Client
  split
  · exact .guard (.ite (fun _ => fr_setK (isObj_obj _) ht) fun _ => Fr.refl)
  · trivial

theorem replaceDot_frame {key : Key} (ht : isTouched fp (pk kIgnored :: pk key :: rp).reverse = true)
    (d : YVal) : Safe (Fr fp rp d) (replaceDot d key) := by
  unfold replaceDot
  refine .guard (.ite (fun hok => ?_) fun _ => Fr.refl)
  refine .guard (.ite (fun _ => ?_) fun _ => Fr.refl)
  split
  · exact fr_putK (fieldVal_obj_getK hok) (fr_putK_touched ht)
  · exact Fr.refl

theorem v29Paths_safe (xs : List YVal) : NoPanic (v29Paths xs) := by
  induction xs with
  | nil => trivial
  | cons f rest ih =>
    unfold v29Paths
    split
    · dsimp only
      refine ih.bindBs fun _ _ => ?_
      split <;> trivial
    · trivial

end

theorem step1_ok : IsStep 1 migrateTo1 := by
  intro d hd
  rw [migrateTo1, stamp, setK_ok hd]
  exact ⟨putK_isObj hd _ _, getK_putK_same hd _ _, fr_putK_touched (by decide +kernel)⟩

theorem step2_ok : IsStep 2 migrateTo2 :=
  stepOK_stamp (by decide) (by decide) fun d hd => by
    refine (moveSelf_safe hd).bind₂ fun _ _ hm => .guard ?_
    exact fr_moveSelf (by decide +kernel) (by decide +kernel) hm

theorem step3_ok : IsStep 3 migrateTo3 :=
  stepOK_stamp (by decide) (by decide) fun d _ => by
    dsimp only
    refine .ifOk .refl fun hok => .ite (fun _ => ?_) fun _ => Fr.refl
    rw [setK_ok (fieldVal_obj_ok hok)]
    exact fr_putK (fieldVal_obj_getK hok) (fr_putK_touched (by decide +kernel))

theorem step4_ok : IsStep 4 migrateTo4 :=
  stepOK_stamp (by decide) (by decide) fun d _ => by
    split
    · rename_i hg
      refine (fr_mapM' (touched 4).tail [pk kClients] (by decide +kernel)
        (v4Client_frame (by decide +kernel)) _).bindL fun _ hm => ?_
      exact fr_putK hg hm
    · exact Fr.refl

theorem step5_ok : IsStep 5 migrateTo5 :=
  stepOK_stamp (by decide) (by decide) fun d hd => by
    refine (moveVal_safe (isObj_obj _)).bind₃ fun d1 _ _ hm => ?_
    have h1 : Fr (touched 5).tail [] d d1 := fr_moveVal_src (by decide +kernel) hm
    refine fr_then h1 (.guard (.ifOk Fr.refl fun hp => ?_))
    obtain ⟨pass, hv⟩ := fieldVal_str_ok hp
    rw [hv]
    refine .guard ?_
    rw [setK_ok (moveVal_dst_isObj hm (isObj_obj _))]
    exact fr_then (fr_delK (by decide +kernel))
      (fr_setK (delK_isObj (h1.isObj (by decide +kernel) hd) _) (by decide +kernel))

theorem step6_ok : IsStep 6 migrateTo6 :=
  stepOK_stamp (by decide) (by decide) fun d _ => by
    refine .ifOk .refl fun hr => ?_
    obtain ⟨xs, hv⟩ := fieldVal_arr_ok hr
    rw [hv]
    cases xs with
    | nil => exact Fr.refl
    | cons x xs =>
      refine (fr_mapM' (touched 6).tail [pk kClients] (by decide +kernel)
        (v6Client_frame (by decide +kernel)) _).bindL fun _ hm => ?_
      exact fr_putK (fieldVal_arr_getK hv (List.cons_ne_nil _ _)) hm

theorem step7_ok : IsStep 7 migrateTo7 :=
  stepOK_stamp (by decide) (by decide) fun d _ => by
    refine .ite (fun hok => ?_) fun _ => Fr.refl
    refine (fr_moves (touched 7).tail [pk kDhcp] (isObj_obj _) (by decide +kernel)).bind₃
      fun dhcp _ _ hs => .guard ?_
    rw [setK_ok (hs.isObj (by decide +kernel) (fieldVal_obj_ok hok))]
    exact fr_putK (fieldVal_obj_getK hok) (hs.trans (fr_putK_touched (by decide +kernel)))

theorem step8_ok : IsStep 8 migrateTo8 :=
  stepOK_stamp (by decide) (by decide) fun d _ => by
    refine .ifOk .refl fun hok => .ifOk .refl fun _ => ?_
    rw [setK_ok (delK_isObj (fieldVal_obj_ok hok) _)]
    exact fr_putK (fieldVal_obj_getK hok) ((fr_delK (by decide +kernel)).trans (fr_putK_touched (by decide +kernel)))

theorem step9_ok : IsStep 9 migrateTo9 :=
  stepOK_stamp (by decide) (by decide) fun d _ => by
    refine .ifOk .refl fun hok => ?_
    refine (moveSelf_safe (fieldVal_obj_ok hok)).bind₂ fun _ _ hm => .guard ?_
    exact fr_putK (fieldVal_obj_getK hok) (fr_moveSelf (by decide +kernel) (by decide +kernel) hm)

theorem step10_ok (o : Oracles) : IsStep 10 (migrateTo10 o) :=
  stepOK_stamp (by decide) (by decide) fun d _ => by
    refine .ifOk .refl fun hok => ?_
    have h0 := fieldVal_obj_ok hok
    refine (v10Field_frame (fp := (touched 10).tail) (rp := [pk kDns]) o h0 (by decide +kernel)).bind fun _ h1 => ?_
    refine (fr_then h1 (v10Field_frame o (h1.isObj (by decide +kernel) h0) (by decide +kernel))).bind
      fun _ h2 => ?_
    exact fr_putK (fieldVal_obj_getK hok) h2

theorem step11_ok : IsStep 11 migrateTo11 :=
  stepOK_stamp (by decide) (by decide) fun d hd => by
    dsimp only
    refine .guard ?_
    exact fr_then (fr_delK (by decide +kernel)) (fr_setK (delK_isObj hd _) (by decide +kernel))

theorem step12_ok : IsStep 12 migrateTo12 :=
  stepOK_stamp (by decide) (by decide) fun d _ => by
    dsimp only
    refine .ifOk .refl fun hok => .guard ?_
    rw [setK_ok (fieldVal_obj_ok hok)]
    exact fr_putK (fieldVal_obj_getK hok) (fr_putK_touched (by decide +kernel))

theorem step13_ok : IsStep 13 migrateTo13 :=
  stepOK_stamp (by decide) (by decide) fun d _ => by
    refine .ifOk .refl fun hdns => .ifOk .refl fun hdhcp => ?_
    refine (moveVal_safe (fieldVal_obj_ok hdhcp)).bind₃ fun _ _ _ hm => .guard ?_
    exact (fr_putK (fieldVal_obj_getK hdns) (fr_moveVal_src (by decide +kernel) hm)).trans
      (fr_putK ((getK_putK_ne (by decide)).trans (fieldVal_obj_getK hdhcp))
        (fr_moveVal_dst (by decide +kernel) hm))

theorem step14_ok : IsStep 14 migrateTo14 :=
  stepOK_stamp (by decide) (by decide) fun d hd => by
    refine .guard ?_
    simp only [setK_ok hd]
    refine fr_then (fr_putK_touched (by decide +kernel)) (.guard (.ite (fun hok => ?_) fun _ => Fr.refl))
    refine (moveVal_safe (isObj_obj _)).bind₃ fun _ _ _ hm => .guard ?_
    exact (fr_putK_touched (by decide +kernel)).trans
      (fr_putK ((getK_putK_ne (by decide)).trans (fieldVal_obj_getK hok))
        (fr_moveVal_src (by decide +kernel) hm))

theorem step15_ok : IsStep 15 migrateTo15 :=
  stepOK_stamp (by decide) (by decide) fun d hd => by
    refine .ifOk .refl fun hok => ?_
    simp only [setK_ok hd]
    refine (fr_moves (touched 15).tail [pk kDns] (isObj_obj _) (by decide +kernel)).bind₃
      fun _ _ _ hm => .guard ?_
    exact (fr_putK_touched (by decide +kernel)).trans ((fr_putK_touched (by decide +kernel)).trans
      (fr_putK ((getK_putK_ne (by decide)).trans
          ((getK_putK_ne (by decide)).trans (fieldVal_obj_getK hok)))
        hm))

theorem step16_ok : IsStep 16 migrateTo16 :=
  stepOK_stamp (by decide) (by decide) fun d hd => by
    refine .ifOk .refl fun hok => ?_
    simp only [setK_ok hd]
    refine fr_then (fr_putK_touched (by decide +kernel)) (.ifOk Fr.refl fun _ => ?_)
    rw [setK_ok (m := v16Stats) (isObj_obj _)]
    exact (fr_putK_touched (by decide +kernel)).trans
      (fr_putK ((getK_putK_ne (by decide)).trans
          ((getK_putK_ne (by decide)).trans (fieldVal_obj_getK hok)))
        (fr_delK (by decide +kernel)))

theorem step17_ok : IsStep 17 migrateTo17 :=
  stepOK_stamp (by decide) (by decide) fun d _ => by
    dsimp only
    refine .ifOk .refl fun hok => ?_
    rw [setK_ok (fieldVal_obj_ok hok)]
    exact fr_putK (fieldVal_obj_getK hok) (fr_putK_touched (by decide +kernel))

theorem step18_ok : IsStep 18 migrateTo18 :=
  stepOK_stamp (by decide) (by decide) fun d _ => by
    refine .ifOk .refl fun hok => ?_
    simp only [setK_ok (fieldVal_obj_ok hok)]
    refine (moveVal_safe (isObj_obj _)).bind₃ fun _ _ _ hm => .guard ?_
    exact fr_putK (fieldVal_obj_getK hok) ((fr_putK_touched (by decide +kernel)).trans
      ((fr_moveVal_src (by decide +kernel) hm).trans (fr_putK_touched (by decide +kernel))))

theorem step19_ok : IsStep 19 migrateTo19 :=
  stepOK_stamp (by decide) (by decide) fun d _ => by
    refine .ifOk .refl fun hok => ?_
    split
    · rename_i hg
      refine (fr_mapM' (touched 19).tail [pk kPersistent, pk kClients] (by decide +kernel)
        (v19Client_frame (by decide +kernel) (by decide +kernel) (by decide +kernel)) _).bindL fun _ hm => ?_
      exact fr_putK (fieldVal_obj_getK hok) (fr_putK hg hm)
    · exact Fr.refl

theorem step20_ok : IsStep 20 migrateTo20 :=
  stepOK_stamp (by decide) (by decide) fun d _ => by
    dsimp only
    refine .ifOk .refl fun hok => .guard ?_
    rw [setK_ok (fieldVal_obj_ok hok)]
    exact fr_putK (fieldVal_obj_getK hok) (fr_putK_touched (by decide +kernel))

theorem step21_ok : IsStep 21 migrateTo21 :=
  stepOK_stamp (by decide) (by decide) fun d _ => by
    refine .ifOk .refl fun hok => ?_
    refine (moveVal_safe (isObj_obj _)).bind₃ fun dns1 _ _ hm => .guard ?_
    have h1 : Fr (touched 21).tail [pk kDns] _ dns1 := fr_moveVal_src (by decide +kernel) hm
    rw [setK_ok (h1.isObj (by decide +kernel) (fieldVal_obj_ok hok))]
    exact fr_putK (fieldVal_obj_getK hok) (h1.trans (fr_putK_touched (by decide +kernel)))

theorem step22_ok : IsStep 22 migrateTo22 :=
  stepOK_stamp (by decide) (by decide) fun d _ => by
    refine .ifOk .refl fun hok => .ifOk .refl fun hp => ?_
    obtain ⟨xs, hv⟩ := fieldVal_arr_ok hp
    rw [hv]
    cases xs with
    | nil => exact Fr.refl
    | cons x xs =>
      refine (fr_mapM' (touched 22).tail [pk kPersistent, pk kClients] (by decide +kernel)
        (v22Client_frame (by decide +kernel)) _).bindL fun _ hm => ?_
      exact fr_putK (fieldVal_obj_getK hok) (fr_putK (fieldVal_arr_getK hv (List.cons_ne_nil _ _)) hm)

theorem step23_ok (o : Oracles) : IsStep 23 (migrateTo23 o) :=
  stepOK_stamp (by decide) (by decide) fun d hd => by
    dsimp only
    refine .ifOk .refl fun _ => ?_
    split
    · trivial
    · trivial
    · refine .guard (.guard ?_)
      split
      · rw [setK_ok hd]
        exact (fr_putK_touched (by decide +kernel)).trans ((fr_delK (by decide +kernel)).trans
          ((fr_delK (by decide +kernel)).trans (fr_delK (by decide +kernel))))
      · trivial

theorem step24_ok : IsStep 24 migrateTo24 :=
  stepOK_stamp (by decide) (by decide) fun d hd => by
    refine (fr_moves (touched 24).tail [] (isObj_obj _) (by decide +kernel)).bind₃ fun d1 _ _ h1 => ?_
    exact fr_then h1 (.guard (.ite (fun _ => Fr.refl) fun _ =>
      fr_setK (h1.isObj (by decide +kernel) hd) (by decide +kernel)))

theorem step25_ok : IsStep 25 migrateTo25 :=
  stepOK_stamp (by decide) (by decide) fun d _ => by
    refine .ifOk .refl fun hok => ?_
    refine (moveVal_safe (isObj_obj _)).bind₃ fun _ _ _ hm => .guard ?_
    rw [setK_ok (fieldVal_obj_ok hok)]
    exact (fr_moveVal_src (by decide +kernel) hm).trans
      (fr_putK ((getK_moveVal_ne hm (by decide)).trans (fieldVal_obj_getK hok)) (fr_putK_touched (by decide +kernel)))

theorem step26_ok : IsStep 26 migrateTo26 :=
  stepOK_stamp (by decide) (by decide) fun d hd => by
    refine .ifOk .refl fun hok => ?_
    refine (fr_moves (touched 26).tail [pk kDns] (isObj_obj _) (by decide +kernel)).bind₃
      fun _ _ _ hdns => .guard ?_
    refine .ite (fun _ => fr_putK (fieldVal_obj_getK hok) hdns) fun _ => ?_
    rw [setK_ok hd]
    exact (fr_putK_touched (by decide +kernel)).trans
      (fr_putK ((getK_putK_ne (by decide)).trans (fieldVal_obj_getK hok)) hdns)

theorem step27_ok : IsStep 27 migrateTo27 :=
  stepOK_stamp (by decide) (by decide) fun d _ => by
    refine (replaceDot_frame (fp := (touched 27).tail) (rp := []) (by decide +kernel) _).bind fun _ h1 => ?_
    exact fr_then h1 (replaceDot_frame (by decide +kernel) _)

theorem step28_ok : IsStep 28 migrateTo28 :=
  stepOK_stamp (by decide) (by decide) fun d _ => by
    dsimp only
    refine .ifOk .refl fun hok => ?_
    rw [setK_ok (fieldVal_obj_ok hok)]
    exact fr_putK (fieldVal_obj_getK hok)
      ((fr_putK_touched (by decide +kernel)).trans ((fr_delK (by decide +kernel)).trans (fr_delK (by decide +kernel))))

theorem step29_ok (o : Oracles) : IsStep 29 (migrateTo29 o) :=
  stepOK_stamp (by decide) (by decide) fun d _ => by
    refine .ifOk .refl fun hfl => ?_
    obtain ⟨xs, hv⟩ := fieldVal_arr_ok hfl
    rw [hv]
    dsimp only
    refine (v29Paths_safe xs).bindBs fun ps _ => .ifOk .refl fun hok => ?_
    rw [setK_ok (fieldVal_obj_ok hok)]
    exact fr_putK (fieldVal_obj_getK hok) (fr_putK_touched (by decide +kernel))

end AGH.C13
