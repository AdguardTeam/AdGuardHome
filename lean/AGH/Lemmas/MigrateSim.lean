/-
C13, independence from partial runs: two documents in memory that satisfy the
invariant and are read back equal (`Alike`) are taken by every primitive of
`yaml.go` to results that agree in the same sense (`SimBy`): the rules from
which the same fact about each step is composed.  That fact is `Respects o P f` (`f` takes alike
arguments to alike results), also asked of what a loop applies to each element; a read returns
`FVAlike` results, and a move needs `MoveOK`: the destination's invariant admits what the source's
admits, and nothing Go-typed is read as a string or a sequence.
-/
import AGH.Lemmas.MigrateErase
namespace AGH.C13
open AGH

/-- `ε` is `Fault` for a step, `Fault × Nat` for a run of steps. -/
def SimBy {ε α : Type} (R : α → α → Prop) (x y : Except ε α) : Prop :=
  match x, y with
  | .ok a, .ok b => R a b
  | .error e, .error e' => e = e'
  | _, _ => False

theorem SimBy.ok {ε α : Type} {R : α → α → Prop} {a b : α} (h : R a b) : SimBy (ε := ε) R (.ok a) (.ok b) := h

theorem SimBy.error {ε α : Type} {R : α → α → Prop} (e : ε) : SimBy (α := α) R (.error e) (.error e) := rfl

/-- `SimBy` at "read back equal" alone; the steps are compared by `SimBy (Alike o P)`, which carries the
invariant as well. -/
def Sim (o : Oracles) (r r' : M YVal) : Prop :=
  match r, r' with
  | .ok a, .ok b => er o a = er o b
  | .error e, .error e' => e = e'
  | _, _ => False

theorem Sim.refl (o : Oracles) (r : M YVal) : Sim o r r := by
  cases r <;> simp [Sim]

variable {o : Oracles}

/-- The model's `match x with | .error f => .error f | .ok a => F a`.  Stated for `M YVal` (below: for
sequences and for the results of moves) so that this `match` is the matcher the steps are compiled
with, and the rule applies to a step as it is written. -/
theorem SimBy.bind {β : Type} {R : YVal → YVal → Prop} {S : β → β → Prop} {x y : M YVal} {F G : YVal → M β}
    (hx : SimBy R x y) (hF : ∀ a b, R a b → SimBy S (F a) (G b)) :
    SimBy S (match (generalizing := false) x with | .error f => .error f | .ok a => F a)
      (match (generalizing := false) y with | .error f => .error f | .ok a => G a) :=
  match x, y, hx with
  | .ok a, .ok b, h => hF a b h
  | .error _, .error _, h => h

/-- The same with the cases in the order of `moveVal`. -/
theorem SimBy.bindOkFirst {β : Type} {R : YVal → YVal → Prop} {S : β → β → Prop} {x y : M YVal} {F G : YVal → M β}
    (hx : SimBy R x y) (hF : ∀ a b, R a b → SimBy S (F a) (G b)) :
    SimBy S (match (generalizing := false) x with | .ok a => F a | .error f => .error f)
      (match (generalizing := false) y with | .ok a => G a | .error f => .error f) :=
  match x, y, hx with
  | .ok a, .ok b, h => hF a b h
  | .error _, .error _, h => h

theorem SimBy.bindL {β : Type} {R : List YVal → List YVal → Prop} {S : β → β → Prop} {x y : M (List YVal)}
    {F G : List YVal → M β} (hx : SimBy R x y) (hF : ∀ a b, R a b → SimBy S (F a) (G b)) :
    SimBy S (match (generalizing := false) x with | .error f => .error f | .ok a => F a)
      (match (generalizing := false) y with | .error f => .error f | .ok a => G a) :=
  match x, y, hx with
  | .ok a, .ok b, h => hF a b h
  | .error _, .error _, h => h

theorem SimBy.ite {α : Type} {R : α → α → Prop} {c d : Bool} {x x' y y' : M α} (hc : c = d)
    (ht : c = true → SimBy R x y) (he : c = false → SimBy R x' y') :
    SimBy R (if c = true then x else x') (if d = true then y else y') := by
  subst hc
  cases c
  · exact he rfl
  · exact ht rfl

theorem SimBy.orErr {R : YVal → YVal → Prop} {c d : Bool} {x y : M YVal} (hc : c = d)
    (h : c = false → SimBy R x y) :
    SimBy R (if c = true then typeErr else x) (if d = true then typeErr else y) :=
  SimBy.ite hc (fun _ => SimBy.error _) h

/-- The document in memory and the one read back from the file, or corresponding parts of them: both
satisfy `P` (the invariant at their place: `inv`, `subOK o ex`, `excOK`, `clean`) and are read back equal. -/
structure Alike (o : Oracles) (P : YVal → Bool) (a b : YVal) : Prop where
  left : P a = true
  right : P b = true
  er_eq : er o a = er o b

theorem Alike.refl {P : YVal → Bool} {a : YVal} (h : P a = true) : Alike o P a a := ⟨h, h, rfl⟩

theorem Alike.of_eq {P : YVal → Bool} {a b : YVal} (h : a = b) (ha : P a = true) : Alike o P a b :=
  h ▸ Alike.refl ha

theorem Alike.mono {P Q : YVal → Bool} {a b : YVal} (h : Alike o P a b)
    (hPQ : ∀ v, P v = true → Q v = true) : Alike o Q a b := ⟨hPQ _ h.left, hPQ _ h.right, h.er_eq⟩

theorem Alike.sub_of_clean {a b : YVal} (h : Alike o (clean o) a b) (ex : List Key) :
    Alike o (subOK o ex) a b := h.mono (subOK_of_clean o ex)

theorem Alike.excOK_of_clean {a b : YVal} (h : Alike o (clean o) a b) : Alike o (excOK o) a b :=
  h.mono fun _ => C13.excOK_of_clean

theorem Alike.eq {a b : YVal} (h : Alike o (clean o) a b) : a = b := by
  have := h.er_eq
  rwa [er_of_clean o a h.left, er_of_clean o b h.right] at this

theorem Alike.congr_of_er {α : Type} {f : YVal → α} (hf : ∀ v, f (er o v) = f v) {P : YVal → Bool} {a b : YVal}
    (h : Alike o P a b) : f a = f b := by
  rw [← hf a, ← hf b, h.er_eq]

theorem Alike.ite {P : YVal → Bool} {c d : Bool} {x x' y y' : YVal} (hc : c = d)
    (ht : Alike o P x y) (he : Alike o P x' y') :
    Alike o P (if c = true then x else x') (if d = true then y else y') := by
  subst hc
  cases c
  · exact he
  · exact ht

/-- What a loop over a sequence returns on the two sides, compared as the sequence it forms. -/
def AlikeL (o : Oracles) (xs ys : List YVal) : Prop := Alike o (clean o) (.arr xs) (.arr ys)

theorem AlikeL.cons {v w : YVal} {xs ys : List YVal} (h : Alike o (clean o) v w) (ht : AlikeL o xs ys) :
    AlikeL o (v :: xs) (w :: ys) :=
  Alike.of_eq (by rw [h.eq, YVal.arr.inj ht.eq]) (by
    have := ht.left
    simp only [clean, cleanList, Bool.and_eq_true] at this ⊢
    exact ⟨h.left, this⟩)

theorem Alike.arr1 {v w : YVal} (h : Alike o (clean o) v w) : Alike o (clean o) (.arr [v]) (.arr [w]) :=
  AlikeL.cons h (Alike.refl rfl)

theorem Alike.cons {v w : YVal} {es fs : List (Key × YVal)} (k : Key) (h : Alike o (clean o) v w)
    (ht : Alike o (clean o) (.obj es) (.obj fs)) : Alike o (clean o) (.obj ((k, v) :: es)) (.obj ((k, w) :: fs)) :=
  Alike.of_eq (by rw [h.eq, YVal.obj.inj ht.eq]) (by
    have := ht.left
    simp only [clean, cleanEnts, Bool.and_eq_true] at this ⊢
    exact ⟨h.left, this⟩)

/-- `f` takes alike arguments to alike results.  At `P = inv o` this is the fact about a step
(`stepN_alike`); at `P = clean o`, where alike arguments are equal (`Alike.eq`), it says that `f` keeps
`clean`, which is what `mapM'_alike` asks of the function applied to each element of a sequence. -/
def Respects (o : Oracles) (P : YVal → Bool) (f : YVal → M YVal) : Prop :=
  ∀ ⦃a b : YVal⦄, Alike o P a b → SimBy (Alike o P) (f a) (f b)

/-- What `fieldVal` returns on alike maps. -/
structure FVAlike (o : Oracles) (P : YVal → Bool) (r r' : FV) : Prop where
  ok : r.ok = r'.ok
  err : r.err = r'.err
  v : Alike o P r.v r'.v

theorem FVAlike.eq {r r' : FV} (h : FVAlike o (clean o) r r') : r = r' := by
  obtain ⟨v, ok, err⟩ := r
  obtain ⟨v', ok', err'⟩ := r'
  obtain ⟨rfl, rfl, hv⟩ := h
  exact congrArg (FV.mk · ok err) hv.eq

/-- `if !ok { return err }`: the rest of the step runs on both sides or on neither. -/
theorem FVAlike.orBail {P Q : YVal → Bool} {r r' : FV} {d d' : YVal} {x y : M YVal} (hr : FVAlike o Q r r')
    (hd : Alike o P d d') (h : r.ok = true → SimBy (Alike o P) x y) :
    SimBy (Alike o P) (if r.ok = true then x else bail r d) (if r'.ok = true then y else bail r' d') :=
  SimBy.ite hr.ok h fun _ => SimBy.orErr hr.err fun _ => SimBy.ok hd

section alike
variable {P : YVal → Bool} {Q : Key → YVal → Bool} (hK : Keyed o P Q) {a b : YVal}
  (h : Alike o P a b)
include hK h

theorem Alike.put (k : Key) {v w : YVal} (hv : Alike o (Q k) v w) : Alike o P (putK a k v) (putK b k w) :=
  ⟨hK.put h.left hv.left, hK.put h.right hv.right, by rw [er_putK, er_putK, h.er_eq, hv.er_eq]⟩

theorem Alike.del (k : Key) : Alike o P (delK a k) (delK b k) :=
  ⟨hK.del h.left k, hK.del h.right k, by rw [er_delK, er_delK, h.er_eq]⟩

/-- `m[k] = v`: both panic (on a nil map) or neither does. -/
theorem Alike.set (k : Key) {v w : YVal} (hv : Alike o (Q k) v w) :
    SimBy (Alike o P) (setK a k v) (setK b k w) := by
  have he : (setK a k v).map (er o) = (setK b k w).map (er o) := by
    rw [← setK_er, ← setK_er, h.er_eq, hv.er_eq]
  have hp := h.put hK k hv
  cases ha : setK a k v <;> cases hb : setK b k w <;> rw [ha, hb] at he <;>
    simp only [Except.map, Except.ok.injEq, Except.error.injEq, reduceCtorEq] at he
  · exact he
  · rw [putK_of_setK ha, putK_of_setK hb]; exact hp

theorem Alike.read (T : Ty) {k : Key}
    (hl : T = .str ∨ T = .arr → ∀ c, Q k c = true → isTypedLeaf c = false) :
    FVAlike o (Q k) (fieldVal T a k) (fieldVal T b k) := by
  have he : (fieldVal T a k).er o = (fieldVal T b k).er o := by
    rw [← fieldVal_er o T a k fun hT c hc => hl hT c (hK.get h.left hc),
      ← fieldVal_er o T b k fun hT c hc => hl hT c (hK.get h.right hc), h.er_eq]
  have hok : ((fieldVal T a k).er o).ok = ((fieldVal T b k).er o).ok := congrArg FV.ok he
  have herr : ((fieldVal T a k).er o).err = ((fieldVal T b k).er o).err := congrArg FV.err he
  have hv : ((fieldVal T a k).er o).v = ((fieldVal T b k).er o).v := congrArg FV.v he
  exact ⟨hok, herr, hK.read h.left T k, hK.read h.right T k, hv⟩

theorem Alike.get {k : Key} (hc : ∀ c, Q k c = true → clean o c = true) :
    getK b k = getK a k ∧ ∀ c, getK a k = some c → clean o c = true := by
  refine ⟨?_, fun c hg => hc c (hK.get h.left hg)⟩
  have he := congrArg (fun m => getK m k) h.er_eq
  simp only [getK_er] at he
  cases ha : getK a k <;> cases hb : getK b k <;> rw [ha, hb] at he <;>
    simp only [Option.map, Option.some.injEq, reduceCtorEq] at he
  · rw [er_of_clean o _ (hc _ (hK.get h.left ha)), er_of_clean o _ (hc _ (hK.get h.right hb))] at he
    rw [he]

end alike

section top
variable {a b : YVal} (h : Alike o (inv o) a b)
include h

theorem Alike.stamp (n : Nat) : SimBy (Alike o (inv o)) (stamp n a) (stamp n b) :=
  h.set (inv_keyed o) kSchemaVersion (Alike.refl (subOK_of_clean o _ _ rfl))

theorem Alike.top_read (T : Ty) (k : Key) : FVAlike o (subOK o (exc k)) (fieldVal T a k) (fieldVal T b k) :=
  h.read (inv_keyed o) T fun _ _ hc => not_isTypedLeaf_of_subOK hc

/-- `s, ok, err := fieldVal[yobj](d, k); if !ok { return err }`: the rest of the step runs with the two
sections, alike, on both sides or on neither. -/
theorem Alike.top_section (k : Key) {x y : M YVal}
    (hx : Alike o (subOK o (exc k)) (fieldVal .obj a k).v (fieldVal .obj b k).v → SimBy (Alike o (inv o)) x y) :
    SimBy (Alike o (inv o)) (if (fieldVal .obj a k).ok = true then x else bail (fieldVal .obj a k) a)
      (if (fieldVal .obj b k).ok = true then y else bail (fieldVal .obj b k) b) :=
  (h.top_read .obj k).orBail h fun _ => hx (h.top_read .obj k).v

theorem Alike.top_read_clean (T : Ty) {k : Key} (hk : exc k = []) :
    FVAlike o (clean o) (fieldVal T a k) (fieldVal T b k) :=
  subOK_plain o hk ▸ h.top_read T k

theorem Alike.top_put (k : Key) {v w : YVal} (hv : Alike o (subOK o (exc k)) v w) :
    Alike o (inv o) (putK a k v) (putK b k w) := h.put (inv_keyed o) k hv

/-- The changed section is put back (`putK`; in Go it was changed in place), unless changing it failed. -/
theorem Alike.top_back (k : Key) {x y : M YVal} (hx : SimBy (Alike o (subOK o (exc k))) x y) :
    SimBy (Alike o (inv o)) (match (generalizing := false) x with | .error f => .error f | .ok s => .ok (putK a k s))
      (match (generalizing := false) y with | .error f => .error f | .ok s => .ok (putK b k s)) :=
  SimBy.bind hx fun _ _ hs => SimBy.ok (h.top_put k hs)

theorem Alike.top_set (k : Key) {v w : YVal} (hv : Alike o (subOK o (exc k)) v w) :
    SimBy (Alike o (inv o)) (setK a k v) (setK b k w) := h.set (inv_keyed o) k hv

theorem Alike.top_del (k : Key) : Alike o (inv o) (delK a k) (delK b k) := h.del (inv_keyed o) k

theorem Alike.top_get {k : Key} (hk : exc k = []) :
    getK b k = getK a k ∧ ∀ c, getK a k = some c → clean o c = true :=
  h.get (inv_keyed o) fun c hc => by rwa [subOK_plain o hk] at hc

end top

section sub
variable {ex : List Key} {a b : YVal} (h : Alike o (subOK o ex) a b)
include h

theorem Alike.sub_read (T : Ty) {k : Key} (hk : k ∉ ex) : FVAlike o (clean o) (fieldVal T a k) (fieldVal T b k) :=
  kidOK_of_not_mem hk ▸ h.read (subOK_keyed o ex) T
    fun _ c hc => not_isTypedLeaf_of_clean o c (by rwa [kidOK_of_not_mem hk] at hc)

theorem Alike.sub_get {k : Key} (hk : k ∉ ex) :
    getK b k = getK a k ∧ ∀ c, getK a k = some c → clean o c = true :=
  h.get (subOK_keyed o ex) fun c hc => by rwa [kidOK_of_not_mem hk] at hc

theorem Alike.sub_set {k : Key} (hk : k ∉ ex) {v w : YVal} (hv : Alike o (clean o) v w) :
    SimBy (Alike o (subOK o ex)) (setK a k v) (setK b k w) :=
  h.set (subOK_keyed o ex) k (kidOK_of_not_mem hk ▸ hv)

theorem Alike.sub_put {k : Key} (hk : k ∉ ex) {v w : YVal} (hv : Alike o (clean o) v w) :
    Alike o (subOK o ex) (putK a k v) (putK b k w) :=
  h.put (subOK_keyed o ex) k (kidOK_of_not_mem hk ▸ hv)

theorem Alike.sub_set_exc {k : Key} (hk : k ∈ ex) {v w : YVal} (hv : Alike o (excOK o) v w) :
    SimBy (Alike o (subOK o ex)) (setK a k v) (setK b k w) :=
  h.set (subOK_keyed o ex) k (kidOK_of_mem hk ▸ hv)

theorem Alike.sub_del (k : Key) : Alike o (subOK o ex) (delK a k) (delK b k) := h.del (subOK_keyed o ex) k

/-- An `int` may be asked for at any key: what sits at a key of `ex` is then read alike as well. -/
theorem Alike.sub_read_int (k : Key) : FVAlike o (kidOK o ex k) (fieldVal .int a k) (fieldVal .int b k) :=
  h.read (subOK_keyed o ex) .int fun hT => by cases hT <;> contradiction

end sub

/-- What `moveVal` and `moves` return on the two sides. -/
def Alike3 (o : Oracles) (Ps Pd : YVal → Bool) (t t' : YVal × YVal × Bool) : Prop :=
  Alike o Ps t.1 t'.1 ∧ Alike o Pd t.2.1 t'.2.1 ∧ t.2.2 = t'.2.2

theorem SimBy.bind₃ {β : Type} {Ps Pd : YVal → Bool} {S : β → β → Prop}
    {x y : M (YVal × YVal × Bool)} {F G : YVal → YVal → Bool → M β} (hx : SimBy (Alike3 o Ps Pd) x y)
    (hF : ∀ s s' d d' e, Alike o Ps s s' → Alike o Pd d d' → SimBy S (F s d e) (G s' d' e)) :
    SimBy S (match (generalizing := false) x with | .error f => .error f | .ok (s, d, e) => F s d e)
      (match (generalizing := false) y with | .error f => .error f | .ok (s, d, e) => G s d e) :=
  match x, y, hx with
  | .ok (_, _, _), .ok (_, _, _), ⟨hs, hd, he⟩ => by
    simp only at he; subst he; exact hF _ _ _ _ _ hs hd
  | .error _, .error _, h => h

/-- What `moveSelf` returns on the two sides. -/
def Alike2 (o : Oracles) (P : YVal → Bool) (t t' : YVal × Bool) : Prop :=
  Alike o P t.1 t'.1 ∧ t.2 = t'.2

theorem SimBy.bind₂ {β : Type} {P : YVal → Bool} {S : β → β → Prop}
    {x y : M (YVal × Bool)} {F G : YVal → Bool → M β} (hx : SimBy (Alike2 o P) x y)
    (hF : ∀ m m' e, Alike o P m m' → SimBy S (F m e) (G m' e)) :
    SimBy S (match (generalizing := false) x with | .error f => .error f | .ok (m, e) => F m e)
      (match (generalizing := false) y with | .error f => .error f | .ok (m, e) => G m e) :=
  match x, y, hx with
  | .ok (_, _), .ok (_, _), ⟨hm, he⟩ => by
    simp only at he; subst he; exact hF _ _ _ hm
  | .error _, .error _, h => h

/-- Every step first writes its number. -/
theorem Respects.stamp {n : Nat} {body : YVal → M YVal} (h : Respects o (inv o) body) :
    Respects o (inv o) fun d => match stamp n d with | .error f => .error f | .ok d' => body d' :=
  fun _ _ hab => SimBy.bind (hab.stamp n) fun _ _ hd => h hd

/-- Side condition of a move `(T, source key, destination key)` from a map judged key by key with `Qs`
into one judged with `Qd`. -/
def MoveOK (Qs Qd : Key → YVal → Bool) (m : Ty × Key × Key) : Prop :=
  ∀ c, Qs m.2.1 c = true → Qd m.2.2 c = true ∧ (m.1 = .str ∨ m.1 = .arr → isTypedLeaf c = false)

theorem MoveOK.of_clean {Pd : YVal → Bool} {Qs Qd : Key → YVal → Bool} (hD : Keyed o Pd Qd)
    {m : Ty × Key × Key} (h : ∀ c, Qs m.2.1 c = true → clean o c = true) : MoveOK Qs Qd m :=
  fun c hc => ⟨hD.of_clean _ c (h c hc), fun _ => not_isTypedLeaf_of_clean o c (h c hc)⟩

theorem MoveOK.sub {Pd : YVal → Bool} {Qd : Key → YVal → Bool} (hD : Keyed o Pd Qd) {ex : List Key}
    {m : Ty × Key × Key} (h : m.2.1 ∉ ex) : MoveOK (kidOK o ex) Qd m :=
  MoveOK.of_clean hD fun c hc => by rwa [kidOK_of_not_mem h] at hc

theorem MoveOK.top {Pd : YVal → Bool} {Qd : Key → YVal → Bool} (hD : Keyed o Pd Qd)
    {m : Ty × Key × Key} (h : exc m.2.1 = []) : MoveOK (fun k => subOK o (exc k)) Qd m :=
  MoveOK.of_clean hD fun c hc => by rwa [subOK_plain o h] at hc

theorem MoveOK.sub_exc {ex ex' : List Key} {m : Ty × Key × Key}
    (h : (m.1 = .str ∨ m.1 = .arr → m.2.1 ∉ ex) ∧ (m.2.1 ∈ ex → m.2.2 ∈ ex')) :
    MoveOK (kidOK o ex) (kidOK o ex') m := by
  by_cases hk : m.2.1 ∈ ex
  · intro c hc
    rw [kidOK_of_mem hk] at hc
    exact ⟨by rw [kidOK_of_mem (h.2 hk)]; exact hc, fun hT => absurd hk (h.1 hT)⟩
  · exact MoveOK.sub (subOK_keyed o ex') hk

section moves
variable {Ps Pd : YVal → Bool} {Qs Qd : Key → YVal → Bool} (hS : Keyed o Ps Qs) (hD : Keyed o Pd Qd)
include hS hD

theorem moveVal_alike {s s' d d' : YVal} (hs : Alike o Ps s s') (hd : Alike o Pd d d') {T : Ty} {sk dk : Key}
    (hm : MoveOK Qs Qd (T, sk, dk)) :
    SimBy (Alike3 o Ps Pd) (moveVal T s d sk dk) (moveVal T s' d' sk dk) := by
  have hr := hs.read hS T fun hT c hc => (hm c hc).2 hT
  refine SimBy.ite hr.ok (fun _ => ?_) fun _ => SimBy.ok ⟨hs, hd, hr.err⟩
  exact SimBy.bindOkFirst (hd.set hD dk (hr.v.mono fun c hc => (hm c hc).1)) fun _ _ hxy =>
    SimBy.ok ⟨hs.del hS sk, hxy, rfl⟩

theorem moves_alike : ∀ (ms : List (Ty × Key × Key)) {s s' d d' : YVal}, Alike o Ps s s' → Alike o Pd d d' →
    (∀ m ∈ ms, MoveOK Qs Qd m) → SimBy (Alike3 o Ps Pd) (moves ms s d) (moves ms s' d')
  | [], _, _, _, _, hs, hd, _ => SimBy.ok ⟨hs, hd, rfl⟩
  | _ :: rest, _, _, _, _, hs, hd, hm =>
    SimBy.bind₃ (moveVal_alike hS hD hs hd (hm _ (List.mem_cons_self ..))) fun _ _ _ _ _ hs1 hd1 =>
      SimBy.bind₃ (moves_alike rest hs1 hd1 fun m h => hm m (List.mem_cons_of_mem _ h)) fun _ _ _ _ _ hs2 hd2 =>
        SimBy.ok ⟨hs2, hd2, rfl⟩

end moves

theorem moveSelf_alike {P : YVal → Bool} {Q : Key → YVal → Bool} (hK : Keyed o P Q) {m m' : YVal}
    (h : Alike o P m m') {T : Ty} {sk dk : Key} (hm : MoveOK Q Q (T, sk, dk)) :
    SimBy (Alike2 o P) (moveSelf T m sk dk) (moveSelf T m' sk dk) := by
  have hr := h.read hK T fun hT c hc => (hm c hc).2 hT
  refine SimBy.ite hr.ok (fun _ => ?_) fun _ => SimBy.ok ⟨h, hr.err⟩
  exact SimBy.bindOkFirst (h.set hK dk (hr.v.mono fun c hc => (hm c hc).1)) fun _ _ hxy =>
    SimBy.ok ⟨hxy.del hK sk, rfl⟩

/-- The elements of a clean sequence are the same on both sides, so `f` is only asked about one list. -/
theorem mapM'_alike {f : YVal → M YVal} (hf : Respects o (clean o) f) :
    ∀ {xs : List YVal}, clean o (.arr xs) = true → SimBy (AlikeL o) (mapM' f xs) (mapM' f xs)
  | [], _ => SimBy.ok (Alike.refl rfl)
  | x :: xs, h => by
    simp only [clean, cleanList, Bool.and_eq_true] at h
    exact SimBy.bind (hf (Alike.refl h.1)) fun y y' hy =>
      SimBy.bindL (mapM'_alike hf (xs := xs) (by simpa only [clean] using h.2)) fun ys ys' hys =>
        SimBy.ok (AlikeL.cons hy hys)

end AGH.C13
