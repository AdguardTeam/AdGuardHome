/-
C04 lemmas: the consistency invariant of the client index (`Inv`: one `MapInv`
per map) and its preservation by `index.add` / `index.remove`; `FreeFor` /
`NoClash`, what `index.add` needs of the new client for that.  Core Lean only.
-/
import AGH.Lemmas.ClientsSorted
namespace AGH.C04
open AGH AGH.Bytes
open AGH.C03 (Prefix)

def UidsDistinct (cl : List Client) : Prop := cl.Pairwise (fun a b => a.uid ≠ b.uid)

theorem rel_or_of_pairwise {α : Type} {R : α → α → Prop} {l : List α} (h : l.Pairwise R) {a b : α}
    (ha : a ∈ l) (hb : b ∈ l) (hne : a ≠ b) : R a b ∨ R b a :=
  List.Pairwise.forall_of_forall_of_flip (R := fun x y => x ≠ y → R x y ∨ R y x)
    (fun _ _ h => absurd rfl h) (h.imp fun r _ => .inl r) (h.imp fun r _ => .inr r) ha hb hne

theorem UidsDistinct.eq_of_uid {cl : List Client} (h : UidsDistinct cl) {a b : Client}
    (ha : a ∈ cl) (hb : b ∈ cl) (he : a.uid = b.uid) : a = b :=
  Decidable.byContradiction fun hne => (rel_or_of_pairwise h ha hb hne).elim (· he) (· he.symm)

def MapInv {κ : Type} (m : FMap κ) (cl : List Client) (ids : Client → List κ) : Prop :=
  ∀ k u, m k = some u ↔ ∃ c, c ∈ cl ∧ c.uid = u ∧ k ∈ ids c

/-- What `clashes` checks, per map, for the identifiers of a client about to be stored under `uid`. -/
def FreeFor {κ : Type} (m : κ → Option UID) (uid : UID) (ks : List κ) : Prop :=
  ∀ k ∈ ks, ∀ u, m k = some u → u = uid

theorem FreeFor.nil {κ : Type} {m : κ → Option UID} {uid : UID} : FreeFor m uid [] :=
  fun _ hk => nomatch hk

theorem FreeFor.cons_iff {κ : Type} {m : κ → Option UID} {uid : UID} {k : κ} {ks : List κ} :
    FreeFor m uid (k :: ks) ↔ (∀ u, m k = some u → u = uid) ∧ FreeFor m uid ks :=
  List.forall_mem_cons

theorem FreeFor.delAll {κ : Type} [DecidableEq κ] {m : FMap κ} {uid : UID} {ks : List κ}
    (hf : FreeFor m uid ks) (l : List κ) : FreeFor (m.delAll l) uid ks := by
  intro k hk u hu
  rw [FMap.delAll_apply] at hu
  split at hu
  · cases hu
  · exact hf k hk u hu

section mapinv
variable {κ : Type} [DecidableEq κ]

omit [DecidableEq κ] in
theorem MapInv.empty (ids : Client → List κ) : MapInv (FMap.empty : FMap κ) [] ids := by
  intro k u; simp [FMap.empty]

theorem MapInv.add {m : FMap κ} {cl : List Client} {ids : Client → List κ} (h : MapInv m cl ids)
    (c : Client) (hfree : FreeFor m c.uid (ids c)) :
    MapInv (m.setAll (ids c) c.uid) (cl ++ [c]) ids := by
  intro k u
  have hr : (∃ c', c' ∈ cl ++ [c] ∧ c'.uid = u ∧ k ∈ ids c') ↔
      m k = some u ∨ (c.uid = u ∧ k ∈ ids c) := by
    simp only [h k u, List.mem_append, List.mem_singleton, or_and_right, exists_or, exists_eq_left]
  rw [hr, FMap.setAll_apply]
  by_cases hk : k ∈ ids c
  · rw [if_pos hk, Option.some.injEq]
    exact ⟨fun e => .inr ⟨e, hk⟩, fun e => e.elim (fun hm => (hfree k hk u hm).symm) (·.1)⟩
  · rw [if_neg hk]
    exact ⟨.inl, fun e => e.elim id fun e => absurd e.2 hk⟩

theorem MapInv.remove {m : FMap κ} {cl : List Client} {ids : Client → List κ} (h : MapInv m cl ids)
    (hu : UidsDistinct cl) {c : Client} (hc : c ∈ cl) :
    MapInv (m.delAll (ids c)) (cl.filter (·.uid != c.uid)) ids := by
  intro k u
  rw [FMap.delAll_apply]
  constructor
  · intro hm
    by_cases hk : k ∈ ids c
    · rw [if_pos hk] at hm; cases hm
    · rw [if_neg hk] at hm
      obtain ⟨c', hc', hu', hk'⟩ := (h k u).mp hm
      -- another owner of `k` with the UID of `c` would be `c`
      have hne : c'.uid ≠ c.uid := fun he => hk (hu.eq_of_uid hc' hc he ▸ hk')
      exact ⟨c', List.mem_filter.mpr ⟨hc', bne_iff_ne.mpr hne⟩, hu', hk'⟩
  · rintro ⟨c', hc', hu', hk'⟩
    obtain ⟨hc', hne⟩ := List.mem_filter.mp hc'
    have hm : m k = some u := (h k u).mpr ⟨c', hc', hu', hk'⟩
    have hk : k ∉ ids c := fun hk => bne_iff_ne.mp hne
      (hu'.trans (Option.some.inj (hm.symm.trans ((h k c.uid).mpr ⟨c, hc, rfl, hk⟩))))
    rw [if_neg hk]
    exact hm

end mapinv

theorem sm_setAll {sm : SortedMap} (h : SMInv sm) (ps : List Prefix) (u : UID) :
    SMInv (ps.foldl (fun m p => m.set p u) sm) ∧
    (ps.foldl (fun m p => m.set p u) sm).vals = sm.vals.setAll ps u := by
  induction ps generalizing sm with
  | nil => exact ⟨h, rfl⟩
  | cons p rest ih =>
    simp only [List.foldl_cons]
    have := ih (h.set p u)
    refine ⟨this.1, ?_⟩
    rw [this.2, SortedMap.set_vals]
    rfl

theorem sm_delAll {sm : SortedMap} (h : SMInv sm) (ps : List Prefix) :
    ∃ sm', ps.foldlM (fun m p => SortedMap.del m p) sm = some sm' ∧ SMInv sm' ∧
      sm'.vals = sm.vals.delAll ps := by
  induction ps generalizing sm with
  | nil => exact ⟨sm, rfl, h, rfl⟩
  | cons p rest ih =>
    obtain ⟨m1, h1, hi1, hv1⟩ := h.del p
    obtain ⟨m2, h2, hi2, hv2⟩ := ih hi1
    refine ⟨m2, ?_, hi2, ?_⟩
    · simp only [List.foldlM_cons, h1]
      exact h2
    · rw [hv2, hv1]; rfl

structure Inv (ci : Index) : Prop where
  uids : UidsDistinct ci.clients
  names : MapInv ci.nameToUID ci.clients (fun c => [c.name])
  cids : MapInv ci.clientIDToUID ci.clients (·.cids)
  ips : MapInv ci.ipToUID ci.clients (·.ips)
  macs : MapInv ci.macToUID ci.clients (·.macs)
  subs : MapInv ci.subnetToUID.vals ci.clients (·.subnets)
  sm : SMInv ci.subnetToUID

theorem Inv.empty : Inv Index.empty :=
  { uids := List.Pairwise.nil
    names := MapInv.empty _, cids := MapInv.empty _, ips := MapInv.empty _, macs := MapInv.empty _
    subs := MapInv.empty _, sm := SMInv.empty }

structure NoClash (ci : Index) (c : Client) : Prop where
  name : FreeFor ci.nameToUID c.uid [c.name]
  cids : FreeFor ci.clientIDToUID c.uid c.cids
  ips : FreeFor ci.ipToUID c.uid c.ips
  subs : FreeFor ci.subnetToUID.vals c.uid c.subnets
  macs : FreeFor ci.macToUID c.uid c.macs

theorem Index.uid_of_client {ci : Index} {u : UID} {c : Client} (h : ci.client u = some c) :
    c.uid = u :=
  eq_of_beq (List.find?_some (p := fun d : Client => d.uid == u) h)

theorem Index.client_eq_none {ci : Index} {u : UID} :
    ci.client u = none ↔ ∀ c ∈ ci.clients, c.uid ≠ u := by
  unfold Index.client
  rw [List.find?_eq_none]
  exact forall₂_congr fun c _ => not_congr beq_iff_eq

theorem Index.client_eq_some {ci : Index} (h : UidsDistinct ci.clients) {u : UID} {c : Client} :
    ci.client u = some c ↔ c ∈ ci.clients ∧ c.uid = u := by
  constructor
  · intro hf
    exact ⟨List.mem_of_find?_eq_some hf, Index.uid_of_client hf⟩
  · rintro ⟨hc, rfl⟩
    cases hf : ci.client c.uid with
    | none => exact absurd rfl (Index.client_eq_none.mp hf c hc)
    | some c' =>
      rw [h.eq_of_uid (List.mem_of_find?_eq_some hf) hc (Index.uid_of_client hf)]

theorem Inv.add {ci : Index} (h : Inv ci) {c : Client} (hfresh : ∀ d ∈ ci.clients, d.uid ≠ c.uid)
    (hnc : NoClash ci c) : Inv (ci.add c) ∧ (ci.add c).clients = ci.clients ++ [c] := by
  have hcl : (ci.add c).clients = ci.clients ++ [c] := congrArg (· ++ [c])
    (List.filter_eq_self.mpr fun d hd => bne_iff_ne.mpr (hfresh d hd))
  have hsm := sm_setAll h.sm c.subnets c.uid
  refine ⟨?_, hcl⟩
  -- `ci.add c` with its client list in the form `MapInv.add` speaks of
  have e : ci.add c = { ci.add c with clients := ci.clients ++ [c] } := by rw [← hcl]
  rw [e]
  exact
    { uids := List.pairwise_append.mpr ⟨h.uids, List.pairwise_singleton _ _,
        fun a ha b hb => List.mem_singleton.mp hb ▸ hfresh a ha⟩
      names := h.names.add c hnc.name
      cids := h.cids.add c hnc.cids
      ips := h.ips.add c hnc.ips
      macs := h.macs.add c hnc.macs
      subs := hsm.2 ▸ h.subs.add c hnc.subs
      sm := hsm.1 }

theorem Inv.remove {ci : Index} (h : Inv ci) {c : Client} (hc : c ∈ ci.clients) :
    ∃ ci', ci.remove c = some ci' ∧ Inv ci' ∧
      ci'.clients = ci.clients.filter (·.uid != c.uid) ∧
      ci'.nameToUID = ci.nameToUID.delAll [c.name] ∧
      ci'.clientIDToUID = ci.clientIDToUID.delAll c.cids ∧
      ci'.ipToUID = ci.ipToUID.delAll c.ips ∧
      ci'.macToUID = ci.macToUID.delAll c.macs ∧
      ci'.subnetToUID.vals = ci.subnetToUID.vals.delAll c.subnets := by
  obtain ⟨sm', hf, hi, hv⟩ := sm_delAll h.sm c.subnets
  unfold Index.remove
  rw [hf]
  exact ⟨_, rfl,
    { uids := h.uids.sublist List.filter_sublist
      names := h.names.remove h.uids hc
      cids := h.cids.remove h.uids hc
      ips := h.ips.remove h.uids hc
      macs := h.macs.remove h.uids hc
      subs := hv ▸ h.subs.remove h.uids hc
      sm := hi }, rfl, rfl, rfl, rfl, rfl, hv⟩

theorem NoClash.remove {ci ci' : Index} {c d : Client} (hnc : NoClash ci d) (h : Inv ci)
    (hc : c ∈ ci.clients) (hr : ci.remove c = some ci') : NoClash ci' d := by
  obtain ⟨_, hr1, _, _, hn, hcid, hip, hm, hs⟩ := h.remove hc
  cases hr.symm.trans hr1
  exact ⟨hn ▸ hnc.name.delAll _, hcid ▸ hnc.cids.delAll _, hip ▸ hnc.ips.delAll _,
    hs ▸ hnc.subs.delAll _, hm ▸ hnc.macs.delAll _⟩

end AGH.C04
