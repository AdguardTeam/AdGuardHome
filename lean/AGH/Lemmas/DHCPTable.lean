/-
C10 — one removal (`Inv_rm`), one clearing of a name (`Inv_clear`) and `addLease` (`Inv_add`) keep the
invariant; its hostname part goes through `HostsSound` and the four ways the code changes index or
table (`del`, `replace`, `enter`, `mono`).  The loops keep what each round keeps (`rmDynLoop_keeps`,
`releaseLoop_keeps`, `resetLoop_keeps`; `rmLease_keeps` from `rmLease_spec`): that `rmDynamicLease` and `rmLease` keep the
invariant is an instance, made in `DHCPHostIdx`.  A completed `rmDynLoop` has removed the client and
freed its name (`rmDynLoop_clean`, `rmDynLoop_frees_name`).
-/
import AGH.Lemmas.DHCPBasic
namespace AGH.C10
open AGH

variable {c : Conf} {s s' s1 : State} {mac host : Bytes} {ip : Nat} {l : Lease} {A B : List Lease}

/-- `Inv.hostsSound` with index and table apart, for the steps that change one of the two. -/
def HostsSound (hosts : Bytes → Option Nat) (L : List Lease) : Prop :=
  ∀ k id, hosts k = some id → ∃ y ∈ L, y.id = id ∧ y.host = k

variable {hosts : Bytes → Option Nat} {L L' : List Lease}

theorem HostsSound.mono (h : HostsSound hosts L) (hsub : ∀ y ∈ L, y ∈ L') : HostsSound hosts L' := by
  intro k id hk
  obtain ⟨y, hy, e⟩ := h k id hk
  exact ⟨y, hsub y hy, e⟩

theorem HostsSound.del (h : HostsSound hosts (A ++ l :: B)) : HostsSound (setFn hosts l.host none) (A ++ B) := by
  intro k id hk
  obtain ⟨hkl, hk'⟩ := setFn_none_iff.1 hk
  obtain ⟨y, hy, hy1, hy2⟩ := h k id hk'
  rcases mem_middle.1 hy with rfl | hy'
  · exact absurd hy2.symm hkl
  · exact ⟨y, hy', hy1, hy2⟩

theorem HostsSound.replace {l' : Lease} (h : HostsSound hosts (A ++ l :: B)) (hid : l'.id = l.id)
    (hh : hosts l.host = some l.id → l'.host = l.host) : HostsSound hosts (A ++ l' :: B) := by
  intro k id hk
  obtain ⟨y, hy, hy1, hy2⟩ := h k id hk
  rcases mem_middle.1 hy with rfl | hy'
  · exact ⟨l', mem_middle.2 (.inl rfl), hid.trans hy1, (hh (by rw [hy2, hy1]; exact hk)).trans hy2⟩
  · exact ⟨y, mem_middle.2 (.inr hy'), hy1, hy2⟩

theorem HostsSound.enter (h : HostsSound hosts L) (hl : l ∈ L) :
    HostsSound (if l.host ≠ [] then setFn hosts l.host (some l.id) else hosts) L := by
  refine ite_ind (P := (HostsSound · L)) (fun _ k id hk => ?_) (fun _ => h)
  rcases setFn_some_iff.1 hk with ⟨rfl, rfl⟩ | ⟨_, hk'⟩
  · exact ⟨l, hl, rfl, rfl⟩
  · exact h k id hk'

theorem enter_nil (l : Lease) (h : hosts [] = none) :
    (if l.host ≠ [] then setFn hosts l.host (some l.id) else hosts) [] = none :=
  ite_ind (P := fun f : Bytes → Option Nat => f [] = none) (fun hne => (setFn_other _ _ _ (Ne.symm hne)).trans h)
    (fun _ => h)

/-- `rmLeaseByIndex` on the element between `A` and `B`. -/
theorem Inv_rm (X : List Lease)
    (h : Inv c { s with leases := A ++ l :: B }) :
    Inv c { rmSide c l X s with leases := A ++ B } := by
  have hip := nodup_map_middle_iff.1 h.ipNodup
  have hsub : ∀ y, y ∈ A ++ B → y ∈ A ++ l :: B := fun y hy => mem_middle.2 (.inr hy)
  constructor
  · exact hip.1
  · exact (nodup_map_middle_iff.1 h.macNodup).1
  · intro y hy; exact h.dynPool y (hsub y hy)
  · intro o
    have hb : s.bits o = true ↔ ∃ y ∈ A ++ l :: B, y.ip = c.start + o ∧ y.ip ≤ c.stop := h.bitsIff o
    refine (clearBit_iff (c := c) (bits := s.bits) (ip := l.ip) (o := o)).trans ?_
    rw [hb, exists_mem_middle]
    exact ⟨fun ⟨hn, hor⟩ => hor.resolve_left hn,
      fun ⟨y, hy, hR⟩ => ⟨fun hl => hip.2 y hy (hR.1.trans hl.1.symm), .inr ⟨y, hy, hR⟩⟩⟩
  · intro ip id
    have hb : s.ips ip = some id ↔ ∃ y ∈ A ++ l :: B, y.ip = ip ∧ y.id = id := h.ipsIff ip id
    show setFn s.ips l.ip none ip = some id ↔ _
    rw [setFn_none_iff, hb, exists_mem_middle]
    exact ⟨fun ⟨hn, hor⟩ => hor.resolve_left (fun hl => hn hl.1.symm),
      fun ⟨y, hy, hR⟩ => ⟨fun e => hip.2 y hy (hR.1.trans e), .inr ⟨y, hy, hR⟩⟩⟩
  · exact HostsSound.del h.hostsSound
  · exact setFn_none_of_none h.hostsNil
  · exact (nodup_map_middle_iff.1 h.idNodup).1
  · intro y hy; exact h.idLt y (hsub y hy)
  · exact h.disk

theorem Inv_of_hosts (s : State) {h' : Bytes} {e : Nat} (h : Inv c { s with leases := A ++ l :: B })
    (hsound : HostsSound hosts (A ++ { l with host := h', exp := e } :: B)) (hnil : hosts [] = none) :
    Inv c { s with leases := A ++ { l with host := h', exp := e } :: B, hosts := hosts } := by
  refine Inv_of_keys h ?_ rfl rfl rfl rfl ?_ hsound hnil
  · simp only [List.map_append, List.map_cons]
    rfl
  · have := h.macNodup
    simpa [List.map_append] using this

/-- `rmDynamicLease` takes the hostname from a dynamic lease of another client
(and the index entry, if it is that lease's). -/
theorem Inv_clear (h : Inv c { s with leases := A ++ l :: B }) :
    Inv c { (if l.host ≠ [] ∧ s.hosts l.host = some l.id then s.delHost l.host else s) with
      leases := A ++ { l with host := [] } :: B } := by
  have hs : HostsSound s.hosts (A ++ l :: B) := h.hostsSound
  refine ite_ind (P := fun t : State => Inv c { t with leases := A ++ { l with host := [] } :: B })
    (fun _ => ?_) (fun hd => ?_)
  · exact Inv_of_hosts s h (hs.del.mono fun y hy => mem_middle.2 (.inr hy)) (setFn_none_of_none h.hostsNil)
  · refine Inv_of_hosts s h (hs.replace rfl fun hp => ?_) h.hostsNil
    -- an entry for the old name that was not deleted: the old name is empty
    exact Decidable.byContradiction fun hne => hd ⟨fun e => hne e.symm, hp⟩

theorem addLease_ok : addLease c l s = .ok s' →
    (l.static = true → inSubnet c l.ip = true) ∧ (l.static = false → c.start ≤ l.ip ∧ l.ip ≤ c.stop) ∧
    (l.host ≠ [] → s.hosts l.host = none) ∧ s' = addLeaseOK c l s := by
  fun_cases addLease c l s with
  | case4 h1 h2 h3 =>
    intro hadd
    refine ⟨?_, ?_, ?_, (Except.ok.inj hadd).symm⟩
    · intro hs
      refine Decidable.byContradiction fun hn => h1 ?_
      simp [hs, hn]
    · intro hs
      refine Decidable.byContradiction fun hn => h2 ?_
      simp [hs, offset_eq_none.2 hn]
    · intro hne
      cases hh : s.hosts l.host with
      | none => rfl
      | some _ => exact absurd ⟨hne, by rw [hh]; rfl⟩ h3
  -- each of the three tests that fails is an error
  | _ => nofun

theorem addLease_accepts (h1 : l.static = true → inSubnet c l.ip = true)
    (h2 : l.static = false → c.start ≤ l.ip ∧ l.ip ≤ c.stop) (h3 : l.host ≠ [] → s.hosts l.host = none) :
    addLease c l s = .ok (addLeaseOK c l s) := by
  have e1 : (l.static && !inSubnet c l.ip) = false := by
    cases hs : l.static
    · rfl
    · simp [h1 hs]
  have e2 : (!l.static && (offset c l.ip).isNone) = false := by
    cases hs : l.static
    · simp [offset, h2 hs]
    · rfl
  have e3 : ¬ (l.host ≠ [] ∧ (s.hosts l.host).isSome = true) := by
    rintro ⟨hne, hsome⟩
    rw [h3 hne] at hsome
    cases hsome
  unfold addLease
  simp only [e1, e2, Bool.false_eq_true, if_false]
  rw [if_neg e3]

theorem addLeaseOK_hosts_new (hne : l.host ≠ []) : (addLeaseOK c l s).hosts l.host = some l.id :=
  (congrFun (if_pos hne) l.host).trans (setFn_same _ _ _)

theorem addLeaseOK_hosts_other {k : Bytes} (hk : k ≠ l.host) : (addLeaseOK c l s).hosts k = s.hosts k :=
  ite_ind (P := fun f : Bytes → Option Nat => f k = s.hosts k) (fun _ => setFn_other _ _ _ hk) (fun _ => rfl)

theorem Inv_add (h : Inv c s)
    (hadd : addLease c l s = .ok s')
    (hip : ∀ y ∈ s.leases, y.ip ≠ l.ip) (hmac : ∀ y ∈ s.leases, y.mac ≠ l.mac)
    (hidlt : l.id < s.nextId) (hidfresh : ∀ y ∈ s.leases, y.id ≠ l.id) :
    Inv c s' := by
  obtain ⟨_, hrange, _, rfl⟩ := addLease_ok hadd
  constructor
  · exact nodup_map_snoc h.ipNodup hip
  · exact nodup_map_snoc h.macNodup hmac
  · exact List.forall_mem_append.2 ⟨h.dynPool, List.forall_mem_singleton.2 hrange⟩
  · intro o
    refine (setBit_iff (c := c) (bits := s.bits) (ip := l.ip) (o := o)).trans ?_
    show _ ↔ ∃ y ∈ s.leases ++ [l], y.ip = c.start + o ∧ y.ip ≤ c.stop
    rw [exists_mem_middle, List.append_nil, h.bitsIff o]
  · intro ip id
    show setFn s.ips l.ip (some l.id) ip = some id ↔ ∃ y ∈ s.leases ++ [l], y.ip = ip ∧ y.id = id
    rw [setFn_some_iff, exists_mem_middle, List.append_nil, h.ipsIff ip id]
    exact or_congr_right (and_iff_right_of_imp fun ⟨y, hy, h1, _⟩ e => hip y hy (h1.trans e))
  · exact (HostsSound.mono h.hostsSound fun y hy => List.mem_append_left _ hy).enter
      (List.mem_append_right _ (List.mem_singleton.2 rfl))
  · exact enter_nil l h.hostsNil
  · exact nodup_map_snoc h.idNodup hidfresh
  · exact List.forall_mem_append.2 ⟨h.idLt, List.forall_mem_singleton.2 hidlt⟩
  · exact h.disk

theorem addLease_frame (hadd : addLease c l s = .ok s') :
    s'.leases = s.leases ++ [l] ∧ s'.nextId = s.nextId ∧ s'.disk = s.disk ∧ s'.now = s.now := by
  obtain ⟨_, _, _, rfl⟩ := addLease_ok hadd
  exact ⟨rfl, rfl, rfl, rfl⟩

/-- What every removal and every clearing of a dynamic lease keeps, `rmDynLoop` keeps, completed or
not; `X` is the list whose last id `rmSide` puts on `stale`, any list here. -/
theorem rmDynLoop_keeps {P : State → Prop}
    (rm : ∀ (s : State) (A B X : List Lease) (l : Lease), l.static = false →
      P { s with leases := A ++ l :: B } → P { rmSide c l X s with leases := A ++ B })
    (clear : ∀ (s : State) (A B : List Lease) (l : Lease), l.static = false →
      P { s with leases := A ++ l :: B } →
      P { (if l.host ≠ [] ∧ s.hosts l.host = some l.id then s.delHost l.host else s) with
        leases := A ++ { l with host := [] } :: B }) :
    ∀ (todo pre : List Lease) (s : State), P { s with leases := pre ++ todo } →
      P (rmDynLoop c mac ip host pre todo s).1 := by
  intro todo
  induction todo with
  | nil =>
    intro pre s h
    rw [List.append_nil] at h
    exact h
  | cons l rest ih =>
    intro pre s h
    unfold rmDynLoop
    have br := @ite_ind (State × Bool) (fun r => P r.1)
    refine br (fun _ => br (fun _ => h) (fun hs => ?_)) (fun _ => br (fun hc => ?_) (fun _ => ?_))
    · exact ih pre _ (rm s pre rest _ l (by simpa using hs) h)
    · rw [Bool.and_eq_true, Bool.not_eq_true'] at hc
      refine ih _ _ ?_
      rw [List.append_assoc, List.singleton_append]
      exact clear s pre rest l hc.1 h
    · refine ih _ _ ?_
      rw [List.append_assoc, List.singleton_append]
      exact h

theorem rmDynLoop_frame (c : Conf) (mac : Bytes) (ip : Nat) (host : Bytes) :
    ∀ (todo pre : List Lease) (s : State),
      (rmDynLoop c mac ip host pre todo s).1.nextId = s.nextId ∧
      (rmDynLoop c mac ip host pre todo s).1.now = s.now ∧
      (rmDynLoop c mac ip host pre todo s).1.disk = s.disk := by
  intro todo pre s
  refine rmDynLoop_keeps (P := fun t => t.nextId = s.nextId ∧ t.now = s.now ∧ t.disk = s.disk)
    (fun _ _ _ _ _ _ h => h) (fun t _ _ l _ h => ?_) todo pre s ⟨rfl, rfl, rfl⟩
  exact ite_ind (P := fun u : State => u.nextId = s.nextId ∧ u.now = s.now ∧ u.disk = s.disk) (fun _ => h) (fun _ => h)

theorem rmDynLoop_clean (c : Conf) (mac : Bytes) (ip : Nat) (host : Bytes) :
    ∀ (todo pre : List Lease) (s : State), (∀ x ∈ pre, x.mac ≠ mac ∧ x.ip ≠ ip) →
      (rmDynLoop c mac ip host pre todo s).2 = false →
      ∀ x ∈ (rmDynLoop c mac ip host pre todo s).1.leases, x.mac ≠ mac ∧ x.ip ≠ ip := by
  intro todo
  induction todo with
  | nil => intro pre s hpre _; exact hpre
  | cons l rest ih =>
    intro pre s hpre
    have snoc : ∀ y : Lease, y.mac = l.mac → y.ip = l.ip → ¬ ((l.mac == mac || l.ip == ip) = true) →
        ∀ x ∈ pre ++ [y], x.mac ≠ mac ∧ x.ip ≠ ip := by
      intro y e1 e2 hm x hx
      rcases List.mem_append.1 hx with hx | hx
      · exact hpre x hx
      · rw [List.mem_singleton.1 hx, e1, e2]
        simpa using hm
    unfold rmDynLoop
    have br := @ite_ind (State × Bool)
      (fun r => r.2 = false → ∀ x ∈ r.1.leases, x.mac ≠ mac ∧ x.ip ≠ ip)
    exact br (fun _ => br (fun _ hf => by cases hf) (fun _ => ih pre _ hpre))
      (fun hm => br (fun _ => ih _ _ (snoc _ rfl rfl hm)) (fun _ => ih _ _ (snoc _ rfl rfl hm)))

theorem rmDynamicLease_clean (hr : rmDynamicLease c mac ip host s = (s1, false)) : ∀ x ∈ s1.leases, x.mac ≠ mac ∧ x.ip ≠ ip := by
  have := rmDynLoop_clean c mac ip host s.leases [] s (fun x hx => by cases hx)
  unfold rmDynamicLease at hr
  rw [hr] at this
  exact this rfl

theorem rmDynLoop_hosts_none (c : Conf) (mac : Bytes) (ip : Nat) (host : Bytes) (k : Bytes) :
    ∀ (todo pre : List Lease) (s : State), s.hosts k = none → (rmDynLoop c mac ip host pre todo s).1.hosts k = none :=
  rmDynLoop_keeps (P := fun t => t.hosts k = none) (fun _ _ _ _ _ _ h => setFn_none_of_none h)
    (fun _ _ _ _ _ h => ite_ind (P := fun u : State => u.hosts k = none) (fun _ => setFn_none_of_none h) (fun _ => h))

theorem rmDynLoop_frees_name (c : Conf) (mac : Bytes) (ip : Nat) (host : Bytes) (old : Lease) :
    ∀ (todo pre : List Lease) (s : State), old ∈ todo → old.mac = mac →
      (rmDynLoop c mac ip host pre todo s).2 = false →
      (rmDynLoop c mac ip host pre todo s).1.hosts old.host = none := by
  intro todo
  induction todo with
  | nil => intro pre s h; cases h
  | cons l rest ih =>
    intro pre s hmem hmac
    unfold rmDynLoop
    have br := @ite_ind (State × Bool) (fun r => r.2 = false → r.1.hosts old.host = none)
    rcases List.mem_cons.1 hmem with rfl | hmem'
    · rw [if_pos (by simp [hmac])]
      refine br (fun _ hf => by cases hf) (fun _ _ => ?_)
      exact rmDynLoop_hosts_none c mac ip host old.host rest pre _ (setFn_same _ _ _)
    · exact br (fun _ => br (fun _ hf => by cases hf) (fun _ => ih pre _ hmem' hmac))
        (fun _ => br (fun _ => ih _ _ hmem' hmac) (fun _ => ih _ _ hmem' hmac))

theorem rmDynamicLease_frees_name {old : Lease} (hold : old ∈ s.leases) (hm : old.mac = mac)
    (hr : rmDynamicLease c mac ip host s = (s1, false)) : s1.hosts old.host = none := by
  have := rmDynLoop_frees_name c mac ip host old s.leases [] s hold hm
  unfold rmDynamicLease at hr
  rw [hr] at this
  exact this rfl

theorem releaseLoop_keeps {P : State → Prop}
    (rm : ∀ (t : State) (m : Bytes) (i : Nat) (h : Bytes), P t → P (rmDynamicLease c m i h t).1)
    (n k : Nat) (s : State) : P s → P (releaseLoop c mac ip n k s).1 := by
  fun_induction releaseLoop c mac ip n k s with
  | case1 => exact id
  -- 2-4, the next slot: past the backing array; an id no lease (live or removed) carries; a lease of another client or address;
  -- 5: `rmDynamicLease` refuses (a static lease), the loop stops; 6: the lease is removed, the next slot
  | case2 => assumption
  | case3 => assumption
  | case4 => assumption
  | case5 n k s id _ l _ _ s1 hr => exact fun h => hr ▸ rm s l.mac l.ip l.host h
  | case6 n k s id _ l _ _ s1 hr ih => exact fun h => ih (show P (s1, false).1 from hr ▸ rm s l.mac l.ip l.host h)

theorem findIdxIP_spec (ip : Nat) (L : List Lease) (k : Nat) {i : Nat} {l : Lease} :
    findIdxIP ip L k = some (i, l) → ∃ A B, L = A ++ l :: B ∧ i = k + A.length ∧ l.ip = ip := by
  fun_induction findIdxIP ip L k with
  | case1 => nofun
  | case2 x xs k hx =>
    intro h
    cases h
    exact ⟨[], xs, rfl, rfl, beq_iff_eq.mp hx⟩
  | case3 x xs k _ ih =>
    intro h
    obtain ⟨A, B, rfl, hi, hl⟩ := ih h
    exact ⟨x :: A, B, rfl, hi.trans (Nat.add_right_comm k 1 _), hl⟩

theorem rmAt_split (hs : s.leases = A ++ l :: B) :
    rmAt c A.length s = { rmSide c l s.leases s with leases := A ++ B } := by
  unfold rmAt
  have : s.leases[A.length]? = some l := by rw [hs]; simp
  rw [this]
  simp only []
  congr 1
  rw [hs]
  simp [List.eraseIdx_append_of_length_le]

theorem rmLease_spec : rmLease c mac ip host s = .ok s' →
    (s.leases = [] ∧ s' = s) ∨
    ∃ A B l, s.leases = A ++ l :: B ∧ l.ip = ip ∧ l.mac = mac ∧ l.host = host ∧
      s' = { rmSide c l s.leases s with leases := A ++ B } := by
  fun_cases rmLease c mac ip host s with
  | case1 he => intro hr; cases hr; exact .inl ⟨List.isEmpty_iff.mp he, rfl⟩
  | case2 => nofun
  | case3 => nofun
  | case4 _ i l hf hcmp =>
    intro hr
    cases hr
    obtain ⟨A, B, hs, hi, hip⟩ := findIdxIP_spec ip s.leases 0 hf
    cases hi.trans (Nat.zero_add _)
    simp only [Bool.or_eq_true, bne_iff_ne, ne_eq, not_or, Decidable.not_not] at hcmp
    exact .inr ⟨A, B, l, hs, hip, hcmp.1, hcmp.2, rmAt_split hs⟩

theorem rmLease_keeps {P : State → Prop}
    (rm : ∀ (s : State) (A B X : List Lease) (l : Lease),
      P { s with leases := A ++ l :: B } → P { rmSide c l X s with leases := A ++ B })
    (h : P s) (hr : rmLease c mac ip host s = .ok s') : P s' := by
  rcases rmLease_spec hr with ⟨_, rfl⟩ | ⟨A, B, l, hs, _, _, _, rfl⟩
  · exact h
  · refine rm s A B _ l ?_
    rw [← hs]
    exact h

/-- `resetLoop` keeps what a refused record (an id used up) and an accepted record of the list keep.
For predicates of the state alone: `resetLoop_inv2` and `resetLoop_loadable` also read the records still
to come and are inductions of their own. -/
theorem resetLoop_keeps {O : Oracle} {P : State → Prop} {d : List DLease} (fresh : ∀ s, P s → P s.fresh.2)
    (add : ∀ x ∈ d, ∀ s s', P s → addLease c (loadLease O c x s.nextId) s.fresh.2 = .ok s' → P s') :
    ∀ s, P s → P (resetLoop O c d s) := by
  induction d with
  | nil => exact fun _ h => h
  | cons x rest ih =>
    intro s h
    have ih := ih fun y hy => add y (List.mem_cons_of_mem _ hy)
    unfold resetLoop
    cases hadd : addLease c (loadLease O c x s.nextId) s.fresh.2 with
    | error e => exact ih _ (fresh s h)
    | ok s' => exact ih _ (add x List.mem_cons_self s s' h hadd)

end AGH.C10
