/-
C15 helper lemmas: the asynchronous engine rebuild with bursts of handler
calls ("latest request wins") keeps the invariant `BInv`.
-/
import AGH.Lemmas.RuleListRefresh
namespace AGH.C15
open AGH AGH.Bytes

theorem refreshOne_enabled (flt : Flt) (f : Fetch) : (refreshOne flt f).enabled = flt.enabled := by
  unfold refreshOne
  cases updateIntl flt.checksum f with
  | none => rfl
  | some p => rfl

theorem phase1Entry_enabled (rq : Req) (l : LState) (x : Option (Bool × Fetch)) :
    (phase1Entry rq l x).1.flt.enabled = l.flt.enabled := by
  cases x with
  | none => rfl
  | some x =>
    obtain ⟨due, f⟩ := x
    rw [phase1Entry_fst, attemptOn_flt]
    split
    · exact refreshOne_enabled l.flt f
    · rfl

theorem phase1_enabled (rq : Req) (ls : List LState) (ins : List (Bool × Fetch)) :
    (phase1 rq ls ins).map (·.1.flt.enabled) = enabledFlags ls := by
  refine List.ext_getElem? fun i => ?_
  rw [enabledFlags, List.getElem?_map, List.getElem?_map, phase1_getElem?, Option.map_map]
  exact Option.map_congr fun l _ => phase1Entry_enabled rq l _

theorem refreshStep_enabled (rq : Req) (ls : List LState) (ins : List (Bool × Fetch)) :
    enabledFlags (refreshStep rq ls ins) = enabledFlags ls := by
  rw [← phase1_enabled rq ls ins]
  unfold refreshStep enabledFlags
  rw [List.map_map]
  exact List.map_congr_left fun r _ => congrArg Flt.enabled (reloaded_flt _ r.1)

theorem applySnap_enabled : ∀ (ls : List LState) (snap : List Bool),
    enabledFlags (applySnap ls snap) = enabledFlags ls := by
  intro ls snap
  fun_induction applySnap ls snap with
  | case1 l ls e es ih => exact congrArg (l.flt.enabled :: ·) ih
  | case2 => rfl

theorem applySnap_insync : ∀ (ls : List LState), ∀ l' ∈ applySnap ls (enabledFlags ls), InSync l' := by
  intro ls
  induction ls with
  | nil => intro l' h; simp [applySnap] at h
  | cons l ls ih =>
    intro l' h
    simp only [enabledFlags, List.map_cons, applySnap, List.mem_cons] at h
    rcases h with rfl | h
    · rfl
    · exact ih l' h

theorem enabledFlags_set (ls : List LState) (i : Nat) (l : LState) (flt' : Flt) (hl : ls[i]? = some l)
    (he : flt'.enabled = l.flt.enabled) :
    enabledFlags (ls.set i { l with flt := flt' }) = enabledFlags ls := by
  unfold enabledFlags
  rw [List.map_set]
  simp only [he]
  have hget : (ls.map fun x => x.flt.enabled)[i]? = some l.flt.enabled := by
    rw [List.getElem?_map, hl]; rfl
  obtain ⟨hi, hget⟩ := List.getElem?_eq_some_iff.mp hget
  rw [← hget]; exact List.set_getElem_self hi

theorem binv_requested (ls : List LState) : BInv ⟨ls, some (enabledFlags ls)⟩ :=
  ⟨fun _ hsn => (Option.some.inj hsn).symm, fun hn => nomatch hn⟩

theorem stepB_inv (s : BState) (op : BOp) (h : BInv s) : BInv (stepB s op) := by
  obtain ⟨hp, hs⟩ := h
  cases op with
  | refresh rq ins =>
    exact ⟨fun snap hsn => (refreshStep_enabled rq s.ls ins).symm ▸ hp snap hsn,
      fun hn => refreshStep_insync rq s.ls ins (hs hn)⟩
  | enqueue => exact binv_requested s.ls
  | remove i =>
    simp only [stepB, removeAsync]
    cases s.ls[i]? with
    | none => exact ⟨hp, hs⟩
    | some l => exact binv_requested _
  | loop =>
    simp only [stepB, drain]
    cases hpe : s.pending with
    | none => exact ⟨fun snap hsn => (nomatch hpe ▸ hsn), fun _ => hs hpe⟩
    | some snap =>
      refine ⟨fun sn hsn => (nomatch hsn), fun _ => ?_⟩
      rw [hp snap hpe]
      exact applySnap_insync s.ls
  | setURL i rq f =>
    show BInv (setURLAsync s i rq f).1
    fun_cases setURLAsync s i rq f with
    | case1 => exact ⟨hp, hs⟩
    | case2 => exact binv_requested _
    | case3 l hl o ls1 hres =>
      -- without a rebuild request the enabled flags and the files are as before
      have ⟨he, hfl⟩ := setProps_no_restart l.flt rq f hres
      exact ⟨fun snap hsn => (enabledFlags_set s.ls i l _ hl he).symm ▸ hp snap hsn,
        fun hn => insync_set hl he hfl (hs hn)⟩

end AGH.C15
