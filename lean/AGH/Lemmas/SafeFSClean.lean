/-
C17 helper lemmas: `filepath.Clean` on absolute paths is kernel path
resolution in a symlink-free tree; its result has only plain components and
is a fixed point of `Clean`.
-/
import AGH.Spec.SafeFS
import AGH.Lemmas.Bytes
namespace AGH.C17
open AGH AGH.Bytes

def walkStep (cur : List Bytes) (c : Bytes) : List Bytes :=
  if c = [] ∨ c = dotC then cur else if c = dotdotC then cur.dropLast else cur ++ [c]

theorem walk_cons (cur : List Bytes) (c : Bytes) (cs : List Bytes) :
    walk cur (c :: cs) = walk (walkStep cur c) cs := by
  unfold walkStep
  rw [apply_ite (walk · cs), apply_ite (walk · cs)]
  rfl

theorem walkStep_plain {cur : List Bytes} {c : Bytes} (hcur : ∀ x ∈ cur, plainComp x) (hc : slash ∉ c) :
    ∀ x ∈ walkStep cur c, plainComp x := by
  fun_cases walkStep cur c
  · exact hcur
  · exact fun x hx => hcur x (List.dropLast_subset _ hx)
  · next h1 h2 =>
    intro x hx
    rcases List.mem_append.mp hx with hx | hx
    · exact hcur x hx
    · rw [List.mem_singleton.mp hx]
      exact ⟨fun h => h1 (.inl h), fun h => h1 (.inr h), h2, hc⟩

theorem walk_plain : ∀ (cs cur : List Bytes), (∀ c ∈ cur, plainComp c) → (∀ c ∈ cs, slash ∉ c) →
    ∀ c ∈ walk cur cs, plainComp c := by
  intro cs
  induction cs with
  | nil => intro cur hcur _; exact hcur
  | cons c cs ih =>
    intro cur hcur hcs
    rw [walk_cons]
    exact ih _ (walkStep_plain hcur (hcs c List.mem_cons_self)) (fun x hx => hcs x (List.mem_cons_of_mem _ hx))

theorem walkStep_of_plain (cur : List Bytes) {c : Bytes} (hc : plainComp c) : walkStep cur c = cur ++ [c] :=
  (if_neg fun h => h.elim hc.1 hc.2.1).trans (if_neg hc.2.2.1)

theorem walk_of_plain : ∀ (cs cur : List Bytes), (∀ c ∈ cs, plainComp c) → walk cur cs = cur ++ cs := by
  intro cs
  induction cs with
  | nil => intro cur _; exact (List.append_nil _).symm
  | cons c cs ih =>
    intro cur h
    rw [walk_cons, walkStep_of_plain cur (h c List.mem_cons_self), ih _ (fun x hx => h x (List.mem_cons_of_mem _ hx)),
      List.append_assoc]
    rfl

theorem walk_filter_empty : ∀ (cs cur : List Bytes), walk cur (cs.filter (· != [])) = walk cur cs := by
  intro cs
  induction cs with
  | nil => intro cur; rfl
  | cons c cs ih =>
    intro cur
    rw [walk_cons]
    by_cases hc : c = []
    · -- the filter drops `[]` and the step ignores it, both by evaluation
      subst hc; exact ih cur
    · have hb : (c != []) = true := bne_iff_ne.mpr hc
      rw [List.filter_cons_of_pos (p := (· != [])) hb, walk_cons]; exact ih _

theorem cleanStack_walk (cs acc : List Bytes) : (∀ c ∈ acc, c ≠ dotdotC) →
    cleanStack true cs acc = (walk acc.reverse cs).reverse := by
  -- no component; an empty one or `.`; `..` on a stack with `..` on top (excluded), with another top, empty (rooted, not rooted); any other
  fun_induction cleanStack true cs acc with
  | case1 acc => intro _; exact (List.reverse_reverse _).symm
  | case2 c cs acc h1 ih =>
    intro hacc
    rw [walk_cons, walkStep, if_pos h1]; exact ih hacc
  | case3 cs st h1 ih => intro hacc; exact absurd rfl (hacc _ List.mem_cons_self)
  | case4 cs top st ht h1 ih =>
    intro hacc
    rw [walk_cons, walkStep, if_neg h1, if_pos rfl, List.reverse_cons, List.dropLast_concat]
    exact ih fun c hc => hacc c (List.mem_cons_of_mem _ hc)
  | case5 cs _ h1 ih =>
    intro hacc
    rw [walk_cons, walkStep, if_neg h1, if_pos rfl]; exact ih hacc
  | case6 cs hr => exact absurd rfl hr
  | case7 c cs acc h1 h2 ih =>
    intro hacc
    rw [walk_cons, walkStep, if_neg h1, if_neg h2, ← List.reverse_cons]
    exact ih fun x hx => (List.mem_cons.mp hx).elim (fun h => h ▸ h2) (hacc x)

theorem comps_root_join (st : List Bytes) (h : ∀ c ∈ st, plainComp c) :
    comps (slash :: joinWith slash st) = st := by
  unfold comps
  rw [splitOn_cons_sep]
  cases st with
  | nil => simp [joinWith, splitOn]
  | cons a st' =>
    rw [splitOn_joinWith slash (a :: st') (by simp) (fun c hc => (h c hc).2.2.2)]
    simp only [bne_self_eq_false, Bool.false_eq_true, not_false_eq_true, List.filter_cons_of_neg]
    rw [List.filter_eq_self]
    intro c hc
    simpa using (h c hc).1

theorem pathClean_eq_resolve {p : Bytes} (h : isAbs p = true) :
    pathClean p = slash :: joinWith slash (resolve p) := by
  cases p with
  | nil => simp [isAbs] at h
  | cons b rest =>
    have hb : b = slash := by simpa [isAbs] using h
    subst hb
    simp only [pathClean, beq_self_eq_true, if_true]
    rw [cleanStack_walk _ [] (by simp)]
    simp [resolve]

theorem isAbs_pathClean {p : Bytes} (h : isAbs p = true) : isAbs (pathClean p) = true := by
  rw [pathClean_eq_resolve h]; rfl

theorem resolve_plain (p : Bytes) : ∀ c ∈ resolve p, plainComp c :=
  walk_plain _ [] (by simp) (splitOn_no_sep slash p)

theorem comps_pathClean {p : Bytes} (h : isAbs p = true) : comps (pathClean p) = resolve p := by
  rw [pathClean_eq_resolve h]
  exact comps_root_join _ (resolve_plain p)

/-- Walking the cleaned path: its components are plain, so each of them descends. -/
theorem resolve_pathClean {p : Bytes} (h : isAbs p = true) : resolve (pathClean p) = resolve p := by
  have : resolve (pathClean p) = walk [] (comps (pathClean p)) := (walk_filter_empty _ _).symm
  rw [this, comps_pathClean h, walk_of_plain _ _ (resolve_plain p)]
  rfl

theorem pathClean_idem {p : Bytes} (h : isAbs p = true) : pathClean (pathClean p) = pathClean p := by
  rw [pathClean_eq_resolve (isAbs_pathClean h), resolve_pathClean h]
  exact (pathClean_eq_resolve h).symm

end AGH.C17
