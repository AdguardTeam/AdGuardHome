/-
C13, settings a step does not concern are preserved at every depth: `YVal.beq`, by which
the spec compares values, decides equality (`YVal.beq_iff`); general facts
about the spec's frame predicate `frameV` (reflexive, monotone in the concerned
paths, transitive, kept by re-reading: `frameV_er`), the two lemmas by which the
per-step proofs establish it: writing a field (`frameV_putK`) and deleting one
(`frameV_delK`) frame a mapping, and what a frame gives a reader: a path of keys with no
concerned path on its branch reads the same (`frameV_getKeys`).  All of these take a frame apart by
`frameV_cases`, into the four ways of `Framed`, and build one by `frameV_touched`, `frameV_obj`,
`frameV_arr`; `frameV` itself is unfolded in `frameV_eq` only.
-/
import AGH.Lemmas.MigrateErase
namespace AGH.C13
open AGH

mutual
theorem YVal.beq_refl : ∀ v : YVal, YVal.beq v v = true
  | .arr xs => by simp [YVal.beq, YVal.beqList_refl xs]
  | .obj es => by simp [YVal.beq, YVal.beqEntries_refl es]
  | .null | .bool _ | .int _ | .str _ | .opaque _ _ | .dur _ | .strs _ | .umode _ => by simp [YVal.beq]
theorem YVal.beqList_refl : ∀ xs : List YVal, YVal.beqList xs xs = true
  | [] => by simp [YVal.beqList]
  | x :: xs => by simp [YVal.beqList, YVal.beq_refl x, YVal.beqList_refl xs]
theorem YVal.beqEntries_refl : ∀ es : List (Key × YVal), YVal.beqEntries es es = true
  | [] => by simp [YVal.beqEntries]
  | (k, v) :: es => by simp [YVal.beqEntries, YVal.beq_refl v, YVal.beqEntries_refl es]
end

/-- By the induction principle of `YVal.beq`: one case per equation of the three functions; in the
last equation of each no pattern matches and the result is `false`. -/
theorem YVal.eq_of_beq_all :
    (∀ a b : YVal, YVal.beq a b = true → a = b) ∧
    (∀ es fs : List (Key × YVal), YVal.beqEntries es fs = true → es = fs) ∧
    (∀ xs ys : List YVal, YVal.beqList xs ys = true → xs = ys) := by
  refine YVal.beq.mutual_induct (fun a b => YVal.beq a b = true → a = b)
    (fun es fs => YVal.beqEntries es fs = true → es = fs) (fun xs ys => YVal.beqList xs ys = true → xs = ys)
    ?_ ?_ ?_ ?_ ?_ ?_ ?_ ?_ ?_ ?_ ?_ ?_ ?_ ?_ ?_ ?_ ?_
  · exact fun _ => rfl
  · intro a b h; rw [YVal.beq] at h; rw [eq_of_beq h]
  · intro a b h; rw [YVal.beq] at h; rw [eq_of_beq h]
  · intro a b h; rw [YVal.beq] at h; rw [eq_of_beq h]
  · intro k a l b h; rw [YVal.beq, Bool.and_eq_true] at h; rw [eq_of_beq h.1, eq_of_beq h.2]
  · intro xs ys ih h; rw [YVal.beq] at h; rw [ih h]
  · intro es fs ih h; rw [YVal.beq] at h; rw [ih h]
  · intro a b h; rw [YVal.beq] at h; rw [eq_of_beq h]
  · intro a b h; rw [YVal.beq] at h; rw [eq_of_beq h]
  · intro a b h; rw [YVal.beq] at h; rw [eq_of_beq h]
  · intro t x h1 h2 h3 h4 h5 h6 h7 h8 h9 h10 h
    rw [YVal.beq.eq_11 t x h1 h2 h3 h4 h5 h6 h7 h8 h9 h10] at h; cases h
  · exact fun _ => rfl
  · intro x xs y ys ih1 ih2 h
    rw [YVal.beqList, Bool.and_eq_true] at h; rw [ih1 h.1, ih2 h.2]
  · intro t x h1 h2 h
    rw [YVal.beqList.eq_3 t x h1 h2] at h; cases h
  · exact fun _ => rfl
  · intro k x xs l y ys ih1 ih2 h
    rw [YVal.beqEntries, Bool.and_eq_true, Bool.and_eq_true] at h; rw [eq_of_beq h.1.1, ih1 h.1.2, ih2 h.2]
  · intro t x h1 h2 h
    rw [YVal.beqEntries.eq_3 t x h1 h2] at h; cases h

theorem YVal.eq_of_beq : ∀ a b : YVal, YVal.beq a b = true → a = b :=
  YVal.eq_of_beq_all.1
theorem YVal.eq_of_beqList : ∀ xs ys : List YVal, YVal.beqList xs ys = true → xs = ys :=
  YVal.eq_of_beq_all.2.2
theorem YVal.eq_of_beqEntries : ∀ es fs : List (Key × YVal), YVal.beqEntries es fs = true → es = fs :=
  YVal.eq_of_beq_all.2.1

theorem YVal.beq_iff (a b : YVal) : (a == b) = true ↔ a = b :=
  ⟨YVal.eq_of_beq a b, fun h => h ▸ YVal.beq_refl a⟩

theorem optBeq_iff (a b : Option YVal) : (a == b) = true ↔ a = b := by
  cases a <;> cases b <;> simp [YVal.beq_iff]

/-- The third branch of `frameV`, named so that `frameV_eq` can be stated. -/
def frameShape (fp : List Path) (rp : Path) (din : YVal) (dout : Option YVal) : Bool :=
  match din, dout with
  | .obj es, some (.obj fs) => frameEs fp rp [] es fs && newKeysOK fp rp es fs
  | .arr xs, some (.arr ys) => frameList fp rp xs ys
  | _, _ => dout == some din

theorem frameV_eq (fp : List Path) (rp : Path) (din : YVal) (dout : Option YVal) :
    frameV fp rp din dout =
      (if isTouched fp rp.reverse then true
       else if !reaches fp rp.reverse then dout == some din
       else frameShape fp rp din dout) := by
  rw [frameV.eq_def]; rfl

theorem frameEs_iff (fp : List Path) (rp : Path) : ∀ (es : List (Key × YVal)) (seen : List Key) (fs),
    frameEs fp rp seen es fs = true ↔
      ∀ k v, k ∉ seen → lookup k es = some v → frameV fp (pk k :: rp) v (lookup k fs) = true := by
  intro es
  induction es with
  | nil => intro seen fs; simp [frameEs, lookup]
  | cons e es ih =>
    intro seen fs
    obtain ⟨k0, v0⟩ := e
    rw [frameEs, Bool.and_eq_true, Bool.or_eq_true, ih, lookupE_eq_lookup, List.contains_iff_mem]
    constructor
    · rintro ⟨h1, h2⟩ k v hk hl
      by_cases hk0 : k0 = k
      · subst hk0
        simp [lookup] at hl; subst hl
        rcases h1 with h1 | h1
        · exact absurd h1 hk
        · exact h1
      · simp [lookup, hk0] at hl
        exact h2 k v (by simp [hk, Ne.symm hk0]) hl
    · intro h
      refine ⟨?_, fun k v hk hl => ?_⟩
      · by_cases hs : k0 ∈ seen
        · exact Or.inl hs
        · exact Or.inr (h k0 v0 hs (by simp [lookup]))
      · simp at hk
        exact h k v hk.2 (by simp [lookup, Ne.symm hk.1, hl])

theorem newKeysOK_iff (fp : List Path) (rp : Path) (es : List (Key × YVal)) : ∀ (fs : List (Key × YVal)),
    newKeysOK fp rp es fs = true ↔ ∀ k, (lookup k fs).isSome = true →
      (lookup k es).isSome = true ∨ isTouched fp (pk k :: rp).reverse = true
  | [] => by simp [newKeysOK, lookup]
  | (l, y) :: fs => by
    rw [newKeysOK, Bool.and_eq_true, Bool.or_eq_true, lookupE_eq_lookup, newKeysOK_iff fp rp es fs]
    constructor
    · rintro ⟨hl, h⟩ k hk
      by_cases hlk : l = k
      · exact hlk ▸ hl
      · exact h k (by simpa [lookup, hlk] using hk)
    · intro h
      refine ⟨h l (by simp [lookup]), fun k hk => h k ?_⟩
      by_cases hlk : l = k <;> simp [lookup, hlk, hk]

theorem frameList_iff (fp : List Path) (rp : Path) : ∀ (xs ys : List YVal), frameList fp rp xs ys = true ↔
    xs.length = ys.length ∧
    ∀ i (hx : i < xs.length) (hy : i < ys.length), frameV fp (.each :: rp) xs[i] (some ys[i]) = true
  | [], [] => by simp [frameList]
  | [], _ :: _ => by simp [frameList]
  | _ :: _, [] => by simp [frameList]
  | x :: xs, y :: ys => by
    rw [frameList, Bool.and_eq_true, frameList_iff fp rp xs ys]
    constructor
    · rintro ⟨h0, hl, hi⟩
      refine ⟨by simp [hl], fun i hx hy => ?_⟩
      cases i with
      | zero => exact h0
      | succ i => exact hi i (by simpa using hx) (by simpa using hy)
    · rintro ⟨hl, hi⟩
      exact ⟨hi 0 (by simp) (by simp), by simpa using hl,
        fun i hx hy => hi (i + 1) (by simpa using hx) (by simpa using hy)⟩

theorem frameV_touched {fp : List Path} {rp : Path} {v : YVal} {w : Option YVal}
    (h : isTouched fp rp.reverse = true) : frameV fp rp v w = true := by
  rw [frameV_eq, h]; rfl

theorem frameV_unreached {fp : List Path} {rp : Path} (ht : ¬ isTouched fp rp.reverse = true)
    (hr : ¬ reaches fp rp.reverse = true) (a : YVal) (c : Option YVal) :
    frameV fp rp a c = true ↔ c = some a := by
  rw [frameV_eq, ← optBeq_iff]
  simp only [ht, hr, if_false, Bool.not_false, if_true, Bool.false_eq_true]

theorem frameV_reached {fp : List Path} {rp : Path} (ht : ¬ isTouched fp rp.reverse = true)
    (hr : reaches fp rp.reverse = true) (a : YVal) (c : Option YVal) :
    frameV fp rp a c = frameShape fp rp a c := by
  rw [frameV_eq]
  simp only [ht, hr, if_false, Bool.not_true, Bool.false_eq_true]

theorem frameV_of_shape {fp : List Path} {rp : Path} {a : YVal} {c : Option YVal}
    (hr : isTouched fp rp.reverse = true ∨ reaches fp rp.reverse = true)
    (h : frameShape fp rp a c = true) : frameV fp rp a c = true := by
  by_cases ht : isTouched fp rp.reverse = true
  · exact frameV_touched ht
  · rw [frameV_reached ht (hr.resolve_left ht)]; exact h

theorem frameV_obj {fp : List Path} {rp : Path} {es fs : List (Key × YVal)}
    (hr : isTouched fp rp.reverse = true ∨ reaches fp rp.reverse = true)
    (hv : ∀ k v, lookup k es = some v → frameV fp (pk k :: rp) v (lookup k fs) = true)
    (hn : ∀ k, (lookup k fs).isSome = true →
      (lookup k es).isSome = true ∨ isTouched fp (pk k :: rp).reverse = true) :
    frameV fp rp (.obj es) (some (.obj fs)) = true := by
  refine frameV_of_shape hr ?_
  rw [frameShape, Bool.and_eq_true]
  exact ⟨(frameEs_iff ..).2 fun k v _ => hv k v, (newKeysOK_iff ..).2 hn⟩

theorem frameV_arr {fp : List Path} {rp : Path} {xs ys : List YVal}
    (hr : isTouched fp rp.reverse = true ∨ reaches fp rp.reverse = true) (hl : xs.length = ys.length)
    (hi : ∀ i (hx : i < xs.length) (hy : i < ys.length), frameV fp (.each :: rp) xs[i] (some ys[i]) = true) :
    frameV fp rp (.arr xs) (some (.arr ys)) = true :=
  frameV_of_shape hr ((frameList_iff ..).2 ⟨hl, hi⟩)

/-- The ways `frameV fp rp a c` can hold (`frameV_cases`), with `frameEs`, `newKeysOK` and `frameList`
read as facts about `lookup` and indices. -/
inductive Framed (fp : List Path) (rp : Path) : YVal → Option YVal → Prop
  | touched {a c} (ht : isTouched fp rp.reverse = true) : Framed fp rp a c
  | same {a} : Framed fp rp a (some a)
  | obj {es fs} (hr : reaches fp rp.reverse = true)
      (he : ∀ k v, lookup k es = some v → frameV fp (pk k :: rp) v (lookup k fs) = true)
      (hn : ∀ k, (lookup k fs).isSome = true →
        (lookup k es).isSome = true ∨ isTouched fp (pk k :: rp).reverse = true) :
      Framed fp rp (.obj es) (some (.obj fs))
  | arr {xs ys} (hr : reaches fp rp.reverse = true) (hlen : xs.length = ys.length)
      (hi : ∀ i (hx : i < xs.length) (hy : i < ys.length), frameV fp (.each :: rp) xs[i] (some ys[i]) = true) :
      Framed fp rp (.arr xs) (some (.arr ys))

theorem frameV_cases {fp : List Path} {rp : Path} {a : YVal} {c : Option YVal} (h : frameV fp rp a c = true) :
    Framed fp rp a c := by
  by_cases ht : isTouched fp rp.reverse = true
  · exact .touched ht
  by_cases hr : reaches fp rp.reverse = true
  · rw [frameV_reached ht hr] at h
    unfold frameShape at h
    split at h
    · rw [Bool.and_eq_true] at h
      exact .obj hr (fun k v => (frameEs_iff ..).1 h.1 k v List.not_mem_nil) ((newKeysOK_iff ..).1 h.2)
    · exact .arr hr ((frameList_iff ..).1 h).1 ((frameList_iff ..).1 h).2
    · cases (optBeq_iff _ _).1 h; exact .same
  · cases (frameV_unreached ht hr _ _).1 h; exact .same

theorem frameV_none {fp : List Path} {rp : Path} {v : YVal} (h : frameV fp rp v none = true) :
    isTouched fp rp.reverse = true := by
  cases frameV_cases h with
  | touched ht => exact ht

theorem YVal.size_induction {motive : YVal → Prop}
    (h : ∀ a, (∀ b, sizeOf b < sizeOf a → motive b) → motive a) (a : YVal) : motive a :=
  (measure sizeOf).wf.induction a h

theorem sizeOf_lookup {k : Key} {v : YVal} {es : List (Key × YVal)} (h : lookup k es = some v) :
    sizeOf v < sizeOf (YVal.obj es) := by
  have hm := List.sizeOf_lt_of_mem (mem_of_lookup h)
  have : sizeOf v < sizeOf (k, v) := by simp; omega
  simp; omega

theorem sizeOf_getElem {xs : List YVal} {i : Nat} (hx : i < xs.length) : sizeOf xs[i] < sizeOf (YVal.arr xs) := by
  have := List.sizeOf_lt_of_mem (List.getElem_mem hx)
  simp; omega

theorem frameV_self (fp : List Path) (rp : Path) (v : YVal) : frameV fp rp v (some v) = true := by
  induction v using YVal.size_induction generalizing rp with
  | h v ih =>
    by_cases hr : isTouched fp rp.reverse = true ∨ reaches fp rp.reverse = true
    · cases v with
      | obj es => exact frameV_obj hr (fun k w hl => hl ▸ ih w (sizeOf_lookup hl) _) fun k hk => Or.inl hk
      | arr xs => exact frameV_arr hr rfl fun i hx _ => ih _ (sizeOf_getElem hx) _
      | _ => exact frameV_of_shape hr ((optBeq_iff _ _).2 rfl)
    · rw [not_or] at hr
      exact (frameV_unreached hr.1 hr.2 _ _).2 rfl

theorem frameV_obj_at (fp : List Path) (rp : Path) (A B : List (Key × YVal)) (k : Key)
    (hr : isTouched fp rp.reverse = true ∨ reaches fp rp.reverse = true)
    (hdiff : ∀ k', k ≠ k' → lookup k' B = lookup k' A)
    (hv : ∀ v, lookup k A = some v → frameV fp (pk k :: rp) v (lookup k B) = true)
    (hn : (lookup k B).isSome = true → (lookup k A).isSome = true ∨ isTouched fp (pk k :: rp).reverse = true) :
    frameV fp rp (.obj A) (some (.obj B)) = true := by
  refine frameV_obj hr (fun k' v hl => ?_) fun k' hs => ?_
  · by_cases hk : k' = k
    · subst hk; exact hv v hl
    · rw [hdiff k' (Ne.symm hk), hl]; exact frameV_self fp _ v
  · by_cases hk : k' = k
    · subst hk; exact hn hs
    · rw [hdiff k' (Ne.symm hk)] at hs; exact Or.inl hs

theorem isTouched_mono {f1 f : List Path} (hsub : ∀ q ∈ f1, q ∈ f) {p : Path} (h : isTouched f1 p = true) :
    isTouched f p = true := by
  simp only [isTouched, List.any_eq_true] at h ⊢
  obtain ⟨q, hq, he⟩ := h
  exact ⟨q, hsub q hq, he⟩

theorem reaches_mono {f1 f : List Path} (hsub : ∀ q ∈ f1, q ∈ f) {p : Path} (h : reaches f1 p = true) :
    reaches f p = true := by
  simp only [reaches, List.any_eq_true] at h ⊢
  obtain ⟨q, hq, he⟩ := h
  exact ⟨q, hsub q hq, he⟩

theorem frameV_mono {f1 f : List Path} (hsub : ∀ q ∈ f1, q ∈ f) {rp : Path} {a : YVal} {c : Option YVal}
    (h : frameV f1 rp a c = true) : frameV f rp a c = true := by
  induction a using YVal.size_induction generalizing rp c with
  | h a ih =>
    cases frameV_cases h with
    | touched ht => exact frameV_touched (isTouched_mono hsub ht)
    | same => exact frameV_self f rp a
    | obj hr he hn =>
      exact frameV_obj (Or.inr (reaches_mono hsub hr)) (fun k v hl => ih v (sizeOf_lookup hl) (he k v hl))
        fun k hk => (hn k hk).imp_right (isTouched_mono hsub)
    | arr hr hlen hi =>
      exact frameV_arr (Or.inr (reaches_mono hsub hr)) hlen fun i hx hy => ih _ (sizeOf_getElem hx) (hi i hx hy)

theorem frameV_trans {f : List Path} {rp : Path} {a b : YVal} {c : Option YVal}
    (h1 : frameV f rp a (some b) = true) (h2 : frameV f rp b c = true) : frameV f rp a c = true := by
  induction a using YVal.size_induction generalizing rp b c with
  | h a ih =>
    cases frameV_cases h1 with
    | touched ht => exact frameV_touched ht
    | same => exact h2  -- the first run left this subtree as it was
    | @obj es fs hr he1 hn1 =>
      cases frameV_cases h2 with
      | touched ht => exact frameV_touched ht
      | same => exact h1
      | obj _ he2 hn2 =>
        refine frameV_obj (Or.inr hr) (fun k v hl => ?_) fun k hk => (hn2 k hk).elim (hn1 k) Or.inr
        have hv := he1 k v hl
        cases hf : lookup k fs with
        | none => rw [hf] at hv; exact frameV_touched (frameV_none hv)
        | some w => rw [hf] at hv; exact ih v (sizeOf_lookup hl) hv (he2 k w hf)
    | arr hr hlen1 hi1 =>
      cases frameV_cases h2 with
      | touched ht => exact frameV_touched ht
      | same => exact h1
      | arr _ hlen2 hi2 =>
        exact frameV_arr (Or.inr hr) (hlen1.trans hlen2) fun i hx hz =>
          ih _ (sizeOf_getElem hx) (hi1 i hx (hlen1 ▸ hx)) (hi2 i (hlen1 ▸ hx) hz)

/-- What a step preserves of the document in memory it preserves of the document as it is read back:
`er` keeps the keys of a map and the length of a sequence. -/
theorem frameV_er (o : Oracles) {fp : List Path} {rp : Path} {a : YVal} {c : Option YVal}
    (h : frameV fp rp a c = true) : frameV fp rp (er o a) (c.map (er o)) = true := by
  induction a using YVal.size_induction generalizing rp c with
  | h a ih =>
    cases frameV_cases h with
    | touched ht => exact frameV_touched ht
    | same => exact frameV_self fp rp _
    | @obj es fs hr he hn =>
      refine frameV_obj (Or.inr hr) (fun k v hl => ?_) fun k hk => ?_
      · rw [lookup_erEnts] at hl ⊢
        cases hv : lookup k es with
        | none => rw [hv] at hl; cases hl
        | some v0 => rw [hv] at hl; cases hl; exact ih v0 (sizeOf_lookup hv) (he k v0 hv)
      · rw [lookup_erEnts, Option.isSome_map] at hk ⊢
        exact hn k hk
    | arr hr hlen hi =>
      simp only [er_arr, Option.map_some, erList_eq_map]
      refine frameV_arr (Or.inr hr) (by simpa using hlen) fun i hx hy => ?_
      rw [List.getElem_map, List.getElem_map]
      exact ih _ (sizeOf_getElem _) (hi i (by simpa using hx) (by simpa using hy))

/-! ### writing and deleting one field

The two write operations of the steps, `putK` (also what a successful `setK` does) and `delK`,
frame the mapping they are applied to, whatever `rp` is: when nothing at or below `rp` is
concerned, a field can only have been replaced by itself. -/

theorem reaches_of_isTouched_cons {fp : List Path} {rp : Path} {c : PC}
    (h : isTouched fp (c :: rp).reverse = true) : reaches fp rp.reverse = true := by
  simp only [isTouched, reaches, List.any_eq_true, beq_iff_eq, Bool.and_eq_true, decide_eq_true_eq] at h ⊢
  obtain ⟨q, hq, rfl⟩ := h
  refine ⟨_, hq, ?_, by simp⟩
  rw [List.isPrefixOf_iff_prefix, List.reverse_cons]; exact List.prefix_append _ _

theorem reaches_of_reaches_cons {fp : List Path} {rp : Path} {c : PC}
    (h : reaches fp (c :: rp).reverse = true) : reaches fp rp.reverse = true := by
  simp only [reaches, List.any_eq_true, Bool.and_eq_true, decide_eq_true_eq, List.reverse_cons,
    List.isPrefixOf_iff_prefix] at h ⊢
  obtain ⟨q, hq, hp, hl⟩ := h
  refine ⟨q, hq, (List.prefix_append _ _).trans hp, ?_⟩
  simp only [List.length_append, List.length_reverse, List.length_cons, List.length_nil] at hl ⊢
  omega

theorem frameV_putK (fp : List Path) (rp : Path) (m : YVal) (k : Key) (y : YVal)
    (h : ∀ x, getK m k = some x → frameV fp (pk k :: rp) x (some y) = true)
    (hn : getK m k = none → isTouched fp (pk k :: rp).reverse = true) :
    frameV fp rp m (some (putK m k y)) = true := by
  cases m with
  | obj A =>
    simp only [getK] at h hn
    by_cases hr : isTouched fp rp.reverse = true ∨ reaches fp rp.reverse = true
    · refine frameV_obj_at fp rp A _ k hr (fun _ => lookup_insert_ne) ?_ fun _ => ?_
      · rw [lookup_insert_same]; exact h
      · cases hl : lookup k A with
        | none => exact Or.inr (hn hl)
        | some x => exact Or.inl rfl
    · rw [not_or] at hr
      cases hl : lookup k A with
      | none => exact absurd (reaches_of_isTouched_cons (hn hl)) hr.2
      | some x =>
        cases (frameV_unreached (fun ht => hr.2 (reaches_of_isTouched_cons ht))
          (fun hr' => hr.2 (reaches_of_reaches_cons hr')) _ _).1 (h x hl)
        simp only [putK, insert_eq_self hl]
        exact frameV_self fp rp _
  | _ => exact frameV_self fp rp _

theorem frameV_delK (fp : List Path) (rp : Path) (m : YVal) (k : Key)
    (ht : isTouched fp (pk k :: rp).reverse = true) : frameV fp rp m (some (delK m k)) = true := by
  cases m with
  | obj A =>
    exact frameV_obj_at fp rp A _ k (Or.inr (reaches_of_isTouched_cons ht)) (fun _ => lookup_erase_ne)
      (fun _ _ => frameV_touched ht) fun _ => Or.inr ht
  | _ => exact frameV_self fp rp _

theorem not_isTouched_of_onBranch {fp : List Path} {p : Path} (m : Path)
    (hd : ∀ q ∈ fp, onBranch q (p ++ m) = false) : ¬ isTouched fp p = true := by
  intro hc
  simp only [isTouched, List.any_eq_true, beq_iff_eq] at hc
  obtain ⟨q, hq, rfl⟩ := hc
  have := hd q hq
  rw [onBranch, (List.isPrefixOf_iff_prefix).2 (List.prefix_append q m)] at this
  cases this

/-- Walk down `ks`: at each key the frame is `same`, or an `obj` frame whose field `k` is framed again;
`touched` and a field that vanished or is new are excluded, because no concerned path is on the branch.
The result side is an `Option`, as it is for a field in `Framed.obj`: a field that vanished is the
`touched` case one level down. -/
theorem frameV_getKeys_at (fp : List Path) : ∀ (ks : List Key) (rp : Path) (a : YVal) (c : Option YVal),
    frameV fp rp a c = true →
    (∀ q ∈ fp, onBranch q (rp.reverse ++ ks.map pk) = false) → c.bind (getKeys · ks) = getKeys a ks := by
  intro ks
  induction ks with
  | nil =>
    intro rp a c h hd
    have hr : ¬ reaches fp rp.reverse = true := by
      intro hc
      simp only [reaches, List.any_eq_true, Bool.and_eq_true] at hc
      obtain ⟨q, hq, he, _⟩ := hc
      simpa [onBranch, he] using hd q hq
    cases (frameV_unreached (not_isTouched_of_onBranch _ hd) hr a c).1 h
    rfl
  | cons k ks ih =>
    intro rp a c h hd
    have hd' : ∀ q ∈ fp, onBranch q ((pk k :: rp).reverse ++ ks.map pk) = false := by
      intro q hq; simpa using hd q hq
    cases frameV_cases h with
    | touched ht => exact absurd ht (not_isTouched_of_onBranch _ hd)
    | same => rfl
    | arr _ _ _ => rfl
    | @obj es fs _ he hn =>
      simp only [getKeys, Option.bind_some]
      cases hl : lookup k es with
      | none =>
        -- a field that is new at `k` would have to be concerned
        rw [Option.not_isSome_iff_eq_none.mp fun hs =>
          (hn k hs).elim (by simp [hl]) (not_isTouched_of_onBranch _ hd')]
      | some v => exact ih (pk k :: rp) v _ (he k v hl) hd'

theorem frameV_getKeys (fp : List Path) (a b : YVal) (h : frameV fp [] a (some b) = true) (ks : List Key)
    (hd : ∀ q ∈ fp, onBranch q (ks.map pk) = false) : getKeys b ks = getKeys a ks :=
  frameV_getKeys_at fp ks [] a (some b) h (by simpa using hd)

end AGH.C13
