/-
C04 lemmas: the index as one map from identifiers to UIDs, and the
spec's functions (`noSharing`, `owner`, `mostSpecific`) characterised by
membership, so that the two can be compared.  Core Lean only.
-/
import AGH.Spec.Clients
import AGH.Lemmas.ClientsClash
namespace AGH.C04
open AGH AGH.Bytes
open AGH.C03 (IP Prefix inCIDR)

@[simp] theorem mem_idents_name {c : Client} {n : Bytes} : Ident.name n ∈ c.idents ↔ n = c.name := by
  simp [Client.idents]

@[simp] theorem mem_idents_cid {c : Client} {k : Bytes} : Ident.cid k ∈ c.idents ↔ k ∈ c.cids := by
  simp [Client.idents]

@[simp] theorem mem_idents_ip {c : Client} {k : IP} : Ident.ip k ∈ c.idents ↔ k ∈ c.ips := by
  simp [Client.idents]

@[simp] theorem mem_idents_subnet {c : Client} {k : Prefix} : Ident.subnet k ∈ c.idents ↔ k ∈ c.subnets := by
  simp [Client.idents]

@[simp] theorem mem_idents_mac {c : Client} {k : MAC} : Ident.mac k ∈ c.idents ↔ k ∈ c.macs := by
  simp [Client.idents]

def Index.uidOf (ci : Index) : Ident → Option UID
  | .name n => ci.nameToUID n
  | .cid k => ci.clientIDToUID k
  | .ip a => ci.ipToUID a
  | .subnet p => ci.subnetToUID.vals p
  | .mac m => ci.macToUID m

theorem Inv.uidOf {ci : Index} (h : Inv ci) : MapInv ci.uidOf ci.clients Client.idents := by
  intro k u
  cases k with
  | name n =>
    have := h.names n u
    simp only [List.mem_singleton] at this
    simp only [mem_idents_name]
    exact this
  | cid x =>
    simp only [mem_idents_cid]
    exact h.cids x u
  | ip x =>
    simp only [mem_idents_ip]
    exact h.ips x u
  | subnet x =>
    simp only [mem_idents_subnet]
    exact h.subs x u
  | mac x =>
    simp only [mem_idents_mac]
    exact h.macs x u

theorem noClash_iff {ci : Index} {c : Client} : NoClash ci c ↔ FreeFor ci.uidOf c.uid c.idents := by
  constructor
  · intro h k hk
    cases k with
    | name n => exact h.name n (List.mem_singleton.mpr (mem_idents_name.mp hk))
    | cid x => exact h.cids x (mem_idents_cid.mp hk)
    | ip x => exact h.ips x (mem_idents_ip.mp hk)
    | subnet x => exact h.subs x (mem_idents_subnet.mp hk)
    | mac x => exact h.macs x (mem_idents_mac.mp hk)
  · intro h
    exact
      { name := fun n hn => h (.name n) (mem_idents_name.mpr (List.mem_singleton.mp hn))
        cids := fun x hx => h (.cid x) (mem_idents_cid.mpr hx)
        ips := fun x hx => h (.ip x) (mem_idents_ip.mpr hx)
        subs := fun x hx => h (.subnet x) (mem_idents_subnet.mpr hx)
        macs := fun x hx => h (.mac x) (mem_idents_mac.mpr hx) }

def DisjointP (a b : Client) : Prop := a.uid ≠ b.uid ∧ ∀ k, k ∈ a.idents → k ∉ b.idents

theorem disjointClients_iff {a b : Client} : disjointClients a b = true ↔ DisjointP a b := by
  simp [disjointClients, DisjointP]

theorem DisjointP.symm {a b : Client} (h : DisjointP a b) : DisjointP b a :=
  ⟨fun e => h.1 e.symm, fun k hb ha => h.2 k ha hb⟩

theorem noSharing_iff {reg : Registry} : noSharing reg = true ↔ reg.Pairwise DisjointP := by
  induction reg with
  | nil => simp [noSharing]
  | cons c rest ih =>
    simp only [noSharing, Bool.and_eq_true, List.all_eq_true, disjointClients_iff, ih,
      List.pairwise_cons]

theorem noSharing_perm {l1 l2 : Registry} (h : l1.Perm l2) : noSharing l1 = noSharing l2 := by
  apply Bool.eq_iff_iff.mpr
  rw [noSharing_iff, noSharing_iff]
  exact h.pairwise_iff DisjointP.symm

theorem owner_unique {reg : Registry} (h : reg.Pairwise DisjointP) {a b : Client} (ha : a ∈ reg)
    (hb : b ∈ reg) {k : Ident} (hka : k ∈ a.idents) (hkb : k ∈ b.idents) : a = b :=
  Decidable.byContradiction fun hne =>
    (rel_or_of_pairwise h ha hb hne).elim (fun d => d.2 k hka hkb) (fun d => d.2 k hkb hka)

theorem owner_eq_some_iff {reg : Registry} (h : reg.Pairwise DisjointP) {k : Ident} {c : Client} :
    owner reg k = some c ↔ (c ∈ reg ∧ k ∈ c.idents) := by
  unfold owner
  constructor
  · intro hf
    exact ⟨List.mem_of_find?_eq_some hf, List.contains_iff_mem.mp (List.find?_some hf :)⟩
  · rintro ⟨hc, hk⟩
    cases hf : reg.find? (fun c => c.idents.contains k) with
    | none => exact absurd (List.contains_iff_mem.mpr hk) (List.find?_eq_none.mp hf c hc)
    | some c' =>
      rw [owner_unique h (List.mem_of_find?_eq_some hf) hc (List.contains_iff_mem.mp (List.find?_some hf :)) hk]

theorem owner_eq_none_iff {reg : Registry} {k : Ident} :
    owner reg k = none ↔ ∀ c ∈ reg, k ∉ c.idents := by
  unfold owner
  rw [List.find?_eq_none]
  exact forall₂_congr fun _ _ => not_congr List.contains_iff_mem

theorem mem_containing {reg : Registry} {ip : IP} {p : Prefix} {c : Client} :
    (p, c) ∈ containing reg ip ↔ (c ∈ reg ∧ p ∈ c.subnets ∧ inCIDR p ip = true) := by
  unfold containing
  simp only [List.mem_flatMap, List.mem_map, List.mem_filter, Prod.mk.injEq]
  constructor
  · rintro ⟨c', hc', p', ⟨hp', hin⟩, rfl, rfl⟩
    exact ⟨hc', hp', hin⟩
  · rintro ⟨hc, hp, hin⟩
    exact ⟨c, hc, p, ⟨hp, hin⟩, rfl, rfl⟩

theorem moreSpecific_iff {p q : Prefix} :
    moreSpecific p q = true ↔ (p.bits > q.bits ∨ (p.bits = q.bits ∧ p.addr < q.addr)) := by
  simp [moreSpecific]

theorem moreSpecific_irrefl (p : Prefix) : moreSpecific p p = false := by
  rw [Bool.eq_false_iff, Ne, moreSpecific_iff]
  omega

theorem not_moreSpecific_trans {p q r : Prefix} (h1 : moreSpecific p q = false)
    (h2 : moreSpecific q r = false) : moreSpecific p r = false := by
  rw [Bool.eq_false_iff, Ne, moreSpecific_iff] at *
  omega

theorem pickBest_some (i x : Prefix × Client) :
    ∃ j, pickBest (some i) x = some j ∧ (j = i ∨ j = x) ∧
      moreSpecific i.1 j.1 = false ∧ moreSpecific x.1 j.1 = false := by
  have e : pickBest (some i) x = if moreSpecific x.1 i.1 = true then some x else some i := rfl
  rw [e]
  cases h : moreSpecific x.1 i.1
  · exact ⟨i, rfl, Or.inl rfl, moreSpecific_irrefl _, h⟩
  · refine ⟨x, rfl, Or.inr rfl, ?_, moreSpecific_irrefl _⟩
    rw [moreSpecific_iff] at h
    rw [Bool.eq_false_iff, Ne, moreSpecific_iff]
    omega

theorem foldl_pickBest_some (l : List (Prefix × Client)) (i : Prefix × Client) :
    ∃ b, l.foldl pickBest (some i) = some b ∧ b ∈ i :: l ∧
      ∀ x ∈ i :: l, moreSpecific x.1 b.1 = false := by
  induction l generalizing i with
  | nil =>
    exact ⟨i, rfl, List.mem_cons_self, fun x hx => List.mem_singleton.mp hx ▸ moreSpecific_irrefl _⟩
  | cons x rest ih =>
    obtain ⟨j, hj, hji, hij, hxj⟩ := pickBest_some i x
    obtain ⟨b, hb, hbm, hall⟩ := ih j
    have hjb := hall j List.mem_cons_self
    refine ⟨b, by rw [List.foldl_cons, hj, hb], ?_, ?_⟩
    · rcases List.mem_cons.mp hbm with rfl | hbm
      · exact hji.elim (· ▸ List.mem_cons_self) (· ▸ List.mem_cons_of_mem _ List.mem_cons_self)
      · exact List.mem_cons_of_mem _ (List.mem_cons_of_mem _ hbm)
    · intro y hy
      rcases List.mem_cons.mp hy with rfl | hy
      · exact not_moreSpecific_trans hij hjb
      · rcases List.mem_cons.mp hy with rfl | hy
        · exact not_moreSpecific_trans hxj hjb
        · exact hall y (List.mem_cons_of_mem _ hy)

theorem mostSpecific_none {reg : Registry} {ip : IP} :
    mostSpecific reg ip = none ↔ containing reg ip = [] := by
  unfold mostSpecific
  cases containing reg ip with
  | nil => exact ⟨fun _ => rfl, fun _ => rfl⟩
  | cons x rest =>
    obtain ⟨b, hb, _⟩ := foldl_pickBest_some rest x
    have : (x :: rest).foldl pickBest none = some b := hb
    rw [this]
    exact ⟨(fun h => nomatch h), (fun h => nomatch h)⟩

theorem mostSpecific_some {reg : Registry} {ip : IP} {b : Prefix × Client}
    (h : mostSpecific reg ip = some b) :
    b ∈ containing reg ip ∧ ∀ x ∈ containing reg ip, moreSpecific x.1 b.1 = false := by
  unfold mostSpecific at h
  cases hc : containing reg ip with
  | nil => rw [hc] at h; cases h
  | cons x rest =>
    rw [hc] at h
    obtain ⟨b', hb', hmem, hall⟩ := foldl_pickBest_some rest x
    cases hb'.symm.trans (h : rest.foldl pickBest (some x) = some b)
    exact ⟨hmem, hall⟩

end AGH.C04
