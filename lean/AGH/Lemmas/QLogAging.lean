/-
Lemmas for C07: cursors whose entry has aged out, and cursors across
operations between two pages.
-/
import AGH.Lemmas.QLogPaging
import AGH.Lemmas.QLogMonitor
namespace AGH.C07

/-- The cursor is the time of an entry of the log, or older than everything that
is left (its entry has aged out by rotation or was cleared). -/
def Known (s : State) (t : Int) : Prop :=
  (∃ e ∈ logOf s, e.ts = t) ∨ (∀ e ∈ logOf s, t < e.ts)

theorem searchFiles_aged (s : State) (p : Params) (t : Int) (hot : p.olderThan = some t)
    (hall : ∀ e ∈ s.rot ++ s.cur, t < e.ts) : (searchFiles s p).2 = none := by
  have hcur : ∀ e ∈ s.cur, t < e.ts := fun e he => hall e (by simp [he])
  have hrot : ∀ e ∈ s.rot, t < e.ts := fun e he => hall e (by simp [he])
  have hseek : seekRecord s.rot s.cur (some t) = none ∨ seekRecord s.rot s.cur (some t) = some [] := by
    simp only [seekRecord, seekFiles_eq, seekRot, fileSeek_tooEarly_iff.mpr hcur, fileSeek_tooEarly_iff.mpr hrot]
    by_cases hr : s.rot = []
    · by_cases hc : s.cur = []
      · exact Or.inr (by rw [if_pos hr, if_pos hc])
      · exact Or.inl (by rw [if_pos hr, if_neg hc])
    · exact Or.inl (if_neg hr)
  unfold searchFiles
  rw [hot]
  rcases hseek with h | h
  · rw [h]
  · rw [h]
    simp only [readEntries]
    split <;> rfl

theorem search_aged (s : State) (p : Params) (hi : Inv s) (hv : ValidP p) (t : Int)
    (hot : p.olderThan = some t) (hall : ∀ e ∈ logOf s, t < e.ts) :
    search s p = .ok ([], none) ∧ vis s p = [] := by
  have hvis : vis s p = [] := by
    unfold vis
    apply List.filter_eq_nil_iff.mpr
    intro e he hk
    have h1 := keepMem_older s.conf p e t hot hk
    have h2 := hall e (mem_log_of_logRev s e he)
    omega
  refine ⟨?_, hvis⟩
  have hraw : searchMemory s p ++ (searchFiles s p).1 = [] :=
    List.prefix_nil.mp (hvis ▸ raw_prefix s p hi hv)
  have hsf := searchFiles_aged s p t hot fun e he => hall e (List.mem_append_left _ he)
  rw [search_page s p hi hv]
  simp only [hraw, hsf, List.take_nil, List.drop_nil, List.getLast?_nil, ite_self]

theorem pageChain_known (s : State) (p : Params) (hi : Inv s) (hv : ValidP p) (hoff : p.offset = 0)
    (hscan : 2 ≤ p.scan ∨ p.scan ≤ 0) (t : Int) (hk : Known s t) :
    (pageChain s p ((logOf s).length + 1) (some t)).2 = true ∧
    (pageChain s p ((logOf s).length + 1) (some t)).1.flatten =
      (vis s (withOlder p none)).filter (fun e => decide (e.ts < t)) := by
  rw [← vis_withOlder s p none t nofun]
  rcases hk with hst | haged
  · apply pageChain_spec s p hi hv hoff hscan
    · exact (cursorOK_some rfl).mpr hst
    · exact Nat.lt_succ_of_le (remaining_le s _)
  · obtain ⟨hs, hvis⟩ := search_aged s (withOlder p (some t)) hi (validP_withOlder p _ hv) t rfl haged
    simp [pageChain, hs, hvis]

/-- What an operation can leave of the log: a part from some record on to the newest (rotation and clear
drop from the old end), with the entry the operation submits, if any, appended. -/
def SuffixOf (s : State) (op : Op) (l : List Entry) : Prop :=
  ∃ pre suf, logOf s = pre ++ suf ∧ (l = suf ∨ ∃ e, opEntry op = some e ∧ l = suf ++ [e])

theorem suffix_step (s : State) (op : Op) (hq : Quiet s) (hf : s.conf.fileEnabled = true)
    (hroom : RingFree s) : SuffixOf s op (logOf (step s op)) := by
  have same : SuffixOf s op (logOf s) := ⟨[], logOf s, rfl, Or.inl rfl⟩
  have gone : SuffixOf s op [] := ⟨logOf s, [], (List.append_nil _).symm, Or.inl rfl⟩
  refine step_ind (P := fun s' => SuffixOf s op (logOf s')) s op hq same (fun e he => ?_)
    (fun s1 t h1 hc => ?_) (fun _ => ⟨s.rot, s.cur ++ s.mem, by simp [logOf], Or.inl (by simp [logOf])⟩)
    (fun _ _ _ => same)
  · by_cases hen : s.conf.enabled = true
    · exact ⟨[], logOf s, rfl, Or.inr ⟨e, he, logOf_addEntry s e hen (hroom hf)⟩⟩
    · rw [show addEntry s e = s by simp [addEntry, hen]]
      exact same
  · -- clear / shutdown / restart keep the log or drop all of it
    cases t with
    | clear => exact gone
    | shutdown => exact (logOf_shutdown s1).symm ▸ h1
    | restart m f en => exact (logOf_restart s1 m f en (hc ▸ hf)).symm ▸ h1

theorem known_step (s : State) (op : Op) (t : Int) (hi : Inv s) (hq : Quiet s)
    (hf : s.conf.fileEnabled = true) (hroom : RingFree s)
    (hclock : ∀ e, opEntry op = some e → t < e.ts) (hk : Known s t) : Known (step s op) t := by
  obtain ⟨pre, suf, hsplit, hlog⟩ := suffix_step s op hq hf hroom
  have hasc : Asc (pre ++ suf) := hsplit ▸ (inv_iff s).mp hi
  have hpa := List.pairwise_append.mp hasc
  have hsuf : (∃ e ∈ suf, e.ts = t) ∨ (∀ e ∈ suf, t < e.ts) := by
    rcases hk with ⟨x, hx, hxt⟩ | hall
    · rw [hsplit, List.mem_append] at hx
      rcases hx with hx | hx
      · right
        intro e he
        have := hpa.2.2 x hx e he
        omega
      · exact Or.inl ⟨x, hx, hxt⟩
    · right
      intro e he
      exact hall e (by rw [hsplit]; exact List.mem_append_right _ he)
  rcases hlog with h | ⟨e, he, h⟩
  · rw [Known, h]; exact hsuf
  · have hlt := hclock e he
    rw [Known, h]
    rcases hsuf with ⟨x, hx, hxt⟩ | hall
    · exact Or.inl ⟨x, List.mem_append_left _ hx, hxt⟩
    · right
      intro y hy
      rw [List.mem_append, List.mem_singleton] at hy
      rcases hy with hy | hy
      · exact hall y hy
      · exact hy ▸ hlt

end AGH.C07
