/-
C19 lemmas about the names that are hashed: `subdomains`, `lastLabels`,
`hashedNames` against the declarative `allowedNames`, and how many there are
(`length_hashedNames`).
-/
import AGH.Spec.HashPrefix
namespace AGH.C19
open AGH AGH.Bytes

theorem subTail_cons_dot (rest : Bytes) : subTail (dot :: rest) = rest :: subTail rest := by
  rw [subTail, if_pos rfl]

theorem subTail_cons_ne {b : Nat} (hb : b ≠ dot) (rest : Bytes) : subTail (b :: rest) = subTail rest := by
  rw [subTail, if_neg hb]

theorem mem_subTail (s d : Bytes) : s ∈ subTail d ↔ ∃ pre, d = pre ++ dot :: s := by
  induction d with
  | nil => simp [subTail]
  | cons b rest ih =>
    -- a prefix of `b :: rest` is empty or begins with `b`
    have hsplit : (∃ pre, b :: rest = pre ++ dot :: s) ↔ (b = dot ∧ rest = s) ∨ ∃ pre, rest = pre ++ dot :: s := by
      constructor
      · rintro ⟨pre, h⟩
        cases pre with
        | nil => exact Or.inl (List.cons.inj h)
        | cons p pre' => exact Or.inr ⟨pre', (List.cons.inj h).2⟩
      · rintro (⟨rfl, rfl⟩ | ⟨pre, rfl⟩)
        · exact ⟨[], rfl⟩
        · exact ⟨b :: pre, rfl⟩
    rw [hsplit, ← ih]
    by_cases hb : b = dot
    · rw [hb, subTail_cons_dot, List.mem_cons]
      exact or_congr ⟨fun e => ⟨rfl, e.symm⟩, fun e => e.2.symm⟩ Iff.rfl
    · rw [subTail_cons_ne hb]
      exact ⟨Or.inr, fun h => h.resolve_left fun e => hb e.1⟩

theorem mem_subdomains (s d : Bytes) :
    s ∈ subdomains d ↔ d ≠ [] ∧ (s = d ∨ ∃ pre, d = pre ++ dot :: s) := by
  cases d with
  | nil => simp [subdomains]
  | cons b rest =>
    simp only [subdomains, List.mem_cons, mem_subTail]
    simp

theorem dots_append (a b : Bytes) : dots (a ++ b) = dots a + dots b := by
  simp [dots, List.count_append]

theorem dots_cons_dot (a : Bytes) : dots (dot :: a) = dots a + 1 := by
  simp [dots]

theorem dots_cons_ne {b : Nat} (h : b ≠ dot) (a : Bytes) : dots (b :: a) = dots a := by
  simp [dots, h]

/-- `cut` is what the scan drops: nothing, or `r` from its `(k+1)`-th dot on, and
then exactly `k` dots are kept.  For `k + 1`, since the code's `k ≤ 1` makes 0 and 1 alike. -/
theorem takeLabelsRev_spec (r : Bytes) : ∀ k : Nat,
    ∃ cut, r = takeLabelsRev (k + 1) r ++ cut ∧ dots (takeLabelsRev (k + 1) r) ≤ k ∧
      (cut = [] ∨ ((∃ c', cut = dot :: c') ∧ dots (takeLabelsRev (k + 1) r) = k)) := by
  induction r with
  | nil => exact fun k => ⟨[], rfl, Nat.zero_le _, Or.inl rfl⟩
  | cons b rest ih =>
    intro k
    by_cases hb : b = dot
    · subst hb
      cases k with
      | zero => exact ⟨dot :: rest, rfl, Nat.le_refl _, Or.inr ⟨⟨rest, rfl⟩, rfl⟩⟩
      | succ k =>
        have e : takeLabelsRev (k + 1 + 1) (dot :: rest) = dot :: takeLabelsRev (k + 1) rest := by
          rw [takeLabelsRev, if_pos rfl,
            if_neg (show ¬ k + 1 + 1 ≤ 1 from fun h => Nat.not_succ_le_zero _ (Nat.le_of_succ_le_succ h))]
          rfl
        obtain ⟨cut, h1, h2, h3⟩ := ih k
        rw [e, dots_cons_dot]
        exact ⟨cut, congrArg (dot :: ·) h1, Nat.succ_le_succ h2,
          h3.imp id fun h => ⟨h.1, congrArg (· + 1) h.2⟩⟩
    · have e : takeLabelsRev (k + 1) (b :: rest) = b :: takeLabelsRev (k + 1) rest := by
        rw [takeLabelsRev, if_neg hb]
      obtain ⟨cut, h1, h2, h3⟩ := ih k
      rw [e, dots_cons_ne hb]
      exact ⟨cut, congrArg (b :: ·) h1, h2, h3⟩

theorem dots_reverse (a : Bytes) : dots a.reverse = dots a := by
  simp [dots]

theorem lastLabels_spec (host : Bytes) :
    (lastLabels host = host ∧ dots host ≤ 3) ∨
    ((∃ p', host = p' ++ dot :: lastLabels host) ∧ dots (lastLabels host) = 3) := by
  obtain ⟨cut, h1, h2, h3⟩ := takeLabelsRev_spec host.reverse 3
  have hd : dots (lastLabels host) = dots (takeLabelsRev 4 host.reverse) := dots_reverse _
  have h1' : host = cut.reverse ++ lastLabels host := by
    have := congrArg List.reverse h1
    rwa [List.reverse_reverse, List.reverse_append] at this
  rcases h3 with rfl | ⟨⟨c', rfl⟩, h4⟩
  · have e : lastLabels host = host := h1'.symm
    exact Or.inl ⟨e, e ▸ hd ▸ h2⟩
  · refine Or.inr ⟨⟨c'.reverse, ?_⟩, hd ▸ h4⟩
    rwa [List.reverse_cons, List.append_assoc] at h1'

theorem lastLabels_eq_nil {host : Bytes} (h : lastLabels host = []) : host = [] := by
  rcases lastLabels_spec host with ⟨h1, _⟩ | ⟨_, h4⟩
  · exact h1 ▸ h
  · rw [h] at h4; cases h4

theorem dots_lastLabels (host : Bytes) : dots (lastLabels host) = min (dots host) 3 := by
  rcases lastLabels_spec host with ⟨h1, h2⟩ | ⟨⟨p', h1⟩, h4⟩
  · rw [h1]; exact (Nat.min_eq_left h2).symm
  · have : 3 ≤ dots host := by
      rw [h1, dots_append, dots_cons_dot, h4]
      exact Nat.le_trans (Nat.le_succ 3) (Nat.le_add_left _ _)
    rw [h4]; exact (Nat.min_eq_right this).symm

theorem length_lt_of_dotSuffix {s d pre : Bytes} (h : d = pre ++ dot :: s) : s.length < d.length := by
  rw [h, List.length_append, List.length_cons]
  exact Nat.lt_of_lt_of_le (Nat.lt_succ_self _) (Nat.le_add_left _ _)

theorem isDotSuffixOrEq_iff (s t : Bytes) :
    isDotSuffixOrEq s t = true ↔ (s = t ∨ ∃ pre, t = pre ++ dot :: s) := by
  simp only [isDotSuffixOrEq, Bool.or_eq_true, beq_iff_eq, List.isSuffixOf_iff_suffix]
  exact or_congr Iff.rfl (exists_congr fun _ => eq_comm)

theorem isDotSuffixOrEq_false_of_longer {s t : Bytes} (h : t.length < s.length) :
    isDotSuffixOrEq s t = false := by
  cases hh : isDotSuffixOrEq s t with
  | false => rfl
  | true =>
    rcases (isDotSuffixOrEq_iff s t).mp hh with rfl | ⟨pre, rfl⟩
    · exact absurd h (Nat.lt_irrefl _)
    · exact absurd (length_lt_of_dotSuffix rfl) (Nat.lt_asymm h)

theorem isDotSuffixOrEq_nil (s : Bytes) : isDotSuffixOrEq s [] = false ↔ s ≠ [] := by
  cases s <;> simp [isDotSuffixOrEq]

theorem subTail_split {P d : Bytes} (h : P ∈ subTail d) :
    ∃ l, subTail d = l ++ P :: subTail P ∧ ∀ x ∈ l, P ∈ subTail x := by
  fun_induction subTail d with
  | case1 => exact nomatch h
  | case2 rest ih =>
    rcases List.mem_cons.mp h with rfl | h'
    · exact ⟨[], rfl, fun x hx => nomatch hx⟩
    · obtain ⟨l, e, hl⟩ := ih h'
      refine ⟨rest :: l, by rw [e]; rfl, fun x hx => ?_⟩
      rcases List.mem_cons.mp hx with rfl | hx
      · exact h'
      · exact hl x hx
  | case3 b rest hb ih => exact ih h

theorem ne_of_mem_subTail {P x : Bytes} (h : P ∈ subTail x) : x ≠ P := by
  obtain ⟨pre, e⟩ := (mem_subTail P x).mp h
  intro e'
  have := length_lt_of_dotSuffix e
  rw [e'] at this
  exact Nat.lt_irrefl _ this

theorem subdomains_split {P d : Bytes} (h : P ∈ subdomains d) :
    subdomains d = (subdomains d).takeWhile (fun x => x ≠ P) ++ P :: subTail P ∧
      ∀ x ∈ (subdomains d).takeWhile (fun x => x ≠ P), P ∈ subTail x := by
  -- some `l` stands in front of `P`; none of its names is `P`, so it is the `takeWhile`
  obtain ⟨l, e, hl⟩ : ∃ l, subdomains d = l ++ P :: subTail P ∧ ∀ x ∈ l, P ∈ subTail x := by
    cases d with
    | nil => exact nomatch h
    | cons c cs =>
      rcases List.mem_cons.mp h with rfl | h'
      · exact ⟨[], rfl, fun x hx => nomatch hx⟩
      · obtain ⟨l, e, hl⟩ := subTail_split h'
        refine ⟨(c :: cs) :: l, congrArg (_ :: ·) e, fun x hx => ?_⟩
        rcases List.mem_cons.mp hx with rfl | hx
        · exact h'
        · exact hl x hx
  have : (subdomains d).takeWhile (fun x => x ≠ P) = l := by
    rw [e, List.takeWhile_append_of_pos (fun x hx => decide_eq_true (ne_of_mem_subTail (hl x hx))),
      List.takeWhile_cons_of_neg (by simp), List.append_nil]
  rw [this]
  exact ⟨e, hl⟩

theorem dots_lt_of_mem_subTail {s d : Bytes} (h : s ∈ subTail d) : dots s < dots d := by
  obtain ⟨pre, rfl⟩ := (mem_subTail s d).mp h
  rw [dots_append, dots_cons_dot]
  exact Nat.lt_of_lt_of_le (Nat.lt_succ_self _) (Nat.le_add_left _ _)

theorem subdomains_of_ne_nil {d : Bytes} (h : d ≠ []) : subdomains d = d :: subTail d := by
  cases d with
  | nil => exact absurd rfl h
  | cons b rest => rfl

theorem subdomains_lastLabels (host : Bytes) :
    subdomains (lastLabels host) = (subdomains host).filter (fun s => decide (dots s ≤ 3)) := by
  by_cases hne : host = []
  · rw [hne]; rfl
  have hll : lastLabels host ≠ [] := fun e => hne (lastLabels_eq_nil e)
  have hsuf : ∀ d : Bytes, dots d ≤ 3 → ((d :: subTail d).filter fun s => decide (dots s ≤ 3)) = d :: subTail d :=
    fun d hd => List.filter_eq_self.mpr fun s hs => decide_eq_true <| by
      rcases List.mem_cons.mp hs with rfl | hs
      · exact hd
      · exact Nat.le_trans (Nat.le_of_lt (dots_lt_of_mem_subTail hs)) hd
  rcases lastLabels_spec host with ⟨h1, h2⟩ | ⟨⟨p', h1⟩, h4⟩
  · rw [h1, subdomains_of_ne_nil hne, hsuf host h2]
  · -- `host = p' ++ "." ++ ll` with three dots in `ll`: the names before `ll` have more
    obtain ⟨e, hl⟩ := subdomains_split ((mem_subdomains _ host).mpr ⟨hne, Or.inr ⟨p', h1⟩⟩)
    rw [e, List.filter_append, hsuf _ (Nat.le_of_eq h4), subdomains_of_ne_nil hll,
      List.filter_eq_nil_iff.mpr fun x hx hd =>
        Nat.not_succ_le_self 3 (Nat.le_trans (h4 ▸ dots_lt_of_mem_subTail (hl x hx)) (of_decide_eq_true hd))]
    rfl

theorem takeWhile_ne_of_not_mem {α} [DecidableEq α] {a : α} {l : List α} (h : a ∉ l) :
    l.takeWhile (fun x => x ≠ a) = l := by
  simpa using List.takeWhile_append_of_pos (p := fun x => decide (x ≠ a)) (l₂ := [])
    fun x hx => decide_eq_true fun e => h (e ▸ hx)

theorem takeWhile_subdomains_eq_filter {P d : Bytes} (h : P ∈ subdomains d ∨ P = []) :
    (subdomains d).takeWhile (fun x => x ≠ P) =
      (subdomains d).filter (fun s => decide (s ≠ []) && !isDotSuffixOrEq s P) := by
  by_cases hP : P ∈ subdomains d
  · -- `subdomains d` lists every name in front of its parents: what stands in front of `P` is
    -- longer than `P` (so not empty) and kept by the filter, what follows is `P` and its parents and dropped
    obtain ⟨e, hl⟩ := subdomains_split hP
    generalize (subdomains d).takeWhile (fun x => x ≠ P) = l at e hl ⊢
    rw [e, List.filter_append,
      List.filter_eq_self.mpr fun x hx => by
        obtain ⟨pre, hpre⟩ := (mem_subTail P x).mp (hl x hx)
        have hx' : x ≠ [] := fun e => nomatch e ▸ hl x hx
        rw [isDotSuffixOrEq_false_of_longer (length_lt_of_dotSuffix hpre), decide_eq_true hx']; rfl,
      List.filter_eq_nil_iff.mpr fun x hx => by
        have : isDotSuffixOrEq x P = true := by
          rw [isDotSuffixOrEq_iff]
          rcases List.mem_cons.mp hx with rfl | hx
          · exact Or.inl rfl
          · exact Or.inr ((mem_subTail x P).mp hx)
        rw [this, Bool.not_true, Bool.and_false]; exact Bool.false_ne_true,
      List.append_nil]
  · -- the empty name does not occur: nothing is dropped
    have hnil : P = [] := h.resolve_left hP
    subst hnil
    rw [takeWhile_ne_of_not_mem hP,
      List.filter_eq_self.mpr fun x hx => by
        have hx' : x ≠ [] := fun e => hP (e ▸ hx)
        rw [(isDotSuffixOrEq_nil x).mpr hx', decide_eq_true hx']; rfl]

theorem mem_lastLabels_of_psOK {ps host : Bytes} (hps : psOK ps true host = true) (hne : host ≠ []) :
    ps ∈ subdomains (lastLabels host) := by
  simp only [psOK, Bool.not_true, Bool.false_or, Bool.and_eq_true, decide_eq_true_eq] at hps
  rw [subdomains_lastLabels, List.mem_filter, mem_subdomains]
  exact ⟨⟨hne, (isDotSuffixOrEq_iff _ _).mp hps.1⟩, decide_eq_true hps.2⟩

theorem mem_allowedNames (ps : Bytes) (icann : Bool) (host s : Bytes) :
    s ∈ allowedNames ps icann host ↔
      (s ∈ subdomains host ∧ s ≠ [] ∧ dots s ≤ 3 ∧ ¬ (icann = true ∧ isDotSuffixOrEq s ps = true)) := by
  simp only [allowedNames, nameAndParents, allowedName, List.mem_filter, decide_eq_true_eq,
    Bool.and_eq_true, Bool.not_eq_true', Bool.and_eq_false_iff, Decidable.not_and_iff_not_or_not,
    Bool.not_eq_true, and_assoc]

/-- The strings hashed are the spec's list, in the same order: each step of
`hostnameToHashes` is a filter of `subdomains host`. -/
theorem hashedNames_eq_allowedNames {ps : Bytes} {icann : Bool} {host : Bytes}
    (hps : psOK ps icann host = true) : hashedNames ps icann host = allowedNames ps icann host := by
  by_cases hne : host = []
  · rw [hne]; rfl
  have hstop : (if icann = true then ps else []) ∈ subdomains (lastLabels host) ∨
      (if icann = true then ps else []) = [] := by
    cases icann with
    | false => exact Or.inr rfl
    | true => exact Or.inl (mem_lastLabels_of_psOK hps hne)
  unfold hashedNames allowedNames nameAndParents
  dsimp only
  rw [takeWhile_subdomains_eq_filter hstop, subdomains_lastLabels, List.filter_filter, List.filter_filter]
  apply List.filter_congr
  intro s _
  cases icann with
  | false =>
    -- the scan stops at the empty name: `!isDotSuffixOrEq s []` says `s ≠ []` once more
    rw [if_neg Bool.false_ne_true, allowedName, Bool.false_and, Bool.not_false, Bool.and_true]
    by_cases e : s = []
    · subst e; rfl
    · rw [(isDotSuffixOrEq_nil s).mpr e, decide_eq_true e, Bool.and_true]; rfl
  | true =>
    rw [if_pos rfl, allowedName, Bool.true_and]
    ac_rfl

theorem hostnameToHashes_eq_map_allowedNames (H : Bytes → Hash) {ps : Bytes} {icann : Bool} {host : Bytes}
    (hps : psOK ps icann host = true) :
    hostnameToHashes H ps icann host = (allowedNames ps icann host).map H := by
  rw [hostnameToHashes, hashedNames_eq_allowedNames hps]

theorem any_hostnameToHashes (H : Bytes → Hash) (db : List Hash) {ps : Bytes} {icann : Bool} {host : Bytes}
    (hps : psOK ps icann host = true) :
    (hostnameToHashes H ps icann host).any (fun h => db.contains h) = freshVerdict H db ps icann host := by
  rw [hostnameToHashes_eq_map_allowedNames H hps, List.any_map]
  rfl

theorem length_subTail (d : Bytes) : (subTail d).length = dots d := by
  fun_induction subTail d with
  | case1 => rfl
  | case2 rest ih => rw [dots_cons_dot, List.length_cons, ih]
  | case3 b rest hb ih => rw [dots_cons_ne hb, ih]

theorem length_subdomains {d : Bytes} (h : d ≠ []) : (subdomains d).length = dots d + 1 := by
  rw [subdomains_of_ne_nil h, List.length_cons, length_subTail]

theorem length_takeWhile_subdomains {P d : Bytes} (h : P ∈ subdomains d) :
    ((subdomains d).takeWhile (fun x => x ≠ P)).length + dots P = dots d := by
  have hd : d ≠ [] := fun e => by rw [e] at h; cases h
  have := congrArg List.length (subdomains_split h).1
  rw [length_subdomains hd, List.length_append, List.length_cons, length_subTail] at this
  exact (Nat.succ.inj this).symm

theorem length_hashedNames_le (ps : Bytes) (icann : Bool) (host : Bytes) :
    (hashedNames ps icann host).length ≤ 4 := by
  unfold hashedNames
  simp only
  refine Nat.le_trans (List.takeWhile_sublist _).length_le ?_
  by_cases h : lastLabels host = []
  · rw [h]; simp [subdomains]
  · rw [length_subdomains h, dots_lastLabels]
    exact Nat.succ_le_succ (Nat.min_le_right _ _)

theorem getLast_ne_dot_subTail : ∀ d : Bytes, d.getLast? ≠ some dot → [] ∉ subTail d := by
  intro d h hm
  -- the empty name follows a dot only if that dot is the last byte
  obtain ⟨pre, rfl⟩ := (mem_subTail [] d).mp hm
  exact h (List.getLast?_concat ..)

theorem length_hashedNames {ps : Bytes} {icann : Bool} {host : Bytes} (hps : psOK ps icann host = true)
    (hne : host ≠ []) (hdot : host.getLast? ≠ some dot) :
    (hashedNames ps icann host).length =
      min (dots host + 1) 4 - (if icann then dots ps + 1 else 0) := by
  have hll : lastLabels host ≠ [] := fun e => hne (lastLabels_eq_nil e)
  unfold hashedNames
  simp only
  cases icann with
  | false =>
    simp only [Bool.false_eq_true, if_false]
    -- the empty name does not occur: everything is hashed
    have hnil : ([] : Bytes) ∉ subdomains (lastLabels host) := by
      intro hmem
      rw [subdomains_lastLabels, List.mem_filter, subdomains_of_ne_nil hne, List.mem_cons] at hmem
      exact hmem.1.elim (fun e => hne e.symm) (getLast_ne_dot_subTail host hdot)
    rw [takeWhile_ne_of_not_mem hnil, length_subdomains hll, dots_lastLabels]
    exact (Nat.add_min_add_right (dots host) 3 1).symm
  | true =>
    simp only [if_true]
    have := length_takeWhile_subdomains (mem_lastLabels_of_psOK hps hne)
    rw [dots_lastLabels] at this
    rw [show min (dots host + 1) 4 = min (dots host) 3 + 1 from Nat.add_min_add_right _ _ _, ← this,
      Nat.add_sub_add_right, Nat.add_sub_cancel]

end AGH.C19
