/-
C20: the byte layout of a line file (`render`), by list split and by line index
(`lineStart`), and the line-level view of successive `ReadNext` calls.
-/
import AGH.Lemmas.QLogScan
import AGH.Spec.QLogFile
namespace AGH.C20
open AGH

def fileOfLines (ls : List Bytes) : File := File.ofBytes (render ls)

theorem render_append (A B : List Bytes) : render (A ++ B) = render A ++ render B := by
  induction A with
  | nil => rfl
  | cons a A ih => simp only [List.cons_append, render, ih, List.append_assoc, List.cons_append]

theorem render_cons_length (l : Bytes) (ls : List Bytes) :
    (render (l :: ls)).length = l.length + 1 + (render ls).length := by
  rw [render, List.length_append, List.length_cons, Nat.add_assoc, Nat.add_comm 1]

theorem render_concat (A : List Bytes) (h : A ≠ []) : ∃ pre, render A = pre ++ [10] := by
  induction A with
  | nil => exact absurd rfl h
  | cons a A ih =>
    by_cases hA : A = []
    · exact ⟨a, by rw [hA]; rfl⟩
    · obtain ⟨pre, hp⟩ := ih hA
      exact ⟨a ++ 10 :: pre, by rw [render, hp, List.append_assoc, List.cons_append]⟩

theorem render_last (A : List Bytes) (h : A ≠ []) :
    0 < (render A).length ∧ (render A)[(render A).length - 1]? = some 10 := by
  obtain ⟨pre, hp⟩ := render_concat A h
  rw [hp, List.length_append]
  exact ⟨Nat.succ_pos _, List.getElem?_concat_length⟩

theorem fileOfLines_size (ls : List Bytes) : (fileOfLines ls).size = (render ls).length := rfl

theorem fileOfLines_byte (ls : List Bytes) (i : Nat) :
    (fileOfLines ls).byte i = ((render ls)[i]?).getD 0 := by
  simp [fileOfLines, File.ofBytes, List.getD_eq_getElem?_getD]

theorem byte_line (A B : List Bytes) (l : Bytes) (i : Nat) (hi : i < l.length) :
    (fileOfLines (A ++ l :: B)).byte ((render A).length + i) = l[i] := by
  rw [fileOfLines_byte, render_append, List.getElem?_append_right (Nat.le_add_right _ _)]
  simp only [Nat.add_sub_cancel_left, render]
  rw [List.getElem?_append_left hi]
  simp [hi]

theorem byte_newline (A B : List Bytes) (l : Bytes) :
    (fileOfLines (A ++ l :: B)).byte ((render A).length + l.length) = 10 := by
  rw [fileOfLines_byte, render_append, List.getElem?_append_right (Nat.le_add_right _ _)]
  simp only [Nat.add_sub_cancel_left, render]
  rw [List.getElem?_append_right (Nat.le_refl _)]
  simp

theorem byte_before (A B : List Bytes) (l : Bytes) (hA : A ≠ []) :
    (fileOfLines (A ++ l :: B)).byte ((render A).length - 1) = 10 := by
  obtain ⟨h1, h2⟩ := render_last A hA
  rw [fileOfLines_byte, render_append, List.getElem?_append_left (Nat.sub_lt h1 Nat.one_pos), h2]
  rfl

theorem render_length_eq_zero_iff (A : List Bytes) : (render A).length = 0 ↔ A = [] := by
  cases A with
  | nil => simp [render]
  | cons a A => simp [render]

theorem lineAt_split (A B : List Bytes) (l : Bytes) (hl : ¬ (10 ∈ l)) :
    LineAt (fileOfLines (A ++ l :: B)) (render A).length ((render A).length + l.length) where
  le := Nat.le_add_right _ _
  lt := by
    rw [fileOfLines_size, render_append, List.length_append, render_cons_length, Nat.add_assoc l.length]
    exact Nat.add_lt_add_left (Nat.lt_add_of_pos_right (Nat.add_pos_left Nat.one_pos _)) _
  nl := byte_newline A B l
  body := by
    intro i h1 h2 hc
    obtain ⟨j, rfl⟩ := Nat.exists_eq_add_of_le h1
    have hj := Nat.lt_of_add_lt_add_left h2
    exact hl ((byte_line A B l j hj).symm.trans hc ▸ List.getElem_mem hj)
  before := by
    by_cases hA : A = []
    · left; subst hA; rfl
    · right; exact byte_before A B l hA

theorem slice_line (A B : List Bytes) (l : Bytes) :
    (fileOfLines (A ++ l :: B)).slice (render A).length ((render A).length + l.length) = l := by
  unfold File.slice
  apply List.ext_getElem
  · simp
  · intro i h1 h2
    simp only [List.getElem_map, List.getElem_range]
    exact byte_line A B l i h2

/-- Offset of line `k` in the file; the file size from `k = lines.length` on. -/
def lineStart (lines : List Bytes) (k : Nat) : Nat := (render (lines.take k)).length

theorem lineStart_zero (lines : List Bytes) : lineStart lines 0 = 0 := rfl

theorem lineStart_length (lines : List Bytes) : lineStart lines lines.length = (render lines).length := by
  unfold lineStart
  rw [List.take_length]

theorem take_append_getElem_drop (lines : List Bytes) (k : Nat) (hk : k < lines.length) :
    lines.take k ++ lines[k] :: lines.drop (k + 1) = lines := by
  rw [← List.drop_eq_getElem_cons hk, List.take_append_drop]

theorem lineStart_succ (lines : List Bytes) (k : Nat) (hk : k < lines.length) :
    lineStart lines (k + 1) = lineStart lines k + lines[k].length + 1 := by
  unfold lineStart
  rw [List.take_succ_eq_append_getElem hk, render_append, List.length_append, render_cons_length]
  rfl

theorem lineStart_mono (lines : List Bytes) (i j : Nat) (h : i ≤ j) :
    lineStart lines i ≤ lineStart lines j := by
  unfold lineStart
  have : lines.take j = lines.take i ++ (lines.take j).drop i := by
    conv => lhs; rw [← List.take_append_drop i (lines.take j), List.take_take, Nat.min_eq_left h]
  rw [this, render_append, List.length_append]
  exact Nat.le_add_right _ _

theorem lineStart_lt_succ (lines : List Bytes) (k : Nat) (hk : k < lines.length) :
    lineStart lines k < lineStart lines (k + 1) :=
  lineStart_succ lines k hk ▸ Nat.lt_succ_of_le (Nat.le_add_right _ _)

theorem lineStart_le_size (lines : List Bytes) (k : Nat) : lineStart lines k ≤ (render lines).length := by
  unfold lineStart
  conv => rhs; rw [← List.take_append_drop k lines, render_append, List.length_append]
  exact Nat.le_add_right _ _

theorem exists_line_of_lt_lineStart (lines : List Bytes) (hi p : Nat) (hle : hi ≤ lines.length)
    (hp : p < lineStart lines hi) :
    ∃ m, m < hi ∧ lineStart lines m ≤ p ∧ p < lineStart lines (m + 1) := by
  induction hi with
  | zero => exact absurd hp (Nat.not_lt_zero _)
  | succ h ih =>
    rcases Nat.lt_or_ge p (lineStart lines h) with hlt | hge
    · obtain ⟨m, h1, h2⟩ := ih (Nat.le_of_succ_le hle) hlt
      exact ⟨m, Nat.lt_succ_of_lt h1, h2⟩
    · exact ⟨h, Nat.lt_succ_self h, hge, hp⟩

theorem lineAt_idx (lines : List Bytes) (k : Nat) (hk : k < lines.length) (hnl : ¬ (10 ∈ lines[k])) :
    LineAt (fileOfLines lines) (lineStart lines k) (lineStart lines k + lines[k].length) := by
  have := lineAt_split (lines.take k) (lines.drop (k + 1)) lines[k] hnl
  rwa [take_append_getElem_drop lines k hk] at this

theorem slice_idx (lines : List Bytes) (k : Nat) (hk : k < lines.length) :
    (fileOfLines lines).slice (lineStart lines k) (lineStart lines k + lines[k].length) = lines[k] := by
  have := slice_line (lines.take k) (lines.drop (k + 1)) lines[k]
  rwa [take_append_getElem_drop lines k hk] at this

/-- The reader of `lines` has `c` lines left to return: it stands on the newline
of line `c-1` (or at 0) and its buffer is sound. -/
def FilePos (P : Params) (lines : List Bytes) (c : Nat) (q : QState) : Prop :=
  c ≤ lines.length ∧ q.position = (render (lines.take c)).length - 1 ∧ Inv P (fileOfLines lines) q

theorem lineOK_iff (l : Bytes) : lineOK l = true ↔ l ≠ [] ∧ ¬ (10 ∈ l) ∧ l.length < entryLimit := by
  unfold lineOK
  cases l <;> simp [List.isEmpty]

theorem readNext_filePos (P : Params) (lines : List Bytes) (c : Nat) (q : QState)
    (hP1 : entryLimit ≤ P.maxEntry) (hP2 : P.maxEntry ≤ P.bufSize)
    (hok : ∀ l ∈ lines, lineOK l = true) (hq : FilePos P lines (c + 1) q) :
    ∃ q' a b, readNext P (fileOfLines lines) q = (q', .ok (a, b)) ∧
      (fileOfLines lines).slice a b = lines[c]'hq.1 ∧ FilePos P lines c q' := by
  obtain ⟨hc, hpos, hinv⟩ := hq
  obtain ⟨hne, hnl, hlen⟩ := (lineOK_iff _).1 (hok _ (List.getElem_mem hc))
  have hpos' : q.position = lineStart lines c + lines[c].length := by
    rw [hpos]
    show lineStart lines (c + 1) - 1 = _
    rw [lineStart_succ lines c hc, Nat.add_sub_cancel]
  obtain ⟨q', h1, h2, h3⟩ := readNext_line P (fileOfLines lines) q _ _ hP2 (lineAt_idx lines c hc hnl)
    (by rw [Nat.add_sub_cancel_left]; exact Nat.lt_of_lt_of_le hlen hP1) hpos'
    (Nat.add_pos_right _ (List.length_pos_iff.2 hne)) hinv
  exact ⟨q', _, _, h1, slice_idx lines c hc, Nat.le_of_lt hc, h2, h3⟩

theorem readNext_filePos_zero (P : Params) (lines : List Bytes) (q : QState)
    (hq : FilePos P lines 0 q) : readNext P (fileOfLines lines) q = (q, .error .eof) := by
  apply readNext_eof
  have := hq.2.1
  simpa [render] using this

/-- One read against the promise `rem` (the lines still to be returned, next one first), for any
reader whose states stand in `Pos` to their promise and whose results denote lines through `val`. -/
def Reads {S X : Type} (Pos : S → List Bytes → Prop) (val : X → Bytes)
    (res : S × Except Err X) : List Bytes → Prop
  | [] => ∃ s', res = (s', .error .eof) ∧ Pos s' []
  | l :: rem' => ∃ s' x, res = (s', .ok x) ∧ val x = l ∧ Pos s' rem'

/-- For any loop `many` that is "`step` until the first error": `fReadMany` over `readNext`,
`rReadMany` over `rReadNext`. -/
theorem readMany_spec {S X : Type} (step : S → S × Except Err X)
    (many : Nat → S → List X → S × List X × Option Err)
    (h0 : ∀ s acc, many 0 s acc = (s, acc.reverse, none))
    (hok : ∀ n s acc s' x, step s = (s', .ok x) → many (n + 1) s acc = many n s' (x :: acc))
    (herr : ∀ n s acc s' e, step s = (s', .error e) → many (n + 1) s acc = (s', acc.reverse, some e))
    (Pos : S → List Bytes → Prop) (val : X → Bytes)
    (hstep : ∀ s rem, Pos s rem → Reads Pos val (step s) rem) :
    ∀ (n : Nat) (s : S) (rem : List Bytes) (acc : List X), Pos s rem →
      ∃ s' xs, many n s acc = (s', acc.reverse ++ xs, if n > rem.length then some Err.eof else none) ∧
        xs.map val = rem.take n ∧ Pos s' (rem.drop n) := by
  intro n
  induction n with
  | zero =>
    intro s rem acc hpos
    exact ⟨s, [], by rw [h0, List.append_nil]; rfl, rfl, hpos⟩
  | succ n ih =>
    intro s rem acc hpos
    have hhead := hstep s rem hpos
    cases rem with
    | nil =>
      obtain ⟨s', h1, h2⟩ := hhead
      rw [herr n s acc s' _ h1]
      exact ⟨s', [], by rw [List.append_nil]; rfl, rfl, h2⟩
    | cons l rem' =>
      obtain ⟨s1, x, h1, h2, h3⟩ := hhead
      obtain ⟨s', xs, h4, h5, h6⟩ := ih s1 rem' (x :: acc) h3
      rw [hok n s acc s1 x h1]
      refine ⟨s', x :: xs, ?_, by rw [List.map_cons, List.take_succ_cons, h5, h2], h6⟩
      simp only [h4, List.reverse_cons, List.append_assoc, List.singleton_append, List.length_cons,
        Nat.succ_lt_succ_iff, gt_iff_lt]

/-- The `Pos` of `Reads` for one file. -/
def FileRem (P : Params) (lines : List Bytes) (q : QState) (rem : List Bytes) : Prop :=
  ∃ c, FilePos P lines c q ∧ rem = (lines.take c).reverse

theorem readNext_reads (P : Params) (lines : List Bytes)
    (hP1 : entryLimit ≤ P.maxEntry) (hP2 : P.maxEntry ≤ P.bufSize)
    (hok : ∀ l ∈ lines, lineOK l = true) (q : QState) (rem : List Bytes)
    (h : FileRem P lines q rem) :
    Reads (FileRem P lines) (fun r => (fileOfLines lines).slice r.1 r.2)
      (readNext P (fileOfLines lines) q) rem := by
  obtain ⟨c, hq, rfl⟩ := h
  cases c with
  | zero => exact ⟨q, readNext_filePos_zero P lines q hq, 0, hq, rfl⟩
  | succ c =>
    obtain ⟨q', a, b, h1, h2, h3⟩ := readNext_filePos P lines c q hP1 hP2 hok hq
    rw [List.take_succ_eq_append_getElem hq.1, List.reverse_append]
    exact ⟨q', (a, b), h1, h2, c, h3, rfl⟩

theorem fReadMany_spec (P : Params) (lines : List Bytes)
    (hP1 : entryLimit ≤ P.maxEntry) (hP2 : P.maxEntry ≤ P.bufSize)
    (hok : ∀ l ∈ lines, lineOK l = true) (n : Nat) (q : QState) (rem : List Bytes)
    (h : FileRem P lines q rem) :
    ∃ q' rs, fReadMany P (fileOfLines lines) n q [] =
        (q', rs, if n > rem.length then some Err.eof else none) ∧
      rs.map (fun r => (fileOfLines lines).slice r.1 r.2) = rem.take n ∧
      FileRem P lines q' (rem.drop n) :=
  readMany_spec (readNext P (fileOfLines lines)) (fReadMany P (fileOfLines lines))
    (fun _ _ => rfl) (fun _ _ _ _ _ h => by rw [fReadMany, h]) (fun _ _ _ _ _ h => by rw [fReadMany, h])
    _ _ (readNext_reads P lines hP1 hP2 hok) n q rem [] h

theorem fReadMany_from (P : Params) (lines : List Bytes)
    (hP1 : entryLimit ≤ P.maxEntry) (hP2 : P.maxEntry ≤ P.bufSize)
    (hok : ∀ l ∈ lines, lineOK l = true) (n c : Nat) (q : QState) (hq : FilePos P lines c q) :
    ∃ q' rs, fReadMany P (fileOfLines lines) n q [] = (q', rs, if n > c then some Err.eof else none) ∧
      rs.map (fun r => (fileOfLines lines).slice r.1 r.2) = ((lines.take c).reverse).take n := by
  obtain ⟨q', rs, h1, h2, _⟩ := fReadMany_spec P lines hP1 hP2 hok n q _ ⟨c, hq, rfl⟩
  rw [List.length_reverse, List.length_take, Nat.min_eq_left hq.1] at h1
  exact ⟨q', rs, h1, h2⟩

/-- Where a successful seek to entry `i` leaves the reader. -/
theorem filePos_seek (P : Params) (lines : List Bytes) (i : Nat) (hi : i < lines.length) (q : QState) :
    FilePos P lines (i + 1) { q with hasBuf := false, position := lineStart lines (i + 1) - 1 } :=
  ⟨hi, rfl, fun h => nomatch h⟩

theorem filePos_sameBuf (P : Params) {lines : List Bytes} {c : Nat} {q q' : QState}
    (h : FilePos P lines c q) (hp : q'.position = q.position) (hb : q' = q ∨ q'.hasBuf = false) :
    FilePos P lines c q' := by
  rcases hb with hb | hb
  · rw [hb]; exact h
  · exact ⟨h.1, hp ▸ h.2.1, by intro h'; rw [hb] at h'; cases h'⟩

theorem fileRem_seek (P : Params) (lines : List Bytes) (i : Nat) (hi : i < lines.length) (q : QState) :
    FileRem P lines { q with hasBuf := false, position := lineStart lines (i + 1) - 1 }
      (lines.take (i + 1)).reverse :=
  ⟨i + 1, filePos_seek P lines i hi q, rfl⟩

theorem filePos_seekStart (P : Params) (lines : List Bytes) (q : QState) :
    FilePos P lines lines.length (seekStart (fileOfLines lines) q) := by
  refine ⟨Nat.le_refl _, ?_, ?_⟩
  · simp [seekStart, fileOfLines_size]
  · intro h; simp [seekStart] at h

theorem fileRem_seekStart (P : Params) (lines : List Bytes) (q : QState) :
    FileRem P lines (seekStart (fileOfLines lines) q) lines.reverse :=
  ⟨lines.length, filePos_seekStart P lines q, by rw [List.take_length]⟩

end AGH.C20
