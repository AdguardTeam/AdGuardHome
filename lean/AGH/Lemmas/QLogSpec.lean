/-
Lemmas for C07: with nothing in flight (`Quiet`) `Add` and its flush goroutine
are `addEntry`, whatever overtakes the goroutine; every operation of the model
is the spec's operation on the ghost log (refinement).
-/
import AGH.Spec.QLog
namespace AGH.C07

theorem push_eq_drop (cap : Nat) (mem : List Entry) (e : Entry) :
    push cap mem e = (mem ++ [e]).drop ((mem ++ [e]).length - cap) := by
  unfold push
  simp only
  split
  · rfl
  · rename_i h
    have : (mem ++ [e]).length - cap = 0 := by omega
    rw [this]; rfl

theorem push_of_room (cap : Nat) (mem : List Entry) (e : Entry) (h : mem.length < cap) :
    push cap mem e = mem ++ [e] := by
  unfold push
  exact if_neg (by simp only [List.length_append, List.length_singleton]; omega)

theorem push_ne_nil (cap : Nat) (hcap : 0 < cap) (mem : List Entry) (e : Entry) : push cap mem e ≠ [] := by
  rw [push_eq_drop]
  intro h
  have := congrArg List.length h
  simp at this
  omega

theorem ringCap_pos (c : Conf) : 0 < ringCap c := by unfold ringCap; split <;> omega

theorem rotCheck_cases (s : State) (now : Int) : rotCheck s now = s ∨ rotCheck s now = rotate s := by
  unfold rotCheck
  split
  · exact Or.inl rfl
  · split
    · exact Or.inl rfl
    · exact Or.inr rfl

def Quiet (s : State) : Prop := s.flushPending = false ∧ s.tasks = 0

theorem quiet_flush (s : State) (hq : Quiet s) : Quiet (flush s) := by
  unfold flush Quiet at *
  split <;> simp_all

/-- What `addEntry` can do: nothing (logging disabled); store the record and flush at once; or store it,
leaving room below `memSize` if file logging is on. -/
theorem addEntry_cases {P : State → Prop} (s : State) (e : Entry) (off : P s)
    (flushed : P (flush { s with mem := push (ringCap s.conf) s.mem e }))
    (stored : (s.conf.fileEnabled = true → (push (ringCap s.conf) s.mem e).length < s.conf.memSize) →
      P { s with mem := push (ringCap s.conf) s.mem e }) : P (addEntry s e) := by
  fun_cases addEntry s e with
  | case1 => exact off
  | case2 => exact flushed
  | case3 _ _ _ hf => exact stored (by simpa using hf)

theorem quiet_addEntry (s : State) (e : Entry) (hq : Quiet s) : Quiet (addEntry s e) :=
  addEntry_cases s e hq (quiet_flush _ hq) (fun _ => hq)

theorem quiet_applyThen (s : State) (t : Then) (hq : Quiet s) : Quiet (applyThen s t) := by
  cases t with
  | clear => exact ⟨rfl, hq.2⟩
  | shutdown => simp only [applyThen, shutdown]; split; exact quiet_flush s hq; exact hq
  | restart m f en => exact ⟨rfl, rfl⟩

theorem runTasks_quiet (s : State) (hq : Quiet s) : runTasks s = s := by
  rw [runTasks, hq.2]
  rfl

/-- `Add` with nothing in flight: either it leaves nothing in flight and is
`addEntry`; or it has filled the ring of `s'` and started the one goroutine
whose flush `addEntry` has done already. The cases are those of `addEntry` (logging disabled; file logging on and the
buffer at `memSize`: flushed; otherwise: stored), whose test is that of `addRaw` when `flushPending = false`. -/
theorem addRaw_cases (s : State) (e : Entry) (hq : Quiet s) :
    (addRaw s e = addEntry s e ∧ Quiet (addEntry s e)) ∨
    ∃ s', s'.mem ≠ [] ∧ s'.conf.fileEnabled = true ∧ Quiet s' ∧
      addRaw s e = { s' with flushPending := true, tasks := 1 } ∧ addEntry s e = flush s' := by
  obtain ⟨hf, ht⟩ := hq
  fun_cases addEntry s e with
  | case1 hen => exact Or.inl ⟨by rw [addRaw, if_pos hen], hf, ht⟩
  | case2 hen mem s' hc =>
    refine Or.inr ⟨s', push_ne_nil _ (ringCap_pos _) _ _, (Bool.and_eq_true_iff.mp hc).1, ⟨hf, ht⟩, ?_, rfl⟩
    rw [addRaw, if_neg hen, ht]
    exact if_pos (by rw [hf]; exact hc)
  | case3 hen mem s' hc =>
    refine Or.inl ⟨?_, hf, ht⟩
    rw [addRaw, if_neg hen]
    exact if_neg (by rw [hf]; exact hc)

theorem runTasks_addRaw (s : State) (e : Entry) (hq : Quiet s) : runTasks (addRaw s e) = addEntry s e := by
  rcases addRaw_cases s e hq with ⟨h, hq'⟩ | ⟨s', hm, _, hq', h1, h2⟩
  · rw [h, runTasks_quiet _ hq']
  · rw [h1, h2]
    simp [runTasks, runTasksN, runTask, flush, hm, hq'.2]

theorem addThen_confluent (s : State) (e : Entry) (t : Then) (hq : Quiet s) :
    runTasks (applyThen (addRaw s e) t) = applyThen (addEntry s e) t := by
  rcases addRaw_cases s e hq with ⟨h, hq'⟩ | ⟨s', hm, hfe, hq', h1, h2⟩
  · rw [h, runTasks_quiet _ (quiet_applyThen _ t hq')]
  · rw [h1, h2]
    cases t with
    | clear => simp [applyThen, clear, runTasks, runTasksN, runTask, flush, hm, hq'.2]
    | shutdown => simp [applyThen, shutdown, hfe, runTasks, runTasksN, runTask, flush, hm, hq'.2]
    | restart m f en => simp [applyThen, restart, shutdown, hfe, runTasks, runTasksN, flush, hm]

def tag (t : Loc) (l : List Entry) : List (Entry × Loc) := l.map (fun e => (e, t))

def tagged (s : State) : List (Entry × Loc) := tag .rot s.rot ++ tag .cur s.cur ++ tag .mem s.mem

def Refines (g : Ghost) (s : State) : Prop := g.log = tagged s ∧ g.conf = s.conf

@[simp] theorem tag_nil (t : Loc) : tag t [] = [] := rfl
@[simp] theorem tag_append (t : Loc) (a b : List Entry) : tag t (a ++ b) = tag t a ++ tag t b := by
  simp [tag]
@[simp] theorem tag_map_fst (t : Loc) (l : List Entry) : (tag t l).map (·.1) = l := by
  simp [tag, Function.comp_def]

theorem tag_map_id (t : Loc) (l : List Entry) : (tag t l).map (fun x => x.1.id) = l.map (·.id) := by
  simp [tag, Function.comp_def]

theorem filter_tag (p : Entry × Loc → Bool) (t : Loc) (l : List Entry) (b : Bool)
    (h : ∀ e, p (e, t) = b) : (tag t l).filter p = if b then tag t l else [] := by
  have hall : ∀ x ∈ tag t l, p x = b := by
    intro x hx
    obtain ⟨e, _, rfl⟩ := List.mem_map.mp hx
    exact h e
  cases b
  · exact List.filter_eq_nil_iff.mpr fun x hx => by rw [hall x hx]; exact Bool.false_ne_true
  · exact List.filter_eq_self.mpr hall

theorem filter_tagged (q : Loc → Bool) (s : State) :
    (tagged s).filter (fun x => q x.2) =
      (if q .rot then tag .rot s.rot else []) ++ (if q .cur then tag .cur s.cur else []) ++
        (if q .mem then tag .mem s.mem else []) := by
  simp only [tagged, List.filter_append]
  rw [filter_tag _ .rot s.rot (q .rot) (fun _ => rfl), filter_tag _ .cur s.cur (q .cur) (fun _ => rfl),
    filter_tag _ .mem s.mem (q .mem) (fun _ => rfl)]

theorem filter_loc_tagged (s : State) (loc : Loc) :
    (tagged s).filter (fun x => decide (x.2 = loc)) = tag loc (match loc with | .rot => s.rot | .cur => s.cur | .mem => s.mem) := by
  rw [filter_tagged (fun l => decide (l = loc))]
  cases loc <;> simp

theorem find_cur_tagged (s : State) :
    (tagged s).find? (fun x => x.2 = Loc.cur) = s.cur.head?.map (fun e => (e, Loc.cur)) := by
  rw [← List.head?_filter, filter_loc_tagged]
  exact List.head?_map

theorem retag_tag (a b t : Loc) (l : List Entry) : retag a b (tag t l) = tag (if t = a then b else t) l := by
  simp only [retag, tag, List.map_map]
  congr 1
  funext e
  simp only [Function.comp]
  split <;> rfl

theorem retag_append (a b : Loc) (x y : List (Entry × Loc)) : retag a b (x ++ y) = retag a b x ++ retag a b y := by
  simp [retag]

theorem countLoc_tag (loc t : Loc) (l : List Entry) : countLoc loc (tag t l) = if t = loc then l.length else 0 := by
  unfold countLoc
  rw [filter_tag _ t l (decide (t = loc)) (by intro e; rfl)]
  by_cases h : t = loc <;> simp [h, tag]

theorem countLoc_append (loc : Loc) (x y : List (Entry × Loc)) :
    countLoc loc (x ++ y) = countLoc loc x + countLoc loc y := by
  simp [countLoc]

theorem countLoc_tagged (s : State) :
    countLoc .mem (tagged s) = s.mem.length ∧ countLoc .cur (tagged s) = s.cur.length ∧
    countLoc .rot (tagged s) = s.rot.length := by
  simp [tagged, countLoc_append, countLoc_tag]

theorem trimGo_notmem (d : Nat) (t : Loc) (ht : t ≠ .mem) (l : List Entry) (rest : List (Entry × Loc)) :
    trimMem.go d (tag t l ++ rest) = tag t l ++ trimMem.go d rest := by
  induction l with
  | nil => rfl
  | cons e r ih =>
    simp only [tag, List.map_cons, List.cons_append, trimMem.go] at ih ⊢
    simp [ht, ih]

theorem trimGo_mem (d : Nat) (l : List Entry) : trimMem.go d (tag .mem l) = tag .mem (l.drop d) := by
  induction l generalizing d with
  | nil => simp [tag, trimMem.go]
  | cons e r ih =>
    cases d with
    | zero => simpa [tag, trimMem.go] using ih 0
    | succ k => simpa [tag, trimMem.go] using ih k

theorem trimMem_tagged (n : Nat) (rot cur mem : List Entry) :
    trimMem n (tag .rot rot ++ tag .cur cur ++ tag .mem mem) =
      tag .rot rot ++ tag .cur cur ++ tag .mem (mem.drop (mem.length - n)) := by
  unfold trimMem
  have hk : countLoc .mem (tag .rot rot ++ tag .cur cur ++ tag .mem mem) = mem.length := by
    simp [countLoc_append, countLoc_tag]
  simp only [hk]
  rw [List.append_assoc, trimGo_notmem _ .rot (by decide), trimGo_notmem _ .cur (by decide), trimGo_mem,
    List.append_assoc]

theorem refines_init (c : Conf) : Refines (gInit c) (init c) := ⟨by simp [gInit, init, tagged], rfl⟩

theorem refines_flush (g : Ghost) (s : State) (h : Refines g s) : Refines (gFlush g) (flush s) := by
  obtain ⟨hl, hc⟩ := h
  unfold gFlush flush
  by_cases hm : s.mem = []
  · simp only [hm, if_true]
    refine ⟨?_, hc⟩
    simp only [hl, tagged, hm, tag_nil, List.append_nil, retag_append, retag_tag]
    simp
  · simp only [hm, if_false]
    refine ⟨?_, hc⟩
    simp only [hl, tagged, retag_append, retag_tag, tag_append, tag_nil, List.append_nil]
    simp

theorem refines_rotate (g : Ghost) (s : State) (h : Refines g s) :
    Refines { g with log := retag .cur .rot (g.log.filter (fun x => x.2 ≠ .rot)) } { s with rot := s.cur, cur := [] } := by
  obtain ⟨hl, hc⟩ := h
  refine ⟨?_, hc⟩
  rw [hl, filter_tagged (fun l => decide (l ≠ .rot))]
  simp [tagged, retag_append, retag_tag]

theorem refines_addEntry (g : Ghost) (s : State) (e : Entry) (h : Refines g s) :
    Refines (gAdd g e) (addEntry s e) := by
  have hl := h.1
  have hc := h.2
  simp only [gAdd, addEntry, hc]
  by_cases hen : s.conf.enabled = true
  · simp only [hen, Bool.not_true, Bool.false_eq_true, if_false]
    have hlog : trimMem (ringCap s.conf) (g.log ++ [(e, Loc.mem)]) =
        tagged { s with mem := push (ringCap s.conf) s.mem e } := by
      rw [hl, tagged]
      have : tag .rot s.rot ++ tag .cur s.cur ++ tag .mem s.mem ++ [(e, Loc.mem)] =
          tag .rot s.rot ++ tag .cur s.cur ++ tag .mem (s.mem ++ [e]) := by simp [tag]
      rw [this, trimMem_tagged, push_eq_drop]
      rfl
    rw [hlog]
    have hcnt : countLoc .mem (tagged { s with mem := push (ringCap s.conf) s.mem e }) =
        (push (ringCap s.conf) s.mem e).length := (countLoc_tagged _).1
    rw [hcnt]
    split
    · exact refines_flush _ _ ⟨rfl, rfl⟩
    · exact ⟨rfl, rfl⟩
  · simp only [hen, Bool.not_false, if_true]
    exact h

theorem refines_shutdown (g : Ghost) (s : State) (h : Refines g s) :
    Refines (if g.conf.fileEnabled then gFlush g else g) (shutdown s) := by
  simp only [shutdown, h.2]
  split
  · exact refines_flush g s h
  · exact h

theorem refines_clear (g : Ghost) (s : State) (h : Refines g s) :
    Refines { g with log := [] } (clear s) := ⟨by simp [tagged, clear], h.2⟩

theorem refines_restart (g : Ghost) (s : State) (m : Nat) (f en : Bool) (h : Refines g s) :
    Refines (gRestart g m f en) (restart s m f en) := by
  have hc := h.2
  simp only [gRestart, restart, shutdown, hc]
  have key : ∀ g' s', Refines g' s' →
      Refines { log := g'.log.filter (fun x => x.2 ≠ Loc.mem),
                conf := { g'.conf with memSize := m, fileEnabled := f, enabled := en } }
        { s' with mem := [], flushPending := false, tasks := 0,
                  conf := { s'.conf with memSize := m, fileEnabled := f, enabled := en } } := by
    intro g' s' h'
    refine ⟨?_, by rw [h'.2]⟩
    rw [h'.1, filter_tagged (fun l => decide (l ≠ .mem))]
    simp [tagged]
  split
  · exact key _ _ (refines_flush g s h)
  · exact key _ _ h

theorem refines_step (g : Ghost) (s : State) (op : Op) (h : Refines g s) (hq : Quiet s) :
    Refines (gStep g op) (step s op) := by
  have hl := h.1
  have hc := h.2
  cases op with
  | add e =>
    simp only [gStep, step, runTasks_addRaw s e hq]
    exact refines_addEntry g s e h
  | addThen e t =>
    simp only [step, addThen_confluent s e t hq]
    have h1 := refines_addEntry g s e h
    cases t with
    | clear => exact refines_clear _ _ h1
    | shutdown => exact refines_shutdown _ _ h1
    | restart m f en => exact refines_restart _ _ m f en h1
  | shutdown => exact refines_shutdown g s h
  | rotate =>
    simp only [gStep, step, rotate]
    have hcnt : countLoc .cur g.log = s.cur.length := by rw [hl]; exact (countLoc_tagged s).2.1
    by_cases hcur : s.cur = []
    · simp [hcnt, hcur]; exact h
    · have : ¬ s.cur.length = 0 := fun hh => hcur (List.eq_nil_of_length_eq_zero hh)
      simp only [hcnt, this, hcur, if_false]
      exact refines_rotate g s h
  | rotCheck now =>
    have hfind : g.log.find? (fun x => x.2 = Loc.cur) = s.cur.head?.map (fun e => (e, Loc.cur)) := by
      rw [hl]
      exact find_cur_tagged s
    have hivl : g.conf.ivl = s.conf.ivl := by rw [hc]
    simp only [gStep, step, rotCheck, hfind, hivl]
    cases hcur : s.cur with
    | nil => exact h
    | cons first rest =>
      simp only [List.head?_cons, Option.map_some]
      split
      · exact h
      · simpa [rotate, hcur] using refines_rotate g s h
  | clear => exact refines_clear g s h
  | restart m f en => exact refines_restart g s m f en h
  | putConf en an ivl ign =>
    simp only [gStep, step, putConf]
    split
    · exact h
    · exact ⟨hl, by simp [hc]⟩
  | setClients tbl =>
    simp only [gStep, step, setClients]
    exact ⟨hl, by simp [hc]⟩

end AGH.C07
