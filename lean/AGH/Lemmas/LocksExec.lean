/-
C05 — what ties the lock machine to the driver and to the generated tables: the
Bool monitors decide the Props, the executable runner stays inside `Reach` (so
the model meets the schedule monitor), and table obligations + conformance give
the disciplines; a table of order edges with a cycle has no ranks (`no_rank_of_cycle`).
-/
import AGH.Lemmas.LocksProgress
namespace AGH.C05

theorem raceB_iff (s : State) : raceB s = true ↔ Race s := by
  have hget : ∀ (i : Nat) (a : Var × Bool), (s.map nextAccess)[i]? = some (some a) ↔ (s[i]?).bind nextAccess = some a := by
    intro i a
    rw [List.getElem?_map]
    cases s[i]? with
    | none => exact ⟨fun h => (nomatch h), fun h => (nomatch h)⟩
    | some t => exact ⟨Option.some.inj, congrArg some⟩
  constructor
  · intro h
    obtain ⟨i, _, h⟩ := List.any_eq_true.1 h
    obtain ⟨j, _, h⟩ := List.any_eq_true.1 h
    obtain ⟨hij, hm⟩ := Bool.and_eq_true _ _ ▸ h
    split at hm
    · rename_i x wi y wj hxi hyj
      simp only [Bool.and_eq_true, beq_iff_eq, Bool.or_eq_true] at hm
      obtain ⟨rfl, hw⟩ := hm
      exact ⟨i, j, x, wi, wj, bne_iff_ne.1 hij, (hget i _).1 hxi, (hget j _).1 hyj, hw⟩
    · cases hm
  · rintro ⟨i, j, x, wi, wj, hij, hi, hj, hw⟩
    have hi' := (hget i _).2 hi
    have hj' := (hget j _).2 hj
    refine List.any_eq_true.2 ⟨i, List.mem_range.2 (List.getElem?_eq_some_iff.1 hi').1,
      List.any_eq_true.2 ⟨j, List.mem_range.2 (List.getElem?_eq_some_iff.1 hj').1, ?_⟩⟩
    rw [hi', hj']
    simpa [hij] using hw

theorem deadlockB_iff (s : State) : deadlockB s = true ↔ Deadlock s := by
  unfold deadlockB Deadlock
  rw [Bool.and_eq_true, List.all_eq_true]
  constructor
  · rintro ⟨hu, hall⟩
    refine ⟨hu, fun i => ?_⟩
    by_cases hi : i < s.length
    · have := hall i (List.mem_range.2 hi)
      exact Option.isNone_iff_eq_none.1 this
    · unfold stepThread
      rw [List.getElem?_eq_none (Nat.le_of_not_lt hi)]
  · rintro ⟨hu, hall⟩
    exact ⟨hu, fun i _ => by rw [hall i]; rfl⟩

theorem stepForced_grant (s : State) (i : Nat) :
    (stepThread s i = none ∧ stepForced s i (grantOf s i) = s) ∨
    stepThread s i = some (stepForced s i (grantOf s i)) := by
  unfold grantOf stepForced
  fun_cases stepThread s i with
  | case1 => exact .inl ⟨rfl, rfl⟩
  | case2 t ht _ => right; simp [ht]
  | case3 => exact .inl ⟨rfl, rfl⟩

theorem stepForced_grant_reach {s₀ s : State} (h : Reach s₀ s) (i : Nat) :
    Reach s₀ (stepForced s i (grantOf s i)) := by
  rcases stepForced_grant s i with ⟨_, he⟩ | hst
  · rw [he]; exact h
  · exact Reach.step h (Step.run i hst)

theorem statesFrom_reach (s₀ s : State) (h : Reach s₀ s) (sched : List Nat) :
    ∀ s' ∈ statesFrom s sched, Reach s₀ s' := by
  induction sched generalizing s with
  | nil =>
    intro s' hs'
    simp only [statesFrom, List.mem_singleton] at hs'
    subst hs'; exact h
  | cons i is ih =>
    intro s' hs'
    simp only [statesFrom, List.mem_cons] at hs'
    rcases hs' with rfl | hs'
    · exact h
    · exact ih _ (stepForced_grant_reach h i) s' hs'

theorem replay_own_grants (s : State) (sched : List Nat) :
    replayFrom s sched (grantsFrom s sched) = statesFrom s sched := by
  induction sched generalizing s with
  | nil => rfl
  | cons i is ih =>
    simp only [grantsFrom, replayFrom, statesFrom]
    rw [ih]

theorem model_meets_specSched (guard : Var → Lock) (rank : Lock → Nat) (p : Prog)
    (sched : List Nat) :
    specSched guard rank p sched (modelSched p sched) = true := by
  unfold specSched modelSched
  simp only
  rw [replay_own_grants]
  have hreach := statesFrom_reach (init p) (init p) Reach.refl sched
  -- a monitor that decides a property no reachable state has is silent on the trajectory
  have key : ∀ (b : State → Bool) (P : State → Prop), (∀ s, b s = true ↔ P s) →
      (∀ s, Reach (init p) s → ¬ P s) →
      (statesFrom (init p) sched).all (fun s => !b s) = true := by
    intro b P hb hP
    rw [List.all_eq_true]
    intro s hs
    cases hr : b s with
    | false => rfl
    | true => exact absurd ((hb s).1 hr) (hP s (hreach s hs))
  rw [Bool.and_eq_true]
  constructor
  · cases hd : progDisc guard p with
    | false => rfl
    | true => exact key raceB Race raceB_iff (lockset_sound guard p hd)
  · cases hd : progRanked rank p with
    | false => rfl
    | true => exact key deadlockB Deadlock deadlockB_iff (order_sound rank p hd)

/-- `lookup` in the shape the kernel evaluates most cheaply: the pair is taken
apart by projections and the keys are compared by `Nat.beq`, which the kernel
computes on literals, instead of the `BEq` instance behind `==`, whose unfolding
at every step of every scan dominates the evaluation of the table obligations
of `AGH.Props.C05`; a table check there first rewrites with `lookup_eq_lookupK`. -/
def lookupK : List (Nat × Nat) → Nat → Option Nat
  | [], _ => none
  | p :: r, k => bif Nat.beq p.1 k then some p.2 else lookupK r k

theorem lookup_eq_lookupK : lookup = lookupK := by
  funext tbl k
  induction tbl with
  | nil => rfl
  | cons p r ih =>
    show (if p.1 == k then some p.2 else lookup r k) =
      bif Nat.beq p.1 k then some p.2 else lookupK r k
    simp only [ih, cond_eq_ite, Nat.beq_eq, beq_iff_eq]

/-- The conjunct on `heldShared`/`heldExcl` that `conformsAcc` and `conformsOrdG` share: what
`simp only` leaves of it in `disc_of_conforms` and `rank_of_conforms_gated` is this by unfolding. -/
def HoldsListed (held : List (Lock × Mode)) (sh ex : List Lock) : Prop :=
  sh.all (fun l => holdsMode held l .shared || holdsMode held l .excl) = true ∧
    ex.all (fun l => holdsMode held l .excl) = true

theorem HoldsListed.excl {held : List (Lock × Mode)} {sh ex : List Lock} {g : Lock}
    (h : HoldsListed held sh ex) (hg : ex.contains g = true) : mayWrite held g = true :=
  List.all_eq_true.1 h.2 g (List.contains_iff_mem.1 hg)

theorem HoldsListed.some_mode {held : List (Lock × Mode)} {sh ex : List Lock} {g : Lock}
    (h : HoldsListed held sh ex) (hg : sh.contains g = true ∨ ex.contains g = true) :
    mayRead held g = true := by
  rcases hg with hg | hg
  · exact List.all_eq_true.1 h.1 g (List.contains_iff_mem.1 hg)
  · exact Bool.or_eq_true_iff.2 (Or.inr (h.excl hg))

theorem row_allows {guards : List (Nat × Nat)} {accs : List AccessRow}
    (ht : tableDisciplined guards accs = true) {a : AccessRow} (ha : a ∈ accs)
    (hk : a.known = false) {held : List (Lock × Mode)}
    (hl : HoldsListed held a.heldShared a.heldExcl) :
    if a.write then mayWrite held (guardOf guards a.field) = true
    else mayRead held (guardOf guards a.field) = true := by
  have hrow := List.all_eq_true.1 ht a ha
  rw [hk, Bool.false_or] at hrow
  revert hrow
  unfold guardOf
  fun_cases rowOK guards a with
  | case1 => nofun
  | case2 g hg hw => rw [hg, if_pos hw]; exact hl.excl
  | case3 g hg hw =>
    rw [hg, if_neg hw]
    exact fun hrow => hl.some_mode (Bool.or_eq_true _ _ ▸ hrow).symm

theorem gate_of_row {gates : List (Nat × Nat)} {acqs : List AcqRow}
    (ht : acqsGated gates acqs = true) {a : AcqRow} (ha : a ∈ acqs)
    (hk : a.known = false) (hlf : a.leaf = false) {held : List (Lock × Mode)}
    (hl : HoldsListed held a.heldShared a.heldExcl) :
    gateHeldOK (gateFn gates) held a.lock = true := by
  have hrow := List.all_eq_true.1 ht a ha
  rw [hk, hlf, Bool.false_or, Bool.false_or] at hrow
  unfold gateHeldOK gateFn
  cases hg : lookup gates a.lock with
  | none => rfl
  | some g =>
    rw [hg] at hrow
    exact any_fst_iff.2 (mem_of_mayRead (hl.some_mode (Bool.or_eq_true _ _ ▸ hrow)))

theorem held_rank_lt_of_edges {ranks edges : List (Nat × Nat)}
    (he : edgesRanked ranks edges = true) {held : List (Lock × Mode)} {l : Lock}
    (h : held.all (fun h => edges.contains (h.1, l)) = true) :
    held.all (fun h => rankOf ranks h.1 < rankOf ranks l) = true :=
  List.all_eq_true.2 fun x hx =>
    List.all_eq_true.1 he (x.1, l) (List.contains_iff_mem.1 (List.all_eq_true.1 h x hx))

theorem closedWalk_rank_lt (es : List (Nat × Nat)) (rank : Nat → Nat)
    (hr : ∀ e ∈ es, rank e.1 < rank e.2) (start : Nat) :
    ∀ (r : List Nat) (cur : Nat), closedWalk es start cur r = true → rank cur < rank start := by
  intro r cur
  fun_induction closedWalk es start cur r with
  | case1 cur => exact fun h => hr (cur, start) (List.contains_iff_mem.1 h)
  | case2 cur b r ih =>
    rw [Bool.and_eq_true]
    exact fun h => Nat.lt_trans (hr (cur, b) (List.contains_iff_mem.1 h.1)) (ih h.2)

theorem no_rank_of_cycle (es : List (Nat × Nat)) (c : List Nat) (hc : cycleIn es c = true) :
    ∀ rank : Nat → Nat, ¬ (∀ e ∈ es, rank e.1 < rank e.2) := by
  intro rank hr
  cases c with
  | nil => simp [cycleIn] at hc
  | cons a r =>
    have := closedWalk_rank_lt es rank hr a r a hc
    exact Nat.lt_irrefl _ this

theorem disc_of_conforms (guards : List (Nat × Nat)) (accs : List AccessRow)
    (ht : tableDisciplined guards accs = true) :
    ∀ (t : List LEvent) (held : List (Lock × Mode)), conformsAcc accs held t = true →
      discOK (guardOf guards) held (eraseLabels t) = true := by
  intro t held
  -- the cases follow the events, here and in the two theorems below: none left, `acq`, `rel`, `rd`, `wr`
  fun_induction conformsAcc accs held t with
  | case1 => exact fun _ => rfl
  | case2 held l m _ r ih | case3 held l m _ r ih => exact ih
  | case4 held x σ r ih | case5 held x σ r ih =>
    simp only [Bool.and_eq_true, List.any_eq_true, beq_iff_eq, Bool.not_eq_true', and_assoc]
    rintro ⟨⟨a, ha, _, hk, hf, hw, hl⟩, hrest⟩
    have hg := row_allows ht ha hk hl
    rw [hw, hf] at hg
    exact (Bool.and_eq_true _ _).mpr ⟨hg, ih hrest⟩

/-- The plain order's counterpart of `rank_of_conforms_gated`; the per-program theorems of
`AGH.Props.C05` go through the gated one. -/
theorem rank_of_conforms (ranks edges : List (Nat × Nat)) (he : edgesRanked ranks edges = true) :
    ∀ (t : List Event) (held : List (Lock × Mode)), conformsOrd edges held t = true →
      rankOK (rankOf ranks) held t = true := by
  intro t held
  fun_induction conformsOrd edges held t with
  | case1 => exact id
  | case2 held l m r ih =>
    rw [rankOK, Bool.and_eq_true, Bool.and_eq_true]
    exact fun hc => ⟨held_rank_lt_of_edges he hc.1, ih hc.2⟩
  | case3 held l m r ih =>
    rw [rankOK, Bool.and_eq_true, Bool.and_eq_true]
    exact fun hc => ⟨hc.1, ih hc.2⟩
  | case4 held _ r ih | case5 held _ r ih => exact ih

theorem rank_of_conforms_gated (ranks edges gates : List (Nat × Nat)) (acqs : List AcqRow)
    (he : edgesRanked ranks edges = true) (hg : acqsGated gates acqs = true) :
    ∀ (t : List LEvent) (held : List (Lock × Mode)), conformsOrdG edges gates acqs held t = true →
      rankOKg (rankOf ranks) (gateFn gates) held (eraseLabels t) = true := by
  intro t held
  fun_induction conformsOrdG edges gates acqs held t with
  | case1 => exact id
  | case2 held l m σ r ih =>
    simp only [Bool.and_eq_true, Bool.or_eq_true, List.any_eq_true, beq_iff_eq,
      Bool.not_eq_true', and_assoc]
    rintro ⟨hgate, hrk, hrest⟩
    refine rankOKg_acq.2 ⟨?_, hrk.imp_right (held_rank_lt_of_edges he), ih hrest⟩
    rcases hgate with hnone | ⟨a, ha, _, rfl, hk, hleaf, hl⟩
    · left
      unfold gateHeldOK gateFn
      rw [Option.isNone_iff_eq_none.1 hnone]
    · exact hleaf.imp_left fun hlf => gate_of_row hg ha hk hlf hl
  | case3 held l m _ r ih =>
    simp only [Bool.and_eq_true, and_assoc]
    exact fun hc => rankOKg_rel.2 ⟨hc.1, hc.2.1, ih hc.2.2⟩
  | case4 held _ _ r ih | case5 held _ _ r ih => exact ih

theorem race_free_of_conforms {guards : List (Nat × Nat)} {accs : List AccessRow}
    (ht : tableDisciplined guards accs = true) (p : List (List LEvent))
    (hc : ∀ t ∈ p, conformsAcc accs [] t = true) :
    ∀ s, Reach (init (p.map eraseLabels)) s → ¬ Race s := by
  apply lockset_sound (guardOf guards)
  rw [progDisc, List.all_map, List.all_eq_true]
  exact fun t ht' => disc_of_conforms guards accs ht t [] (hc t ht')

theorem deadlock_free_of_conforms {ranks edges gates : List (Nat × Nat)} {acqs : List AcqRow}
    (he : edgesRanked ranks edges = true) (hg : acqsGated gates acqs = true)
    (p : List (List LEvent)) (hc : ∀ t ∈ p, conformsOrdG edges gates acqs [] t = true) :
    ∀ s, Reach (init (p.map eraseLabels)) s → ¬ Deadlock s ∧ ∀ i, ¬ WaitChain s i i := by
  have hr : progRankedG (rankOf ranks) (gateFn gates) (p.map eraseLabels) = true := by
    rw [progRankedG, List.all_map, List.all_eq_true]
    exact fun t ht => rank_of_conforms_gated ranks edges gates acqs he hg t [] (hc t ht)
  exact fun s hs => ⟨order_sound_gated _ _ _ hr s hs, no_wait_cycle_gated _ _ _ hr s hs⟩

end AGH.C05
