/-
C12 lemmas.  First what every other C12 module builds on: the login gate in closed form
(`timeLeft`, `handleLogin_eq`, `basic_eq`) and the relations `Does` / `Checks` listing what `step` /
`checkSession` can do.  Then the throttling part: the rate limiter's table, cleaned at `now`, is
the table computed from the spec's lists of failure times (`SimThr`, `ThrExact`), and every
operation keeps it so (`simThr_step`).
-/
import AGH.Spec.Auth
namespace AGH.C12

theorem FMap.set_self {β} (m : FMap β) (k : Nat) (v : β) : m.set k v k = some v := if_pos rfl

theorem FMap.set_ne {β} (m : FMap β) {k k' : Nat} (v : β) (h : k' ≠ k) : m.set k v k' = m k' := if_neg h

theorem FMap.erase_self {β} (m : FMap β) (k : Nat) : m.erase k k = none := if_pos rfl

theorem FMap.erase_ne {β} (m : FMap β) {k k' : Nat} (h : k' ≠ k) : m.erase k k' = m k' := if_neg h

theorem FMap.eq_update_self {β} {f : FMap β} {k : Nat} {v : Option β} (h : f k = v) :
    f = fun t => if t = k then v else f t := by
  funext t
  split
  · next e => rw [e, h]
  · rfl

/-- the limiter after the cleanup that `check` does at `now` -/
def swept (st : St) (now : Nat) : Option Limiter :=
  st.rl.map fun l => { l with recs := cleanup now l.recs }

/-- what `check` answers about `addr`: the time left of its block (0: not blocked, or no limiter) -/
def timeLeft (st : St) (addr now : Nat) : Nat :=
  match swept st now with
  | none => 0
  | some l => checkLocked l addr now

theorem swept_some {st : St} {l : Limiter} (h : st.rl = some l) (now : Nat) :
    swept st now = some { l with recs := cleanup now l.recs } := by
  unfold swept
  rw [h]
  rfl

theorem timeLeft_some {st : St} {l : Limiter} (h : st.rl = some l) (addr now : Nat) :
    timeLeft st addr now = (l.check addr now).1 := by
  unfold timeLeft
  rw [swept_some h]
  rfl

theorem timeLeft_none {st : St} (h : st.rl = none) (addr now : Nat) : timeLeft st addr now = 0 := by
  unfold timeLeft swept
  rw [h]
  rfl

theorem handleLogin_eq (st : St) (now : Nat) (r : Req) (good : Bool) (user : Nat) :
    handleLogin st now r good user =
      if timeLeft st r.peer now > 0 then
        (.tooMany (timeLeft st r.peer now / nsPerSec), { st with rl := swept st now })
      else evalLogin st (swept st now) now r.peer good user := by
  obtain ⟨rl, mem, db, ttl, nt, ev⟩ := st
  cases rl <;> rfl

theorem evalLogin_good (st : St) (rl : Option Limiter) (now addr user : Nat) :
    evalLogin st rl now addr true user =
      (.ok st.nextTok,
       { st with
         rl := rl.map (fun x => x.remove addr),
         mem := st.mem.set st.nextTok ⟨user, (now32 now + st.ttl) % u32⟩,
         db := st.db.set st.nextTok ⟨user, (now32 now + st.ttl) % u32⟩,
         nextTok := st.nextTok + 1, evals := st.evals + 1 }) := rfl

theorem evalLogin_bad (st : St) (rl : Option Limiter) (now addr user : Nat) :
    evalLogin st rl now addr false user =
      (.forbidden, { st with rl := rl.map (fun x => x.inc addr now), evals := st.evals + 1 }) := rfl

/-- `checkBasicAuth` of the repair: the gate of `handleLogin`, then `remove` / `inc`; no session -/
theorem basic_eq (st : St) (now : Nat) (r : Req) (good : Bool) :
    basicAuthX true st now r good =
      if timeLeft st r.peer now > 0 then
        (.tooMany (timeLeft st r.peer now / nsPerSec), { st with rl := swept st now })
      else if good then
        (.passed, { st with rl := (swept st now).map (·.remove r.peer), evals := st.evals + 1 })
      else (.forbidden, { st with rl := (swept st now).map (·.inc r.peer now), evals := st.evals + 1 }) := by
  obtain ⟨rl, mem, db, ttl, nt, ev⟩ := st
  cases rl <;> cases good <;> rfl

/-- What one operation does, by kind of effect.  The two forms of login attempt share `blocked`
and `failed`: they differ only in what a right password earns. -/
inductive Does (st : St) (now : Nat) : Op → Obs × St → Prop
  | blocked {o : Op} {req : Req} {good : Bool} (ho : (∃ u, o = .login req good u) ∨ o = .basic req good) :
    timeLeft st req.peer now > 0 →
    Does st now o (.login (.tooMany (timeLeft st req.peer now / nsPerSec)), { st with rl := swept st now })
  | failed {o : Op} {req : Req} (ho : (∃ u, o = .login req false u) ∨ o = .basic req false) :
    ¬ timeLeft st req.peer now > 0 →
    Does st now o (.login .forbidden,
      { st with rl := (swept st now).map (·.inc req.peer now), evals := st.evals + 1 })
  | loggedIn (req : Req) (user : Nat) : ¬ timeLeft st req.peer now > 0 →
    Does st now (.login req true user) (.login (.ok st.nextTok),
      { st with rl := (swept st now).map (·.remove req.peer),
                mem := st.mem.set st.nextTok ⟨user, (now32 now + st.ttl) % u32⟩,
                db := st.db.set st.nextTok ⟨user, (now32 now + st.ttl) % u32⟩,
                nextTok := st.nextTok + 1, evals := st.evals + 1 })
  | passed (req : Req) : ¬ timeLeft st req.peer now > 0 →
    Does st now (.basic req true) (.login .passed,
      { st with rl := (swept st now).map (·.remove req.peer), evals := st.evals + 1 })
  | request (tok : Nat) :
    Does st now (.request tok) (.auth ((checkSession st now tok).1 == .ok), (checkSession st now tok).2)
  | logout (tok : Nat) : Does st now (.logout tok) (.done, logout st tok)
  | restart : Does st now .restart (.done, restart st now)

/-- The one walk through the text of `step`; a judgment over steps is
`generalize step st now o = r at hd ⊢; cases hd` on this and one line per kind
(`checkSession_checks` is used the same way). -/
theorem step_does (st : St) (now : Nat) (o : Op) : Does st now o (step st now o) := by
  cases o with
  | login req good user =>
    show Does st now _ (.login (handleLogin st now req good user).1, (handleLogin st now req good user).2)
    rw [handleLogin_eq]
    by_cases hb : timeLeft st req.peer now > 0
    · rw [if_pos hb]
      exact .blocked (Or.inl ⟨user, rfl⟩) hb
    · rw [if_neg hb]
      cases good with
      | true => exact .loggedIn req user hb
      | false => exact .failed (Or.inl ⟨user, rfl⟩) hb
  | basic req good =>
    show Does st now _ (.login (basicAuthX true st now req good).1, (basicAuthX true st now req good).2)
    rw [basic_eq]
    by_cases hb : timeLeft st req.peer now > 0
    · rw [if_pos hb]
      exact .blocked (Or.inr rfl) hb
    · rw [if_neg hb]
      cases good with
      | true => exact .passed req hb
      | false => exact .failed (Or.inr rfl) hb
  | request tok => exact .request tok
  | logout tok => exact .logout tok
  | restart => exact .restart

/-- What `checkSession` can do; which of `kept` and `refreshed` a live session gets (whether the
expiry moves to another day) is left out. -/
inductive Checks (st : St) (now tok : Nat) : CheckRes × St → Prop
  | absent : st.mem tok = none → Checks st now tok (.notFound, st)
  | expired (s : Sess) : st.mem tok = some s → s.expire ≤ now32 now → Checks st now tok (.expired, logout st tok)
  | kept (s : Sess) : st.mem tok = some s → ¬ s.expire ≤ now32 now → Checks st now tok (.ok, st)
  | refreshed (s : Sess) : st.mem tok = some s → ¬ s.expire ≤ now32 now →
    Checks st now tok
      (.ok, { st with mem := st.mem.set tok { s with expire := (now32 now + st.ttl) % u32 },
                      db := st.db.set tok { s with expire := (now32 now + st.ttl) % u32 } })

theorem checkSession_checks (st : St) (now tok : Nat) : Checks st now tok (checkSession st now tok) := by
  fun_cases checkSession st now tok with
  | case1 h => exact .absent h
  | case2 s h he => exact .expired s h he
  | case3 s h he => exact .refreshed s h he
  | case4 s h he => exact .kept s h he

theorem checkSession_frame (st : St) (now tok : Nat) :
    (checkSession st now tok).2.rl = st.rl ∧ (checkSession st now tok).2.evals = st.evals := by
  have hc := checkSession_checks st now tok
  generalize checkSession st now tok = r at hc ⊢
  cases hc <;> exact ⟨rfl, rfl⟩

theorem checkSession_ok_iff (st : St) (now tok : Nat) :
    (checkSession st now tok).1 = .ok ↔ ∃ s, st.mem tok = some s ∧ ¬ s.expire ≤ now32 now := by
  have hc := checkSession_checks st now tok
  generalize checkSession st now tok = r at hc ⊢
  cases hc with
  | absent h => exact ⟨(fun e => nomatch e), fun ⟨_, e, _⟩ => nomatch h.symm.trans e⟩
  | expired s h he =>
    exact ⟨(fun e => nomatch e), fun ⟨_, e, h'⟩ => absurd (Option.some.inj (h.symm.trans e) ▸ he) h'⟩
  | kept s h he => exact ⟨fun _ => ⟨s, h, he⟩, fun _ => rfl⟩
  | refreshed s h he => exact ⟨fun _ => ⟨s, h, he⟩, fun _ => rfl⟩

/-- Password evaluations and the limiter move together.  Left: nothing is evaluated; the limiter is
as it was, or swept, or the step is the restart (which empties its table: the statement does not
say so).  Right: one evaluation, by an attempt of either form from an address that is not blocked;
the limiter is the swept one with that address `inc`'d or `remove`d. -/
theorem step_evals_rl (st : St) (now : Nat) (o : Op) :
    ((step st now o).2.evals = st.evals ∧
      ((step st now o).2.rl = st.rl ∨ (step st now o).2.rl = swept st now ∨ o = .restart)) ∨
    ∃ req, ((∃ g u, o = .login req g u) ∨ (∃ g, o = .basic req g)) ∧ ¬ timeLeft st req.peer now > 0 ∧
      (step st now o).2.evals = st.evals + 1 ∧
      ((step st now o).2.rl = (swept st now).map (·.inc req.peer now) ∨
       (step st now o).2.rl = (swept st now).map (·.remove req.peer)) := by
  have hd := step_does st now o
  generalize step st now o = r at hd ⊢
  cases hd with
  | blocked _ _ => exact Or.inl ⟨rfl, Or.inr (Or.inl rfl)⟩
  | failed ho hb =>
    exact Or.inr ⟨_, ho.imp (fun ⟨u, e⟩ => ⟨_, u, e⟩) (fun e => ⟨_, e⟩), hb, rfl, Or.inl rfl⟩
  | loggedIn req user hb => exact Or.inr ⟨req, Or.inl ⟨_, _, rfl⟩, hb, rfl, Or.inr rfl⟩
  | passed req hb => exact Or.inr ⟨req, Or.inr ⟨_, rfl⟩, hb, rfl, Or.inr rfl⟩
  | request tok => exact Or.inl ⟨(checkSession_frame st now tok).2, Or.inl (checkSession_frame st now tok).1⟩
  | logout tok => exact Or.inl ⟨rfl, Or.inl rfl⟩
  | restart => exact Or.inl ⟨rfl, Or.inr (Or.inr rfl)⟩

theorem login_ok_tables {st : St} {now : Nat} {req : Req} {good : Bool} {user t : Nat}
    (hok : (handleLogin st now req good user).1 = .ok t) :
    t = st.nextTok ∧ (handleLogin st now req good user).2.nextTok = st.nextTok + 1 ∧
    (handleLogin st now req good user).2.mem = st.mem.set st.nextTok ⟨user, (now32 now + st.ttl) % u32⟩ ∧
    (handleLogin st now req good user).2.db = st.db.set st.nextTok ⟨user, (now32 now + st.ttl) % u32⟩ := by
  have hd : Does st now (.login req good user)
      (.login (handleLogin st now req good user).1, (handleLogin st now req good user).2) := step_does st now _
  generalize handleLogin st now req good user = r at hd hok ⊢
  obtain ⟨res, st'⟩ := r
  cases hd with
  | blocked _ _ => cases hok
  | failed _ _ => cases hok
  | loggedIn _ _ _ => exact ⟨(LoginRes.ok.inj hok).symm, rfl, rfl, rfl⟩

theorem handleLoginF_false_db (st : St) (now : Nat) (req : Req) (good : Bool) (user : Nat) :
    (handleLoginF st now req good user false).2.db = st.db := by
  fun_cases handleLoginF st now req good user false
  · cases good <;> rfl
  · rfl
  · cases good <;> rfl

/-- what the limiter holds for an address whose counted failures are `fs` -/
def specRec (sp : Spec) (now : Nat) (fs : List Nat) : Option Rec :=
  if stillCounts sp fs now then some ⟨untilOf sp fs, fs.length⟩ else none

def failsOf (sp : Spec) (a : Nat) : List Nat := (sp.fails a).getD []

/-- a record that `cleanupLocked` at `now` would keep -/
def liveRec (now : Nat) (r : Option Rec) : Option Rec := r.filter (fun r => decide (now ≤ r.untl))

/-- The throttle relation between model and monitor at `now`.  It goes through `liveRec` because
dead records may linger in the table; so it survives clock advances (`simThr_advance`). -/
def SimThr (st : St) (sp : Spec) (now : Nat) : Prop :=
  match st.rl with
  | none => sp.enabled = false
  | some l => sp.enabled = true ∧ l.max = sp.max ∧ l.blockDur = sp.blockDur ∧
      ∀ a, liveRec now (l.recs a) = specRec sp now (failsOf sp a)

theorem liveRec_some (now : Nat) (r : Rec) : liveRec now (some r) = if now ≤ r.untl then some r else none := by
  simp [liveRec, Option.filter_some]

theorem cleanup_eq (now : Nat) (recs : FMap Rec) (a : Nat) : cleanup now recs a = liveRec now (recs a) := by
  have : (fun r : Rec => !decide (now > r.untl)) = fun r => decide (now ≤ r.untl) := by
    funext r; simp only [gt_iff_lt, ← Nat.not_le, decide_not, Bool.not_not]
  simp only [cleanup, liveRec, this]

theorem liveRec_add_liveRec (now d : Nat) (r : Option Rec) :
    liveRec (now + d) (liveRec now r) = liveRec (now + d) r := by
  cases r with
  | none => rfl
  | some r =>
    rw [liveRec_some]
    by_cases h : now ≤ r.untl
    · rw [if_pos h]
    · rw [if_neg h, liveRec_some, if_neg fun h' => h (Nat.le_trans (Nat.le_add_right _ _) h')]
      rfl

theorem liveRec_idem (now : Nat) (r : Option Rec) : liveRec now (liveRec now r) = liveRec now r :=
  liveRec_add_liveRec now 0 r

theorem specRec_eq_liveRec (sp : Spec) (now : Nat) (fs : List Nat) :
    specRec sp now fs = liveRec now (if fs.isEmpty then none else some ⟨untilOf sp fs, fs.length⟩) := by
  cases fs with
  | nil => rfl
  | cons f rest => simp [specRec, stillCounts, liveRec_some]

theorem liveRec_add_specRec (sp : Spec) (now d : Nat) (fs : List Nat) :
    liveRec (now + d) (specRec sp now fs) = specRec sp (now + d) fs := by
  rw [specRec_eq_liveRec, specRec_eq_liveRec, liveRec_add_liveRec]

theorem simThr_advance {st : St} {sp : Spec} {now : Nat} (d : Nat) (h : SimThr st sp now) :
    SimThr st sp (now + d) := by
  unfold SimThr at *
  split at h
  · exact h
  · obtain ⟨h1, h2, h3, h4⟩ := h
    exact ⟨h1, h2, h3, fun a => by rw [← liveRec_add_liveRec, h4 a, liveRec_add_specRec]⟩

theorem liveRec_specRec (sp : Spec) (now : Nat) (fs : List Nat) :
    liveRec now (specRec sp now fs) = specRec sp now fs := by
  rw [specRec_eq_liveRec]
  exact liveRec_idem now _

/-- `SimThr` without `liveRec`: the table between the cleanup that `check` does and the end of
the request. -/
def ThrExact (rl : Option Limiter) (sp : Spec) (now : Nat) : Prop :=
  match rl with
  | none => sp.enabled = false
  | some l => sp.enabled = true ∧ l.max = sp.max ∧ l.blockDur = sp.blockDur ∧
      ∀ a, l.recs a = specRec sp now (failsOf sp a)

theorem simThr_of_thrExact {st : St} {sp : Spec} {now : Nat} (h : ThrExact st.rl sp now) : SimThr st sp now := by
  unfold SimThr
  unfold ThrExact at h
  split at h
  · exact h
  · exact ⟨h.1, h.2.1, h.2.2.1, fun a => by rw [h.2.2.2 a, liveRec_specRec]⟩

theorem thrExact_swept {st : St} {sp : Spec} {now : Nat} (h : SimThr st sp now) : ThrExact (swept st now) sp now := by
  unfold swept ThrExact
  unfold SimThr at h
  split at h
  · next e => rw [e]; exact h
  · next e => rw [e]; exact ⟨h.1, h.2.1, h.2.2.1, fun a => (cleanup_eq now _ a).trans (h.2.2.2 a)⟩

theorem checkLocked_pos (l : Limiter) (addr now : Nat) :
    0 < checkLocked l addr now ↔ ∃ r, l.recs addr = some r ∧ l.max ≤ r.num ∧ now < r.untl := by
  unfold checkLocked
  cases l.recs addr with
  | none => exact ⟨fun h => absurd h (Nat.lt_irrefl 0), fun ⟨_, e, _⟩ => nomatch e⟩
  | some r =>
    simp only [Option.some.injEq, exists_eq_left']
    by_cases h : r.num < l.max
    · rw [if_pos h]
      exact ⟨fun h' => absurd h' (Nat.lt_irrefl 0), fun h' => absurd h (Nat.not_lt.mpr h'.1)⟩
    · rw [if_neg h]
      exact ⟨fun h' => ⟨Nat.not_lt.mp h, Nat.lt_of_sub_pos h'⟩, fun h' => Nat.sub_pos_of_lt h'.2⟩

theorem stillCounts_iff (sp : Spec) (fs : List Nat) (now : Nat) :
    stillCounts sp fs now = true ↔ fs ≠ [] ∧ now ≤ untilOf sp fs := by
  rw [stillCounts, Bool.and_eq_true, Bool.not_eq_true', List.isEmpty_eq_false_iff, decide_eq_true_eq]

theorem specRec_of_counts {sp : Spec} {now : Nat} {fs : List Nat} (h : stillCounts sp fs now = true) :
    specRec sp now fs = some ⟨untilOf sp fs, fs.length⟩ := if_pos h

theorem specRec_of_not {sp : Spec} {now : Nat} {fs : List Nat} (h : ¬ stillCounts sp fs now = true) :
    specRec sp now fs = none := if_neg h

theorem counted_eq (sp : Spec) (a now : Nat) :
    counted sp a now = if stillCounts sp (failsOf sp a) now = true then failsOf sp a else [] := rfl

theorem untilOf_of_ge {sp : Spec} {fs : List Nat} (h : sp.max ≤ fs.length) :
    untilOf sp fs = fs.getLastD 0 + sp.blockDur := by
  rw [untilOf, if_neg (Nat.not_lt.mpr h)]

theorem untilOf_of_lt {sp : Spec} {fs : List Nat} (h : fs.length < sp.max) :
    untilOf sp fs = fs.headD 0 + failedAuthTTL := by
  rw [untilOf, if_pos h]

theorem mustReject_iff (sp : Spec) (addr now : Nat) :
    mustReject sp addr now = true ↔
      sp.enabled = true ∧ ∃ r, specRec sp now (failsOf sp addr) = some r ∧ sp.max ≤ r.num ∧ now < r.untl := by
  simp only [mustReject, counted_eq, specRec]
  by_cases hs : stillCounts sp (failsOf sp addr) now = true
  · have hne := List.isEmpty_eq_false_iff.mpr ((stillCounts_iff _ _ _).mp hs).1
    simp only [hs, if_true, hne, Bool.not_false, Bool.and_true, Bool.and_eq_true, decide_eq_true_eq,
      ge_iff_le, Option.some.injEq, exists_eq_left', and_assoc]
    refine and_congr_right fun _ => and_congr_right fun hge => ?_
    rw [untilOf_of_ge hge]
  · simp [hs]

theorem timeLeft_pos {st : St} {sp : Spec} {now : Nat} (h : SimThr st sp now) (addr : Nat) :
    0 < timeLeft st addr now ↔ mustReject sp addr now = true := by
  have hx := thrExact_swept h
  rw [mustReject_iff]
  unfold timeLeft
  generalize swept st now = rl at hx
  cases rl with
  | none => exact ⟨fun h' => absurd h' (Nat.lt_irrefl 0), fun h' => by rw [hx] at h'; cases h'.1⟩
  | some l =>
    obtain ⟨hen, hmax, _, hrecs⟩ := hx
    rw [checkLocked_pos, hrecs addr, hmax]
    exact ⟨fun h' => ⟨hen, h'⟩, fun h' => h'.2⟩

theorem specRec_update (sp : Spec) (f : FMap (List Nat)) (t : FMap TokInfo) (n now : Nat) (fs : List Nat) :
    specRec { sp with fails := f, toks := t, issued := n } now fs = specRec sp now fs := rfl

theorem specRec_congr (sp sp' : Spec) (hm : sp'.max = sp.max) (hb : sp'.blockDur = sp.blockDur)
    (now : Nat) (fs : List Nat) : specRec sp' now fs = specRec sp now fs := by
  simp [specRec, stillCounts, untilOf, hm, hb]

theorem failsOf_set (sp : Spec) (addr a : Nat) (fs : List Nat) (t : FMap TokInfo) (n : Nat) :
    failsOf { sp with fails := sp.fails.set addr fs, toks := t, issued := n } a =
      if a = addr then fs else failsOf sp a := by
  dsimp only [failsOf, FMap.set]
  split <;> rfl

theorem specRec_counted (sp : Spec) (a now : Nat) :
    specRec sp now (counted sp a now) = specRec sp now (failsOf sp a) := by
  rw [counted_eq]
  split
  · rfl
  · next h => rw [specRec_of_not h]; rfl

theorem untilOf_snoc (sp : Spec) (now : Nat) (fs : List Nat) :
    untilOf sp (fs ++ [now]) =
      if fs.length + 1 ≥ sp.max then now + sp.blockDur
      else if fs = [] then now + failedAuthTTL else untilOf sp fs := by
  have hlen : (fs ++ [now]).length = fs.length + 1 := by simp
  by_cases hge : fs.length + 1 ≥ sp.max
  · rw [if_pos hge, untilOf_of_ge (by rw [hlen]; exact hge)]
    simp [List.getLastD_eq_getLast?]
  · rw [if_neg hge, untilOf_of_lt (by rw [hlen]; exact Nat.not_le.mp hge)]
    cases fs with
    | nil => rfl
    | cons f rest => rw [if_neg (List.cons_ne_nil _ _), untilOf_of_lt (Nat.lt_of_succ_lt (Nat.not_le.mp hge))]; rfl

theorem specRec_snoc (sp : Spec) (now : Nat) (fs : List Nat) (h : fs = [] ∨ stillCounts sp fs now = true) :
    specRec sp now (fs ++ [now]) = some ⟨untilOf sp (fs ++ [now]), fs.length + 1⟩ := by
  have hs : stillCounts sp (fs ++ [now]) now = true := by
    refine (stillCounts_iff _ _ _).mpr ⟨List.append_ne_nil_of_right_ne_nil _ (List.cons_ne_nil _ _), ?_⟩
    rw [untilOf_snoc]
    split
    · exact Nat.le_add_right _ _
    · split
      · exact Nat.le_add_right _ _
      · next hne => exact ((stillCounts_iff _ _ _).mp (h.resolve_left hne)).2
  rw [specRec_of_counts hs, List.length_append]
  rfl

theorem counted_cases (sp : Spec) (a now : Nat) :
    counted sp a now = [] ∨ stillCounts sp (counted sp a now) now = true := by
  rw [counted_eq]
  split
  · next h => exact Or.inr h
  · exact Or.inl rfl

theorem thrExact_inc {rl : Option Limiter} {sp : Spec} {now : Nat} (h : ThrExact rl sp now) (addr : Nat) :
    ThrExact (rl.map (·.inc addr now))
      { sp with fails := sp.fails.set addr (counted sp addr now ++ [now]) } now := by
  unfold ThrExact at h ⊢
  cases rl with
  | none => exact h
  | some l =>
    obtain ⟨hen, hmax, hbd, hrecs⟩ := h
    refine ⟨hen, hmax, hbd, fun a => ?_⟩
    rw [specRec_update, failsOf_set sp addr a _ sp.toks sp.issued]
    dsimp only [Limiter.inc, FMap.set]
    split
    · next e =>
      subst e
      have hr := hrecs a
      rw [← specRec_counted] at hr
      rw [specRec_snoc sp now _ (counted_cases sp a now), untilOf_snoc, hr, hmax, hbd]
      rcases counted_cases sp a now with hc | hc
      · rw [hc]; rfl
      · have hne := ((stillCounts_iff _ _ _).mp hc).1
        rw [specRec_of_counts hc, if_neg hne]
    · exact hrecs a

-- `toks`, `n`: what a successful login writes besides `fails`; `sp.toks sp.issued` when it writes nothing else
theorem thrExact_remove {rl : Option Limiter} {sp : Spec} {now : Nat} (h : ThrExact rl sp now) (addr : Nat)
    (toks : FMap TokInfo) (n : Nat) :
    ThrExact (rl.map (·.remove addr)) { sp with fails := sp.fails.set addr [], toks := toks, issued := n } now := by
  unfold ThrExact at h ⊢
  cases rl with
  | none => exact h
  | some l =>
    obtain ⟨hen, hmax, hbd, hrecs⟩ := h
    refine ⟨hen, hmax, hbd, fun a => ?_⟩
    rw [specRec_update, failsOf_set]
    dsimp only [Limiter.remove, FMap.erase]
    split
    · rfl
    · exact hrecs a

/-! ### every operation keeps the throttle relation (no time horizon needed) -/

theorem specStep_request (sp : Spec) (now tok : Nat) (obs : Obs) :
    ∃ t, (specStep sp now (.request tok) obs).2 = { sp with toks := t } := by
  cases obs with
  | login r => exact ⟨_, rfl⟩
  | auth b =>
    dsimp only [specStep]
    split
    · exact ⟨_, rfl⟩
    · split <;> exact ⟨_, rfl⟩
  | done => exact ⟨_, rfl⟩

theorem specStep_logout (sp : Spec) (now tok : Nat) (obs : Obs) :
    ∃ t, (specStep sp now (.logout tok) obs).2 = { sp with toks := t } := by
  cases obs with
  | login r => exact ⟨_, rfl⟩
  | auth b => exact ⟨_, rfl⟩
  | done => dsimp only [specStep]; split <;> exact ⟨_, rfl⟩

theorem specStep_frame (sp : Spec) (now : Nat) (o : Op) (obs : Obs) :
    ∃ f t n, (specStep sp now o obs).2 = { sp with fails := f, toks := t, issued := n } := by
  cases o with
  | login req good user =>
    cases obs with
    | login r => cases r <;> exact ⟨_, _, _, rfl⟩
    | auth b => exact ⟨_, _, _, rfl⟩
    | done => exact ⟨_, _, _, rfl⟩
  | basic req good =>
    cases obs with
    | login r => cases r <;> exact ⟨_, _, _, rfl⟩
    | auth b => exact ⟨_, _, _, rfl⟩
    | done => exact ⟨_, _, _, rfl⟩
  | request tok =>
    obtain ⟨t, e⟩ := specStep_request sp now tok obs
    exact ⟨_, t, _, e⟩
  | logout tok =>
    obtain ⟨t, e⟩ := specStep_logout sp now tok obs
    exact ⟨_, t, _, e⟩
  | restart => cases obs <;> exact ⟨_, _, _, rfl⟩

theorem specStep_conf (sp : Spec) (now : Nat) (o : Op) (obs : Obs) :
    (specStep sp now o obs).2.enabled = sp.enabled ∧ (specStep sp now o obs).2.max = sp.max ∧
    (specStep sp now o obs).2.blockDur = sp.blockDur ∧ (specStep sp now o obs).2.ttl = sp.ttl := by
  obtain ⟨f, t, n, e⟩ := specStep_frame sp now o obs
  rw [e]
  exact ⟨rfl, rfl, rfl, rfl⟩

theorem simThr_step {st : St} {sp : Spec} {now : Nat} (h : SimThr st sp now) (op : Op) :
    SimThr (step st now op).2 (specStep sp now op (step st now op).1).2 now := by
  have hx := thrExact_swept h
  have hd := step_does st now op
  generalize step st now op = r at hd ⊢
  cases hd with
  | blocked ho hb => rcases ho with ⟨u, rfl⟩ | rfl <;> exact simThr_of_thrExact hx
  | failed ho hb => rcases ho with ⟨u, rfl⟩ | rfl <;> exact simThr_of_thrExact (thrExact_inc hx _)
  | loggedIn req user hb => exact simThr_of_thrExact (thrExact_remove hx req.peer _ _)
  | passed req hb => exact simThr_of_thrExact (thrExact_remove hx req.peer sp.toks sp.issued)
  | request tok =>
    -- neither side's throttle part is touched
    obtain ⟨t, e⟩ := specStep_request sp now tok (.auth ((checkSession st now tok).1 == .ok))
    rw [e]
    unfold SimThr at h ⊢
    rw [(checkSession_frame st now tok).1]
    exact h
  | logout tok =>
    obtain ⟨t, e⟩ := specStep_logout sp now tok .done
    rw [e]
    exact h
  | restart =>
    -- a new limiter, and the monitor forgets all failures
    unfold SimThr at h ⊢
    dsimp only [specStep, restart]
    split at h
    · next e => rw [e]; exact h
    · next e =>
      rw [e]
      exact ⟨h.1, h.2.1, h.2.2.1, fun a => rfl⟩
end AGH.C12
