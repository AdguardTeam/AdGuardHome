/-
C04 lemmas: `subnetCompare` is a strict total order (longer prefix
first, then IPv4 before IPv6, then the smaller address).  Core Lean only.
-/
import AGH.Model.Clients
namespace AGH.C04
open AGH AGH.Bytes
open AGH.C03 (Prefix)

def plt (x y : Prefix) : Prop :=
  x.bits > y.bits ∨
    (x.bits = y.bits ∧ ((x.is6 = false ∧ y.is6 = true) ∨ (x.is6 = y.is6 ∧ x.addr < y.addr)))

instance (x y : Prefix) : Decidable (plt x y) := by unfold plt; infer_instance

theorem prefix_ext {x y : Prefix} (h1 : x.is6 = y.is6) (h2 : x.addr = y.addr) (h3 : x.bits = y.bits) :
    x = y := by
  cases x; cases y; simp_all

theorem plt_irrefl (x : Prefix) : ¬ plt x x := by
  rintro (h | ⟨_, h | ⟨_, h⟩⟩)
  · exact Nat.lt_irrefl _ h
  · cases h.1 ▸ h.2
  · exact Nat.lt_irrefl _ h

theorem plt_trans {x y z : Prefix} (h1 : plt x y) (h2 : plt y z) : plt x z := by
  unfold plt at *
  rcases h1 with h1 | ⟨e1, h1⟩
  · exact Or.inl (h2.elim (Nat.lt_trans · h1) (·.1 ▸ h1))
  · rw [e1]
    refine h2.imp id (And.imp_right fun h2 => ?_)
    rcases h1 with ⟨a1, b1⟩ | ⟨a1, b1⟩
    · exact Or.inl ⟨a1, h2.elim (fun h => Bool.noConfusion (b1.symm.trans h.1)) (·.1 ▸ b1)⟩
    · rw [a1]
      exact h2.imp id (And.imp_right (Nat.lt_trans b1))

theorem plt_trichotomy (x y : Prefix) : x = y ∨ plt x y ∨ plt y x := by
  rcases Nat.lt_trichotomy x.bits y.bits with hb | hb | hb
  · exact Or.inr (Or.inr (Or.inl hb))
  · by_cases h6 : x.is6 = y.is6
    · rcases Nat.lt_trichotomy x.addr y.addr with ha | ha | ha
      · exact Or.inr (Or.inl (Or.inr ⟨hb, Or.inr ⟨h6, ha⟩⟩))
      · exact Or.inl (prefix_ext h6 ha hb)
      · exact Or.inr (Or.inr (Or.inr ⟨hb.symm, Or.inr ⟨h6.symm, ha⟩⟩))
    · rcases (by decide : ∀ a b : Bool, a ≠ b → (a = false ∧ b = true) ∨ (b = false ∧ a = true)) _ _ h6
        with h | h
      · exact Or.inr (Or.inl (Or.inr ⟨hb, Or.inl h⟩))
      · exact Or.inr (Or.inr (Or.inr ⟨hb.symm, Or.inl h⟩))
  · exact Or.inr (Or.inl (Or.inl hb))

theorem plt_asymm {x y : Prefix} (h : plt x y) : ¬ plt y x :=
  fun h' => plt_irrefl x (plt_trans h h')

theorem addrCompare_lt {x y : Prefix} :
    addrCompare x y = .lt ↔ ((x.is6 = false ∧ y.is6 = true) ∨ (x.is6 = y.is6 ∧ x.addr < y.addr)) := by
  unfold addrCompare
  cases hx : x.is6 <;> cases hy : y.is6 <;> simp [Nat.compare_eq_lt]

theorem addrCompare_eq {x y : Prefix} :
    addrCompare x y = .eq ↔ (x.is6 = y.is6 ∧ x.addr = y.addr) := by
  unfold addrCompare
  cases hx : x.is6 <;> cases hy : y.is6 <;> simp

/-- The cases are the four exits of `subnetCompare`: equal, same length, longer, shorter. -/
theorem subnetCompare_lt {x y : Prefix} : subnetCompare x y = .lt ↔ plt x y := by
  fun_cases subnetCompare x y with
  | case1 he => exact ⟨nofun, fun h => absurd (he ▸ h) (plt_irrefl y)⟩
  | case2 _ hb =>
    rw [addrCompare_lt]
    exact ⟨fun h => Or.inr ⟨hb, h⟩, fun h => h.elim (fun h => absurd (hb ▸ h) (Nat.lt_irrefl _)) (·.2)⟩
  | case3 _ _ hg => exact ⟨fun _ => Or.inl hg, fun _ => rfl⟩
  | case4 _ hb hg => exact ⟨nofun, fun h => h.elim (absurd · hg) (absurd ·.1 hb)⟩

theorem subnetCompare_eq {x y : Prefix} : subnetCompare x y = .eq ↔ x = y := by
  fun_cases subnetCompare x y with
  | case1 he => exact ⟨fun _ => he, fun _ => rfl⟩
  | case2 he hb =>
    rw [addrCompare_eq]
    exact ⟨fun h => prefix_ext h.1 h.2 hb, fun h => absurd h he⟩
  | case3 he => exact ⟨nofun, fun h => absurd h he⟩
  | case4 he => exact ⟨nofun, fun h => absurd h he⟩

def Sorted (keys : List Prefix) : Prop := keys.Pairwise plt

theorem Sorted.nodup {keys : List Prefix} (h : Sorted keys) : keys.Nodup := by
  unfold Sorted at h
  exact h.imp (fun {a b} hab (he : a = b) => plt_irrefl a (by rw [← he] at hab; exact hab))

end AGH.C04
