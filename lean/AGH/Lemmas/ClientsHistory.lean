/-
C04 lemmas: the abstraction commutes with every operation, an `Add` that
shares nothing is accepted, and the monitor (`specStep`) never fires on the
model along any history.  Core Lean only.
-/
import AGH.Lemmas.ClientsRefine
import AGH.Lemmas.ClientsStorage
import AGH.Lemmas.InsertSort
namespace AGH.C04
open AGH AGH.Bytes
open AGH.C03 (IP)

theorem DisjointP.name_ne {a b : Client} (h : DisjointP a b) : a.name ≠ b.name :=
  fun he => h.2 (.name a.name) (mem_idents_name.mpr rfl) (mem_idents_name.mpr he)

/- The spec's `applyAccepted` works by NAME (`map … if d.name = n`, `filter (·.name != n)`), the model's
index by UID (`filter (·.uid != …) ++ [p]`); on a registry without sharing (`DisjointP`) the two
agree, the replacement up to order.  These are the two bridges. -/

theorem map_replace_perm {reg : Registry} (h : reg.Pairwise DisjointP) {stored : Client}
    (hs : stored ∈ reg) (f : UID → Client) :
    (reg.map fun d => if d.name = stored.name then f d.uid else d).Perm
      (reg.filter (·.uid != stored.uid) ++ [f stored.uid]) := by
  induction h with
  | nil => cases hs
  | @cons d rest hd _ ih =>
    rw [List.map_cons, List.filter_cons]
    rcases List.mem_cons.mp hs with rfl | hs'
    · -- the head is replaced; nothing in the rest has its name or its UID
      have h1 : rest.map (fun e => if e.name = stored.name then f e.uid else e) = rest :=
        (List.map_congr_left fun e he => if_neg (hd e he).name_ne.symm).trans (List.map_id' rest)
      have h2 : rest.filter (·.uid != stored.uid) = rest :=
        List.filter_eq_self.mpr fun e he => bne_iff_ne.mpr (hd e he).1.symm
      rw [if_pos rfl, h1, bne_self_eq_false, if_neg Bool.false_ne_true, h2]
      exact List.perm_append_comm (l₁ := [_])
    · have hds := hd stored hs'
      rw [if_neg hds.name_ne, bne_iff_ne.mpr hds.1, if_pos rfl, List.cons_append]
      exact (ih hs').cons d

theorem filter_name_eq_filter_uid {reg : Registry} (h : reg.Pairwise DisjointP) {stored : Client}
    (hs : stored ∈ reg) :
    reg.filter (·.name != stored.name) = reg.filter (·.uid != stored.uid) := by
  refine List.filter_congr fun d hd => ?_
  by_cases hds : d = stored
  · rw [hds, bne_self_eq_false, bne_self_eq_false]
  · have : DisjointP d stored := (rel_or_of_pairwise h hd hs hds).elim id DisjointP.symm
    rw [bne_iff_ne.mpr this.name_ne, bne_iff_ne.mpr this.1]

theorem Accepted.refines {s s' : Storage} {op : Op} (ha : Accepted s op s') {w : World}
    (hr : Refines s w) : Refines s' (applyAccepted w op) := by
  have h := hr.inv
  cases ha with
  | add hv hc hcl =>
    have hadd := h.add (Index.client_eq_none.mp hc) (h.noClash hcl)
    exact ⟨hadd.1, hadd.2 ▸ hr.perm.append_right _, hr.dhcp⟩
  | @update n p stored idx hv hf hcl hrm =>
    obtain ⟨hst, rfl⟩ := (h.findByName_found_iff _ _).mp hf
    obtain ⟨ci1, hr1, hi1, hcl1, _⟩ := h.remove hst
    cases hrm.symm.trans hr1
    have hfresh : ∀ d ∈ idx.clients, d.uid ≠ stored.uid := by
      intro d hd
      rw [hcl1] at hd
      exact bne_iff_ne.mp (List.mem_filter.mp hd).2
    -- what clashed with nobody but `stored` clashes with nobody once `stored` is out
    have hadd := hi1.add (c := { p with uid := stored.uid }) hfresh ((h.noClash hcl).remove h hst hr1)
    refine ⟨hadd.1, ?_, hr.dhcp⟩
    rw [hadd.2, hcl1]
    exact ((hr.perm.filter _).append_right _).trans
      (map_replace_perm hr.pairwise_disjoint (hr.mem.mp hst) fun u => { p with uid := u }).symm
  | @remove n stored idx hf hrm =>
    obtain ⟨hst, rfl⟩ := (h.findByName_found_iff _ _).mp hf
    obtain ⟨ci1, hr1, hi1, hcl1, _⟩ := h.remove hst
    cases hrm.symm.trans hr1
    refine ⟨hi1, hcl1 ▸ ?_, hr.dhcp⟩
    show List.Perm _ (w.reg.filter (·.name != stored.name))
    rw [filter_name_eq_filter_uid hr.pairwise_disjoint (hr.mem.mp hst)]
    exact hr.perm.filter _
  | dhcpSet ip mac =>
    exact ⟨h, hr.perm, congrArg (fun t : List (IP × MAC) => (ip, mac) :: t.filter (·.1 != ip)) hr.dhcp⟩
  | dhcpDel ip => exact ⟨h, hr.perm, congrArg (List.filter fun x : IP × MAC => x.1 != ip) hr.dhcp⟩

theorem Storage.add_accepted (s : Storage) (h : Inv s.index) (c : Client) (hv : c.validate = none)
    (hfresh : ∀ d ∈ s.index.clients, d.uid ≠ c.uid) (hmac : ∀ m ∈ c.macs, macOK m = true)
    (hfree : ∀ d ∈ s.index.clients, ∀ k, k ∈ c.idents → k ∉ d.idents) :
    (s.add c).2 = .ok := by
  -- an identifier of `c` that is indexed is listed by a stored client, which shares nothing with `c`
  have hnc : NoClash s.index c := noClash_iff.mpr fun k hk u hu => by
    obtain ⟨d, hd, _, hkd⟩ := (h.uidOf k u).mp hu
    exact absurd hkd (hfree d hd k hk)
  have hcl := (h.clashes_ok_iff c).mpr ⟨hnc, hmac⟩
  unfold Storage.add
  simp [hv, Index.client_eq_none.mpr hfresh, hcl]

theorem step_refines {s : Storage} {w : World} (hr : Refines s w) (op : Op) :
    Refines (step s op).1 (if (step s op).2 = .ok then applyAccepted w op else w) := by
  by_cases hok : (step s op).2 = .ok
  · rw [if_pos hok]
    exact (step_ok hok).refines hr
  · rw [if_neg hok, step_rejected s op hok]
    exact hr

theorem isIns_insertByName : Ins.IsIns (fun c d : Client => (compare c.name d.name == .lt) = true) insertByName :=
  ⟨fun _ => rfl, fun _ _ _ => rfl⟩

theorem rangeByName_perm (ci : Index) : ci.rangeByName.Perm ci.clients :=
  isIns_insertByName.perm_foldr _

theorem sameMembers_of_perm {a b : List (Nat × Nat)} (h : a.Perm b) : sameMembers a b = true := by
  unfold sameMembers
  simp only [Bool.and_eq_true, beq_iff_eq, List.all_eq_true, List.contains_iff_mem]
  exact ⟨⟨h.length_eq, fun x hx => h.mem_iff.mp hx⟩, fun x hx => h.mem_iff.mpr hx⟩

theorem specStep_model (probes : List Probe) (op : Op) (accepted : Bool) {s' : Storage} {w : World}
    (hr : Refines s' (if accepted then applyAccepted w op else w)) :
    specStep w op accepted (probes.map fun p => (p, modelSeen s' p))
        (s'.index.rangeByName.map fun c => (c.uid, c.ver)) =
      (if accepted then applyAccepted w op else w, none) := by
  have hall := sameMembers_of_perm (((rangeByName_perm _).trans hr.perm).map fun c => (c.uid, c.ver))
  unfold specStep
  dsimp only
  rw [hr.noSharing, List.findSome?_eq_none_iff.mpr fun ps hps => by
    obtain ⟨p, _, rfl⟩ := List.mem_map.mp hps
    exact probeFail_model hr p]
  dsimp only
  rw [regPairs, hall]
  rfl

/-- Run the model and the spec monitor side by side on a history, looking at
`probes` after every operation; true when the monitor never fires. -/
def monitorRun (probes : List Probe) : Storage → World → List Op → Bool
  | _, _, [] => true
  | s, w, op :: rest =>
    let r := step s op
    let obs := probes.map fun p => (p, modelSeen r.1 p)
    let all := r.1.index.rangeByName.map fun c => (c.uid, c.ver)
    let m := specStep w op (r.2 == .ok) obs all
    m.2.isNone && monitorRun probes r.1 m.1 rest

theorem monitorRun_of_refines (probes : List Probe) {s : Storage} {w : World} (hr : Refines s w)
    (ops : List Op) : monitorRun probes s w ops = true := by
  induction ops generalizing s w with
  | nil => rfl
  | cons op rest ih =>
    have hstep : Refines (step s op).1 (if ((step s op).2 == .ok) = true then applyAccepted w op else w) := by
      simpa only [beq_iff_eq] using step_refines hr op
    simp only [monitorRun, specStep_model probes op _ hstep]
    exact ih hstep

/-- `run` with the abstract registry carried along (`track_fst`); it exists to state
`C04_refines_registry`. -/
def track : Storage → World → List Op → Storage × World
  | s, w, [] => (s, w)
  | s, w, op :: rest => track (step s op).1 (if (step s op).2 = .ok then applyAccepted w op else w) rest

theorem track_refines {s : Storage} {w : World} (hr : Refines s w) (ops : List Op) :
    Refines (track s w ops).1 (track s w ops).2 := by
  induction ops generalizing s w with
  | nil => exact hr
  | cons op rest ih => exact ih (step_refines hr op)

theorem track_fst (s : Storage) (w : World) (ops : List Op) : (track s w ops).1 = run s ops := by
  induction ops generalizing s w with
  | nil => rfl
  | cons op rest ih => exact ih _ _

theorem step_inv {s : Storage} (h : Inv s.index) (op : Op) : Inv (step s op).1.index :=
  (step_refines (Refines.self h) op).inv

theorem run_inv {s : Storage} (h : Inv s.index) (ops : List Op) : Inv (run s ops).index :=
  track_fst s _ ops ▸ (track_refines (Refines.self h) ops).inv

end AGH.C04
