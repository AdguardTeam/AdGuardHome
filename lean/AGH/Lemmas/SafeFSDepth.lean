/-
C17 helper lemmas: a name matched by a pattern has exactly as many
separators as the pattern has literal ones (no class admitting `/`).
-/
import AGH.Lemmas.SafeFSParse
namespace AGH.C17
open AGH AGH.Bytes

theorem count_take_drop {a : Nat} (k : Nat) (p : Bytes) :
    p.count a = (p.take k).count a + (p.drop k).count a := by
  conv => lhs; rw [← List.take_append_drop k p]
  rw [List.count_append]

theorem count_zero_of_contains_false {a : Nat} {p : Bytes} (h : p.contains a = false) : p.count a = 0 := by
  rw [List.count_eq_zero]
  intro hm
  have : p.contains a = true := by simpa using hm
  rw [h] at this; cases this

theorem isCont_ne_slash {b : Nat} (h : isCont b = true) : b ≠ slash := by
  simp [isCont, slash] at h ⊢; omega

theorem decodeRune_take_count (c : Nat) (tl : Bytes) (hc : c ≠ slash) :
    ((c :: tl).take (decodeRune (c :: tl)).2).count slash = 0 := by
  have one : ((c :: tl).take 1).count slash = 0 := List.count_eq_zero.mpr (by simpa using hc.symm)
  rcases decodeRune_shape c tl with ⟨_, h⟩ | ⟨_, h⟩ | ⟨_, cs, r0, rfl, _, hcont, h, _⟩
  · rw [h]; exact one
  · rw [h]; exact one
  · -- a lead byte followed by continuation bytes
    rw [h, List.take_succ_cons, List.take_left' rfl, List.count_eq_zero]
    intro hm
    rcases List.mem_cons.mp hm with h0 | h0
    · exact hc h0.symm
    · exact isCont_ne_slash (hcont _ h0) rfl

theorem decodeRune_slash (tl : Bytes) : (decodeRune (slash :: tl)).1 = slash :=
  congrArg Prod.fst (decodeRune_ascii tl (by decide))

/-- The cases are those of `matchesT`'s text: no term, `*`, and then `?`, a literal and a class, each on the
empty name and on a non-empty one. -/
theorem matchesT_depth (ts : List Term) (p : Bytes) : noSlashClass ts = true → matchesT ts p = true →
    p.count slash = litSlashes ts := by
  fun_induction matchesT ts p with
  | case1 n => intro _ h; rw [List.isEmpty_iff.mp h]; rfl
  | case2 ts n ih =>
    intro hns h
    obtain ⟨k, _, hk, hm⟩ := (matchesT_star ts n).mp h
    rw [count_take_drop k n, count_zero_of_contains_false hk, ih k hns hm]
    simp [litSlashes]
  | case3 => intro _ h; cases h
  | case4 ts c tl ih =>
    intro hns h
    simp only [Bool.and_eq_true, bne_iff_ne, ne_eq] at h
    rw [count_take_drop (decodeRune (c :: tl)).2, decodeRune_take_count c tl h.1, ih hns h.2]
    simp [litSlashes]
  | case5 => intro _ h; cases h
  | case6 b ts c tl ih =>
    intro hns h
    simp only [Bool.and_eq_true, beq_iff_eq] at h
    obtain ⟨rfl, hm⟩ := h
    rw [List.count_cons, ih hns hm]
    simp only [litSlashes, beq_iff_eq]
    omega
  | case7 => intro _ h; cases h
  | case8 neg rs ts c tl ih =>
    intro hns h
    simp only [noSlashClass, Bool.and_eq_true, Bool.not_eq_true'] at hns
    obtain ⟨⟨hneg, hrs⟩, hns'⟩ := hns
    simp only [Bool.and_eq_true, bne_iff_ne, ne_eq] at h
    have hc : c ≠ slash := by
      intro hc; subst hc
      rw [decodeRune_slash, hrs, hneg] at h
      exact h.1 rfl
    rw [count_take_drop (decodeRune (c :: tl)).2, decodeRune_take_count c tl hc, ih hns' h.2]
    simp [litSlashes]

end AGH.C17
