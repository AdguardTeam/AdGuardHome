/-
C04 lemmas: what `SetIDs` makes of a list of strings.  Core Lean only.
-/
import AGH.Lemmas.ClientsSpec
import AGH.Lemmas.InsertSort
namespace AGH.C04
open AGH AGH.Bytes

/-- The identifier `setID` reads a string as: the parsers are asked in the order address, CIDR, MAC,
ClientID label; `none` when the string is rejected. -/
def IDString.ident (id : IDString) : Option Ident :=
  if id.raw = [] then none
  else match id.asIP with
    | some ip => some (.ip ip)
    | none => match id.asPrefix with
      | some p => some (.subnet p)
      | none => match id.asMAC with
        | some m => some (.mac m)
        | none => if C16.validLabel id.raw then some (.cid (Bytes.lower id.raw)) else none

theorem isIns_insertSorted {α : Type} (lt : α → α → Bool) :
    Ins.IsIns (fun x y => lt x y = true) (insertSorted lt) :=
  ⟨fun _ => rfl, fun _ _ _ => rfl⟩

theorem mem_sortBy {α : Type} (lt : α → α → Bool) (y : α) (l : List α) : y ∈ sortBy lt l ↔ y ∈ l :=
  ((isIns_insertSorted lt).perm_foldr l).mem_iff

/-- The client known by one more identifier (a name is not an identifier). -/
def Client.withIdent (c : Client) : Ident → Client
  | .cid k => { c with cids := c.cids ++ [k] }
  | .ip k => { c with ips := c.ips ++ [k] }
  | .subnet k => { c with subnets := c.subnets ++ [k] }
  | .mac k => { c with macs := c.macs ++ [k] }
  | .name _ => c

theorem Client.withIdent_name_uid (c : Client) (k : Ident) :
    (c.withIdent k).name = c.name ∧ (c.withIdent k).uid = c.uid := by
  cases k <;> exact ⟨rfl, rfl⟩

theorem Client.mem_idents_withIdent (c : Client) {k : Ident} (hk : ∀ n, k ≠ .name n) (x : Ident) :
    x ∈ (c.withIdent k).idents ↔ (x ∈ c.idents ∨ x = k) := by
  cases k with
  | name n => exact absurd rfl (hk n)
  | _ => cases x <;> simp [Client.withIdent]

theorem setID_ident (c : Client) (id : IDString) :
    (∃ k, id.ident = some k ∧ setID c id = .ok (c.withIdent k) ∧ ∀ n, k ≠ .name n) ∨
    (id.ident = none ∧ ∃ e, setID c id = .error e) := by
  unfold setID IDString.ident
  by_cases he : id.raw = []
  · rw [if_pos he, if_pos he]
    exact Or.inr ⟨rfl, _, rfl⟩
  · rw [if_neg he, if_neg he]
    cases id.asIP with
    | some ip => exact Or.inl ⟨_, rfl, rfl, fun _ h => Ident.noConfusion h⟩
    | none =>
      cases id.asPrefix with
      | some p => exact Or.inl ⟨_, rfl, rfl, fun _ h => Ident.noConfusion h⟩
      | none =>
        cases id.asMAC with
        | some m => exact Or.inl ⟨_, rfl, rfl, fun _ h => Ident.noConfusion h⟩
        | none =>
          by_cases hv : C16.validLabel id.raw = true
          · rw [if_pos hv, if_pos hv]
            exact Or.inl ⟨_, rfl, rfl, fun _ h => Ident.noConfusion h⟩
          · rw [if_neg hv, if_neg hv]
            exact Or.inr ⟨rfl, _, rfl⟩

theorem setIDsLoop_spec (c : Client) (ids : List IDString) :
    (∃ c', setIDsLoop c ids = .ok c' ∧ c'.name = c.name ∧ c'.uid = c.uid ∧
      (∀ id ∈ ids, id.ident.isSome = true) ∧
      ∀ x, x ∈ c'.idents ↔ (x ∈ c.idents ∨ ∃ id ∈ ids, id.ident = some x)) ∨
    ((∃ e, setIDsLoop c ids = .error e) ∧ ∃ id ∈ ids, id.ident = none) := by
  induction ids generalizing c with
  | nil => exact Or.inl ⟨c, rfl, rfl, rfl, List.forall_mem_nil _, fun x => by simp⟩
  | cons id rest ih =>
    unfold setIDsLoop
    rcases setID_ident c id with ⟨k, hk, hs, hname⟩ | ⟨hk, e, hs⟩ <;> rw [hs]
    · rcases ih (c.withIdent k) with ⟨c', h1, hn, hu, hall, hmem⟩ | ⟨he, i, hi, hin⟩
      · refine Or.inl ⟨c', h1, hn.trans (c.withIdent_name_uid k).1, hu.trans (c.withIdent_name_uid k).2,
          List.forall_mem_cons.mpr ⟨by rw [hk]; rfl, hall⟩, fun x => ?_⟩
        -- a string of `id :: rest` is `id`, which stands for `k`, or a string of `rest`
        rw [hmem x, c.mem_idents_withIdent hname x, or_assoc]
        simp only [List.mem_cons, or_and_right, exists_or, exists_eq_left, hk, Option.some.injEq,
          @eq_comm _ k x]
      · exact Or.inr ⟨he, i, List.mem_cons_of_mem _ hi, hin⟩
    · exact Or.inr ⟨⟨e, rfl⟩, id, List.mem_cons_self, hk⟩

theorem idents_sorted (c : Client) (x : Ident) :
    x ∈ ({ c with
      ips := sortBy ipLt c.ips
      subnets := sortBy (fun x y => subnetCompare x y == .lt) c.subnets
      macs := sortBy (fun x y => compare x y == .lt) c.macs
      cids := sortBy (fun x y => compare x y == .lt) c.cids } : Client).idents ↔ x ∈ c.idents := by
  cases x <;> simp only [mem_idents_name, mem_idents_cid, mem_idents_ip, mem_idents_subnet, mem_idents_mac,
    mem_sortBy]

end AGH.C04
