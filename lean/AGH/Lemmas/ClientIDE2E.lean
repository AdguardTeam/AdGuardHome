/-
Helper lemmas for the end-to-end part of C16: Go's `unescape` is percent-decoding,
what the stages in front of the ClientID extraction let through (`Passes`, `front_*` by
class of transport), the result of a request in closed form (`outcome`, `step_outcome`, with
`step_ans` and `step_tls_*` read off it), and what the scheme scan and the query cut of the
request-target split leave.
-/
import AGH.Spec.ClientIDE2E
import AGH.Lemmas.ClientID
namespace AGH.C16.E2E
open AGH AGH.Bytes AGH.C16

theorem unescCheck_cons_ne (c : Nat) (rest : Bytes) (h : c ≠ pct) :
    unescCheck (c :: rest) = unescCheck rest := by
  conv => lhs; unfold unescCheck
  simp [h]

theorem unescBuild_cons_ne (c : Nat) (rest : Bytes) (h : c ≠ pct) :
    unescBuild (c :: rest) = c :: unescBuild rest := by
  conv => lhs; unfold unescBuild
  simp [h]

theorem unescape_eq_pctDecode (s : Bytes) : unescape s = pctDecode s := by
  unfold unescape pctDecode
  induction s using unescCheck.induct with
  | case1 => -- end of input
    simp [unescCheck, unescBuild, pctDecodeAux]
  | case2 a b rest' ih => -- `%` and two more bytes
    simp only [unescCheck, unescBuild, pctDecodeAux, if_true]
    by_cases ha : isHex a = true
    · by_cases hb : isHex b = true
      · simp only [ha, hb, Bool.true_and, if_true]
        rw [← ih]
        by_cases hc : unescCheck rest' = true <;> simp [hc]
      · simp [ha, hb]
    · simp [ha]
  | case3 rest hno => -- `%` and fewer than two bytes (`hno`: `rest` is not `a :: b :: _`)
    simp only [unescCheck, unescBuild, pctDecodeAux, if_true]
    cases rest with
    | nil => simp [pctDecodeAux]
    | cons a t =>
      cases t with
      | nil => by_cases ha : isHex a = true <;> simp [pctDecodeAux, ha]
      | cons b t' => exact absurd rfl (hno a b t')
  | case4 c rest hc ih => -- any other byte
    rw [unescCheck_cons_ne c rest hc, unescBuild_cons_ne c rest hc]
    simp only [pctDecodeAux, hc, if_false]
    rw [← ih]
    by_cases h : unescCheck rest = true <;> simp [h]

theorem parseRequestURI_parts {e : UrlEnv} {t : Bytes} {u : URL} : parseRequestURI e t = some u →
    hasCTL t = false ∧ splitTarget e t = some (u.host, u.rawPath) ∧ unescape u.rawPath = some u.path := by
  fun_cases parseRequestURI e t with
  | case4 hctl host rp hs p hd => intro h; cases h; exact ⟨by simpa using hctl, hs, hd⟩
  -- every other exit is `none`
  | _ => intro h; cases h

theorem specPath_of_parseRequestURI {e : UrlEnv} {t : Bytes} {u : URL} (h : parseRequestURI e t = some u) :
    specPath e t = some (u.host, u.path) := by
  obtain ⟨h1, h2, h3⟩ := parseRequestURI_parts h
  rw [unescape_eq_pctDecode] at h3
  simp only [specPath, h1, h2, h3, Bool.false_eq_true, if_false, Option.map_some]

/-- A stage in front of the extraction fails only with an HTTP status or a stream reset, never
with a refused handshake or a SERVFAIL. -/
def Passes {α : Type} (Q : α → Prop) : Except Out α → Prop
  | .error o => (∃ n, o = .http n) ∨ o = .rst
  | .ok a => Q a

theorem passes_ite {α : Type} {Q : α → Prop} {c : Prop} [Decidable c] {n : Nat} {x : Except Out α}
    (h : ¬ c → Passes Q x) : Passes Q (if c then .error (.http n) else x) := by
  split
  · exact Or.inl ⟨n, rfl⟩
  · next hc => exact h hc

theorem passes_bad {α : Type} {Q : α → Prop} (b : Bool) (n : Nat) :
    Passes Q (.error (if b then .rst else .http n) : Except Out α) := by
  cases b
  · exact Or.inl ⟨n, rfl⟩
  · exact Or.inr rfl

theorem gateHTTP_passes (cf : Conf) (tr : Tr) (t : Bytes) (d ip : Bool) :
    Passes (fun u => parseRequestURI (envOf cf ip) t = some u ∧
      muxCleanPath (escapedPath u) = escapedPath u) (gateHTTP cf tr t d ip) := by
  unfold gateHTTP
  refine passes_ite fun _ => passes_ite fun _ => ?_
  cases parseRequestURI (envOf cf ip) t with
  | none => exact passes_bad _ _
  | some u =>
    exact passes_ite fun hcl => passes_ite fun _ => passes_ite fun _ => passes_ite fun _ =>
      ⟨rfl, Decidable.not_not.mp hcl⟩

theorem pathClean_rooted_head (t : Bytes) : ∃ u, pathClean (slash :: t) = slash :: u := by
  simp [pathClean]

theorem muxCleanPath_head (x : Bytes) : ∃ u, muxCleanPath x = slash :: u := by
  unfold muxCleanPath
  by_cases hx : x = []
  · simp [hx]
  · simp only [hx, if_false]
    have hp : ∃ t, (if x.head? ≠ some slash then slash :: x else x) = slash :: t := by
      by_cases h : x.head? = some slash
      · cases x with
        | nil => simp at h
        | cons a t => simp at h; subst h; exact ⟨t, by simp⟩
      · exact ⟨x, by simp [h]⟩
    obtain ⟨t, ht⟩ := hp
    rw [ht]
    obtain ⟨u, hu⟩ := pathClean_rooted_head t
    rw [hu]
    split
    · exact ⟨u ++ [slash], rfl⟩
    · exact ⟨u, rfl⟩

theorem unescape_head_slash (t p : Bytes) (h : unescape (slash :: t) = some p) : ∃ u, p = slash :: u := by
  unfold unescape at h
  have hs : slash ≠ pct := by decide
  rw [unescCheck_cons_ne slash t hs, unescBuild_cons_ne slash t hs] at h
  split at h
  · cases h; exact ⟨_, rfl⟩
  · cases h

theorem escapePath_head_slash (p u : Bytes) : escapePath p = slash :: u → ∃ v, p = slash :: v := by
  -- no byte; a byte that stands for itself; one that is escaped, so that `%` comes first
  fun_cases escapePath p with
  | case1 => intro h; cases h
  | case2 c t => intro h; exact ⟨t, by rw [(List.cons.inj h).1]⟩
  | case3 => intro h; exact absurd (List.cons.inj h).1 (by decide)

theorem gate_path_rooted {cf : Conf} {tr : Tr} {t : Bytes} {d ip : Bool} {u : URL}
    (h : gateHTTP cf tr t d ip = .ok u) : ∃ v, u.path = slash :: v := by
  have hp := gateHTTP_passes cf tr t d ip
  rw [h] at hp
  obtain ⟨_, _, hun⟩ := parseRequestURI_parts hp.1
  -- the escaped path is what `cleanPath` returns, hence rooted
  obtain ⟨w, hw⟩ := muxCleanPath_head (escapedPath u)
  rw [hp.2] at hw
  unfold escapedPath at hw
  split at hw
  · rw [hw] at hun; exact unescape_head_slash _ _ hun
  · exact escapePath_head_slash _ _ hw

theorem frontHTTP_passes (cf : Conf) (r : Req) :
    Passes (fun c => ∃ u, parseRequestURI (envOf cf r.ipLitOK) r.target = some u ∧
      c = mkCtxHTTP cf r u.host u.path ∧ ∃ v, u.path = slash :: v) (frontHTTP cf r) := by
  unfold frontHTTP
  split
  · exact passes_bad _ _
  · have hg := gateHTTP_passes cf r.tr r.target r.dnsOK r.ipLitOK
    cases hu : gateHTTP cf r.tr r.target r.dnsOK r.ipLitOK with
    | error o => rw [hu] at hg; exact hg
    | ok u =>
      rw [hu] at hg
      exact ⟨u, hg.1, rfl, gate_path_rooted hu⟩

theorem frontHTTP_ok {cf : Conf} {r : Req} {c : Ctx} (h : frontHTTP cf r = .ok c) :
    ∃ u, parseRequestURI (envOf cf r.ipLitOK) r.target = some u ∧
      c = mkCtxHTTP cf r u.host u.path ∧ ∃ v, u.path = slash :: v := by
  have := frontHTTP_passes cf r
  rw [h] at this
  exact this

theorem frontTLS_ok {cf : Conf} {r : Req} {p : Proto} {c : Ctx} (h : frontTLS cf r p = .ok c) :
    c = mkCtxConn cf p (some r.sni) := by
  unfold frontTLS at h
  split at h
  · cases h
  · cases h; rfl

theorem frontTLS_error {cf : Conf} {r : Req} {p : Proto} {o : Out} (h : frontTLS cf r p = .error o) :
    o = .hs ∧ cf.strict = true := by
  unfold frontTLS at h
  split at h
  · next hc =>
    cases h
    exact ⟨rfl, (Bool.and_eq_true _ _ ▸ hc).1⟩
  · cases h

theorem tr_cases (t : Tr) :
    (t = .udp ∨ t = .tcp ∨ t = .dcu) ∨ (t = .dot ∨ t = .doq) ∨ isHTTP t = true := by
  cases t <;> decide

-- In `front_plain` and `front_tls` the protocol `p` is found from the transport, before any
-- request is named: theorems that compare two requests on one transport use one `p` for both.
theorem front_plain (cf : Conf) (t : Tr) (h : t = .udp ∨ t = .tcp ∨ t = .dcu) :
    ∃ p, (p = .udp ∨ p = .tcp ∨ p = .dnscrypt) ∧
      ∀ r, r.tr = t → front cf r = .ok (mkCtxConn cf p none) := by
  rcases h with rfl | rfl | rfl
  · exact ⟨.udp, Or.inl rfl, fun r hr => by unfold front; rw [hr]⟩
  · exact ⟨.tcp, Or.inr (Or.inl rfl), fun r hr => by unfold front; rw [hr]⟩
  · exact ⟨.dnscrypt, Or.inr (Or.inr rfl), fun r hr => by unfold front; rw [hr]⟩

theorem front_tls (cf : Conf) (t : Tr) (h : t = .dot ∨ t = .doq) :
    ∃ p, (p = .tls ∨ p = .quic) ∧ ∀ r, r.tr = t → front cf r = frontTLS cf r p := by
  rcases h with rfl | rfl
  · exact ⟨.tls, Or.inl rfl, fun r hr => by unfold front; rw [hr]⟩
  · exact ⟨.quic, Or.inr rfl, fun r hr => by unfold front; rw [hr]⟩

theorem front_http (cf : Conf) (r : Req) (h : isHTTP r.tr = true) : front cf r = frontHTTP cf r := by
  fun_cases front cf r with
  | case6 | case7 | case8 => rfl
  -- the five transports in front of `h1`, `h2`, `hp` are not HTTP
  | _ htr => rw [htr] at h; cases h

theorem front_specCtx {cf : Conf} {r : Req} {c : Ctx} (h : front cf r = .ok c) :
    specCtx cf r = some c := by
  unfold front at h
  unfold specCtx
  cases htr : r.tr <;> simp only [htr] at h ⊢
  case udp | tcp | dcu => cases h; rfl
  case dot | doq => rw [frontTLS_ok h]; rfl
  case h1 | h2 | hp =>
    obtain ⟨u, hu, hc, _⟩ := frontHTTP_ok h
    rw [specPath_of_parseRequestURI hu, hc]; rfl

theorem front_error {cf : Conf} {r : Req} {o : Out} (h : front cf r = .error o) :
    (∃ n, o = .http n) ∨ o = .rst ∨ (o = .hs ∧ cf.strict = true ∧ (r.tr = .dot ∨ r.tr = .doq)) := by
  rcases tr_cases r.tr with hc | hc | hc
  · obtain ⟨p, _, hf⟩ := front_plain cf r.tr hc
    rw [hf r rfl] at h; cases h
  · obtain ⟨p, _, hf⟩ := front_tls cf r.tr hc
    rw [hf r rfl] at h
    obtain ⟨rfl, hs⟩ := frontTLS_error h
    exact Or.inr (Or.inr ⟨rfl, hs, hc⟩)
  · rw [front_http cf r hc] at h
    have hp := frontHTTP_passes cf r
    rw [h] at hp
    exact Or.imp_right Or.inl hp

theorem ctx_conn_tls (cf : Conf) (p : Proto) (sni : Bytes) (hp : p = .tls ∨ p = .quic) :
    clientIDFromCtx (mkCtxConn cf p (some sni)) =
      if cf.srvName = [] then .ok [] else clientIDFromServerName cf.srvName sni cf.strict := by
  rcases hp with rfl | rfl <;> rfl

theorem clientServerName_http (cf : Conf) (r : Req) (h p : Bytes) :
    clientServerName (mkCtxHTTP cf r h p) =
      if r.tr = .hp then
        (if effHost r h = [] then .ok []
         else match r.hostSplit with
           | some x => .ok x
           | none => .error .badHost)
      else .ok r.sni := by
  unfold clientServerName mkCtxHTTP
  by_cases htr : r.tr = .hp
  · simp only [htr, beq_self_eq_true, if_true]
    rfl
  · simp only [beq_eq_false_iff_ne.mpr htr, Bool.false_eq_true, if_false, htr]

def verdict : Except Err Bytes → Out
  | .ok id => .ans id
  | .error _ => .servfail

/-- `(step cf st r).2` in closed form (`step_outcome`). -/
def outcome : Except Out Ctx → Out
  | .error o => o
  | .ok c => verdict (clientIDFromCtx c)

theorem specE2E_obsOf (cf : Conf) (r : Req) (o : Out) :
    specE2E cf r (obsOf o) =
      match o with
      | .ans id => (match specCtx cf r with | some c => specOK c (.ok id) | none => false)
      | .servfail => (match specCtx cf r with | some c => specOK c (.error .badLabel) | none => false)
      | .hs => cf.strict && (r.tr == .dot || r.tr == .doq)
      | _ => true := by
  cases o <;>
    simp [specE2E, obsOf, attributedJustified, Obs.seen, answeredAttributed, failedNotProcessed,
      servfailHasReason, hsOnlyStrict] <;> rfl

theorem step_outcome (cf : Conf) (st : St) (r : Req) : (step cf st r).2 = outcome (front cf r) := by
  unfold step
  cases front cf r with
  | error o => rfl
  | ok c =>
    obtain ⟨hres, hatt⟩ := handleBefore_view st.cache (st.counter + 1) c
    dsimp only
    generalize handleBefore st.cache (st.counter + 1) c = hb at hres hatt ⊢
    obtain ⟨cache', res⟩ := hb
    subst hres
    cases hc : clientIDFromCtx c with
    | error e => simp only [outcome, hc]; rfl
    | ok id => simp only [outcome, hc, hatt id hc]; rfl

theorem step_ans {cf : Conf} {st : St} {r : Req} {id : Bytes} (h : (step cf st r).2 = .ans id) :
    ∃ c, front cf r = .ok c ∧ clientIDFromCtx c = .ok id := by
  rw [step_outcome] at h
  cases hf : front cf r with
  | error o =>
    rw [hf] at h
    rcases front_error hf with ⟨n, rfl⟩ | rfl | ⟨rfl, _⟩ <;> cases h
  | ok c =>
    rw [hf] at h
    refine ⟨c, rfl, ?_⟩
    simp only [outcome] at h
    cases hc : clientIDFromCtx c with
    | error e => rw [hc] at h; cases h
    | ok i => rw [hc] at h; cases h; rfl

theorem step_tls_error (cf : Conf) (st : St) (r : Req) (htr : r.tr = .dot ∨ r.tr = .doq)
    (hn : cf.srvName ≠ []) (e : Err)
    (he : clientIDFromServerName cf.srvName r.sni cf.strict = .error e) :
    (step cf st r).2 = .hs ∨ (step cf st r).2 = .servfail := by
  obtain ⟨p, hp, hf⟩ := front_tls cf r.tr htr
  rw [step_outcome, hf r rfl]
  cases hft : frontTLS cf r p with
  | error o => exact Or.inl (frontTLS_error hft).1
  | ok c =>
    rw [frontTLS_ok hft]
    exact Or.inr (by rw [outcome, ctx_conn_tls cf p r.sni hp, if_neg hn, he]; rfl)

theorem step_tls_refused (cf : Conf) (st : St) (r : Req) (htr : r.tr = .dot ∨ r.tr = .doq)
    (hs : cf.strict = true)
    (hno : anyNameMatches cf.prep.dnsNames r.sni r.sniValidHost = false) :
    (step cf st r).2 = .hs := by
  obtain ⟨p, _, hf⟩ := front_tls cf r.tr htr
  have hst : cf.prep.strict = true := hs
  rw [step_outcome, hf r rfl, frontTLS, hst, hno]
  rfl

/-- The bytes `getScheme` accepts in a scheme: letters, and after the first byte digits, `+`,
`-`, `.`. -/
def schemeChar (c : Nat) : Prop := isLetter c = true ∨ isSchemeTail c = true

/-- By the branches of `getSchemeAux`, in the order of its text: end of input; a letter; a digit or
`+-.`, first or later; a colon, first or later; any other byte. -/
theorem getSchemeAux_some (raw acc s sc rest : Bytes) (hraw : raw = acc ++ s)
    (hacc : ∀ c ∈ acc, schemeChar c) (h : getSchemeAux raw acc s = some (sc, rest)) :
    (sc = [] ∧ rest = raw) ∨ (sc ≠ [] ∧ raw = sc ++ colon :: rest ∧ ∀ c ∈ sc, schemeChar c) := by
  fun_induction getSchemeAux raw acc s with
  | case1 | case3 | case7 => cases h; exact Or.inl ⟨rfl, rfl⟩
  | case2 acc c t hl ih =>
    exact ih (by rw [hraw, List.append_assoc]; rfl)
      (List.forall_mem_append.mpr ⟨hacc, List.forall_mem_singleton.mpr (Or.inl hl)⟩) h
  | case4 acc c t _ ht _ ih =>
    exact ih (by rw [hraw, List.append_assoc]; rfl)
      (List.forall_mem_append.mpr ⟨hacc, List.forall_mem_singleton.mpr (Or.inr ht)⟩) h
  | case5 => cases h
  | case6 acc t ha => cases h; exact Or.inr ⟨ha, hraw, hacc⟩

theorem not_mem_takeWhile_ne (x : Nat) (s : Bytes) : x ∉ s.takeWhile (· != x) := by
  induction s with
  | nil => simp
  | cons a t ih =>
    by_cases ha : a = x
    · simp [List.takeWhile, ha]
    · have : (a != x) = true := by simp [ha]
      simp only [List.takeWhile, this, List.mem_cons, not_or]
      exact ⟨fun h => ha h.symm, ih⟩

theorem dropWhile_ne_head (x : Nat) (s : Bytes) :
    s.dropWhile (· != x) = [] ∨ (s.dropWhile (· != x)).head? = some x := by
  induction s with
  | nil => left; rfl
  | cons a t ih =>
    by_cases ha : a = x
    · right; simp [List.dropWhile, ha]
    · have : (a != x) = true := by simp [ha]
      simp only [List.dropWhile, this]
      exact ih

theorem cutQuery_split (s : Bytes) :
    ∃ q, s = cutQuery s ++ q ∧ qmark ∉ cutQuery s ∧ (q = [] ∨ q.head? = some qmark) :=
  ⟨s.dropWhile (· != qmark), (List.takeWhile_append_dropWhile).symm, not_mem_takeWhile_ne qmark s,
    dropWhile_ne_head qmark s⟩

end AGH.C16.E2E
