/-
C12: simultaneous logins under controlLock are a sequential history.
-/
import AGH.Model.Auth
namespace AGH.C12

theorem handleLogin_two_steps (st : St) (now : Nat) (r : Req) (good : Bool) (user : Nat) :
    handleLogin st now r good user =
      match login1 st now r with
      | (some res, st') => (res, st')
      | (none, st') => login2 st' now r good user := by
  obtain ⟨rl, mem, db, ttl, nt, ev⟩ := st
  cases rl with
  | none => rfl
  | some l =>
    unfold handleLogin loginAt login1
    dsimp only
    split <;> rfl

theorem seqLogins_snoc (now : Nat) (job : Nat → Job) (st : St) (order : List Nat) (i : Nat) :
    seqLogins now job st (order ++ [i]) =
      ((handleLogin (seqLogins now job st order).1 now (job i).req (job i).good (job i).user).2,
       fun k => if k = i then
           some (handleLogin (seqLogins now job st order).1 now (job i).req (job i).good (job i).user).1
         else (seqLogins now job st order).2 k) := by
  simp [seqLogins, List.foldl_append]

/-- Invariant of the two-step logins under the lock: `order` is the order in which the handlers
started, and while `h` holds the lock the state is `login1` of `h` after `seqLogins` over those
started before, so that `handleLogin_two_steps` closes both transitions. -/
structure LockInv (now : Nat) (job : Nat → Job) (st0 : St) (c : Conc) : Prop where
  started : ∀ i, c.pc i = 0 ↔ i ∉ c.order
  nodup : c.order.Nodup
  free : c.holder = none →
    (∀ i, c.pc i ≠ 1) ∧ c.st = (seqLogins now job st0 c.order).1 ∧
    ∀ i ∈ c.order, c.res i = (seqLogins now job st0 c.order).2 i
  held : ∀ h, c.holder = some h →
    c.pc h = 1 ∧ (∀ i, i ≠ h → c.pc i ≠ 1) ∧
    ∃ pre, c.order = pre ++ [h] ∧
      login1 (seqLogins now job st0 pre).1 now (job h).req = (none, c.st) ∧
      ∀ i ∈ pre, c.res i = (seqLogins now job st0 pre).2 i

theorem lockInv_init (now : Nat) (job : Nat → Job) (st0 : St) : LockInv now job st0 (Conc.init st0) :=
  ⟨fun i => by simp [Conc.init], List.nodup_nil,
   fun _ => ⟨fun i => by simp [Conc.init], rfl, fun i hi => by simp [Conc.init] at hi⟩,
   fun h hh => by simp [Conc.init] at hh⟩

/-- Handler `i` is answered `r` after those in `pre` and leaves the lock free: a refusal by the limiter
and the second step alike. -/
theorem lockInv_answer {now : Nat} {job : Nat → Job} {st0 st' : St} {c : Conc} {i : Nat} {pre : List Nat}
    {r : LoginRes} (hs : ∀ k, k ≠ i → (c.pc k = 0 ↔ k ∉ pre)) (hnd : (pre ++ [i]).Nodup)
    (hpc : ∀ k, k ≠ i → c.pc k ≠ 1)
    (hl : handleLogin (seqLogins now job st0 pre).1 now (job i).req (job i).good (job i).user = (r, st'))
    (hres : ∀ k ∈ pre, c.res k = (seqLogins now job st0 pre).2 k) :
    LockInv now job st0 ⟨st', none, fun k => if k = i then 2 else c.pc k,
      fun k => if k = i then some r else c.res k, pre ++ [i]⟩ := by
  refine ⟨fun k => ?_, hnd, fun _ => ⟨fun k => ?_, ?_, ?_⟩, fun x hx => nomatch hx⟩
  · by_cases e : k = i
    · subst e; simp
    · simp [e, hs k e]
  · -- once `i` has been answered, no request is between its steps if no other was
    show (if k = i then 2 else c.pc k) ≠ 1
    by_cases e : k = i
    · rw [if_pos e]; decide
    · rw [if_neg e]; exact hpc k e
  · rw [seqLogins_snoc, hl]
  · intro k hk
    rw [seqLogins_snoc, hl]
    by_cases e : k = i
    · simp only [e, if_true]
    · simp only [e, if_false]
      exact hres k (by simpa [e] using hk)

theorem lockInv_step {now : Nat} {job : Nat → Job} {st0 : St} {c : Conc} (h : LockInv now job st0 c) (i : Nat) :
    LockInv now job st0 (stepT true now job c i) := by
  have hnd : c.pc i = 0 → (c.order ++ [i]).Nodup := fun h0 => by
    rw [List.nodup_append]
    exact ⟨h.nodup, by simp, fun a ha b hb => by
      simp at hb; subst hb; rintro rfl; exact (h.started a).mp h0 ha⟩
  have hnone : ¬(true && c.holder.isSome) = true → c.holder = none := fun hne => by simpa using hne
  -- the exits of `stepT`: lock busy, answered by the limiter, lock taken, second step, finished
  fun_cases stepT true now job c i with
  | case1 => exact h
  | case2 h0 hne r st' hl =>
    obtain ⟨f1, f2, f3⟩ := h.free (hnone hne)
    have h2 := handleLogin_two_steps c.st now (job i).req (job i).good (job i).user
    rw [hl, f2] at h2
    rw [hnone hne]
    exact lockInv_answer (fun k _ => h.started k) (hnd h0) (fun k _ => f1 k) h2 f3
  | case3 h0 hne st' hl =>
    obtain ⟨f1, f2, f3⟩ := h.free (hnone hne)
    refine ⟨fun k => ?_, hnd h0, fun hf => by simp at hf, fun x hx => ?_⟩
    · by_cases hk : k = i
      · subst hk; simp
      · simp [hk, h.started k]
    have hx' : x = i := by simpa using hx.symm
    subst hx'
    refine ⟨by simp, fun k hk => by simp [hk, f1 k], c.order, rfl, ?_, f3⟩
    rw [← f2]; exact hl
  | case4 _ h1 r =>
    have hhold : c.holder = some i := by
      cases hh : c.holder with
      | none => exact absurd h1 ((h.free hh).1 i)
      | some x =>
        by_cases hx : i = x
        · rw [hx]
        · exact absurd h1 ((h.held x hh).2.1 i hx)
    obtain ⟨_, g2, pre, g3, g4, g5⟩ := h.held i hhold
    have h2 := handleLogin_two_steps (seqLogins now job st0 pre).1 now (job i).req (job i).good (job i).user
    rw [g4] at h2
    have hnd := h.nodup
    rw [g3] at hnd ⊢
    refine lockInv_answer (fun k hk => ?_) hnd g2 h2 g5
    simp [h.started k, g3, hk]
  | case5 => exact h

theorem lockInv_sched {now : Nat} {job : Nat → Job} {st0 : St} (sched : List Nat) : ∀ c : Conc,
    LockInv now job st0 c → LockInv now job st0 (sched.foldl (stepT true now job) c) := by
  induction sched with
  | nil => exact fun _ h => h
  | cons i rest ih => exact fun c h => ih _ (lockInv_step h i)

end AGH.C12
