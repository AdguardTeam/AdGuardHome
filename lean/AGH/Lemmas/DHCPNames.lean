/-
C10 — every hostname in the table (and in the file) is empty or a fixed point of normalisation + validation, and
every reservation lies in the subnet — for every history.  With the repairs of R3 and R4 this is what makes a
restart restore exactly the table.
-/
import AGH.Lemmas.DHCPRestart
import AGH.Lemmas.DHCPStep
namespace AGH.C10
open AGH

variable {O : Oracle} {c : Conf} {s s' t : State} {mac host raw : Bytes} {ip : Nat} {l : Lease} {op : Op}
  {r : State × Reply}

/-- What is assumed of `normalizeHostname` / `ValidateHostname` (checked by the
driver on every oracle table it is given): normalising a normalised name
changes nothing, and generated names are normalised and valid. -/
structure OracleOK (O : Oracle) : Prop where
  idem : ∀ x n, O.norm x = some n → n ≠ [] → O.norm n = some n
  gen : ∀ ip, O.norm (genHost ip) = some (genHost ip) ∧ O.valid (genHost ip) = true

/-- Empty, or left alone by `validHostnameForClient`. -/
def NameOK (O : Oracle) (h : Bytes) : Prop := h = [] ∨ (O.norm h = some h ∧ O.valid h = true)

/-- Of the three fields, not of a record, so that it reads the same of a table lease (`GoodL`) and of a
record of the file (`Inv3`). -/
def GoodLease (O : Oracle) (c : Conf) (st : Bool) (ip : Nat) (h : Bytes) : Prop :=
  NameOK O h ∧ (st = true → inSubnet c ip = true)

def GoodL (O : Oracle) (c : Conf) (L : List Lease) : Prop := ∀ x ∈ L, GoodLease O c x.static x.ip x.host

/-- With the repairs, what makes `restart` load each record as it was stored (`loadHost_eq`). -/
def Inv3 (O : Oracle) (c : Conf) (s : State) : Prop :=
  GoodL O c s.leases ∧ ∀ d, s.disk = some d → ∀ x ∈ d, GoodLease O c x.static x.ip x.host

theorem validHost_ok (ho : OracleOK O) (cli : Bytes) (ip : Nat) : NameOK O (validHost O cli ip) := by
  unfold validHost
  -- a name that passes validation is the generated one or what `norm` returned, not empty
  refine ite_ind (P := NameOK O) (fun hv => .inr ⟨?_, hv⟩) (fun _ => .inl rfl)
  refine ite_ind (P := fun h => O.norm h = some h) (fun _ => (ho.gen ip).1) (fun he => ?_)
  cases hc : O.norm cli with
  | none => rw [hc] at he; exact absurd rfl he
  | some n => rw [hc] at he; exact ho.idem cli n hc he

theorem commitName_ok (ho : OracleOK O) (c : Conf) (l : Lease) (hn : Bytes) (s : State)
    (hl : NameOK O l.host) : NameOK O (commitName O c l hn s) :=
  commitName_ind (fun _ => validHost_ok ho hn l.ip) (fun _ => hl) (fun _ => .inl rfl)
    (fun _ _ _ => .inr (ho.gen l.ip))

/-- No hypothesis on the subnet: that is `addLease`'s own check. -/
theorem GoodL_add (h : GoodL O c s.leases) (hadd : addLease c l s = .ok s') (hn : NameOK O l.host) :
    GoodL O c s'.leases := by
  rw [(addLease_frame hadd).1]
  intro x hx
  rcases List.mem_append.1 hx with hx | hx
  · exact h x hx
  · rw [List.mem_singleton.1 hx]
    exact ⟨hn, (addLease_ok hadd).1⟩

theorem GoodL_mapId {L : List Lease} {id : Nat} {f : Lease → Lease} (h : GoodL O c L)
    (hf : ∀ y ∈ L, (f y).static = y.static ∧ (f y).ip = y.ip ∧ ((f y).host = y.host ∨ NameOK O (f y).host)) :
    GoodL O c (mapId id f L) := by
  intro x hx
  unfold mapId at hx
  obtain ⟨y, hy, rfl⟩ := List.mem_map.1 hx
  split
  · obtain ⟨h1, h2, h3⟩ := hf y hy
    rw [h1, h2]
    rcases h3 with h3 | h3
    · rw [h3]; exact h y hy
    · exact ⟨h3, (h y hy).2⟩
  · exact h y hy

theorem rmDynamicLease_goodL (mac : Bytes) (ip : Nat) (host : Bytes)
    (h : GoodL O c s.leases) : GoodL O c (rmDynamicLease c mac ip host s).1.leases := by
  refine rmDynLoop_keeps (P := fun t => GoodL O c t.leases) ?_ ?_ s.leases [] s h
  · exact fun _ _ _ _ _ _ h x hx => h x (mem_middle.2 (.inr hx))
  · intro _ A B l _ h x hx
    rcases mem_middle.1 hx with rfl | hx'
    · exact ⟨.inl rfl, (h l (mem_middle.2 (.inl rfl))).2⟩
    · exact h x (mem_middle.2 (.inr hx'))

theorem allocate_goodL (h : GoodL O c s.leases) : GoodL O c (allocateLease c mac s).1.leases := by
  refine allocate_ind (P := fun r => GoodL O c r.1.leases) (fun _ _ => h)
    (fun _ _ _ _ _ => GoodL_mapId h fun y _ => ⟨rfl, rfl, .inl rfl⟩) (fun ip s' _ _ _ hadd => ?_)
  exact GoodL_add (s := s.fresh.2) h hadd (.inl rfl)

theorem renameLease_goodL {hn : Bytes} {e : Nat}
    (h : GoodL O c s.leases) (hok : NameOK O hn) : GoodL O c (renameLease l hn e s).leases := by
  rw [renameLease_leases]
  exact GoodL_mapId h (fun y _ => ⟨rfl, rfl, .inr hok⟩)

theorem Inv3_store (h : GoodL O c s.leases) : Inv3 O c s.store := by
  refine ⟨h, ?_⟩
  intro d hd x hx
  simp only [State.store, Option.some.injEq] at hd
  subst hd
  obtain ⟨l, hl, rfl⟩ := List.mem_map.1 ((sortByHost_perm _).mem_iff.1 hx)
  exact h l hl

theorem NameOK.of_norm (ho : OracleOK O) {h : Bytes} (hn : O.norm raw = some h) (hv : O.valid h = true) :
    NameOK O h :=
  Decidable.byCases .inl fun he => .inr ⟨ho.idem raw h hn he, hv⟩

theorem staticHost_ok (ho : OracleOK O) {h : Bytes} : staticHost O raw = some h → NameOK O h := by
  fun_cases staticHost O raw with
  | case1 => exact fun e => .inl (Option.some.inj e).symm
  | case3 _ n hn hv =>
    intro e
    cases e
    exact .of_norm ho hn hv
  -- a name that does not normalise, or not to a valid one, is refused
  | _ => nofun

theorem rmLease_inv3 (h : Inv3 O c s) (hr : rmLease c mac ip host s = .ok s') : Inv3 O c s' :=
  rmLease_keeps (P := Inv3 O c) (fun _ _ _ _ _ h => ⟨fun x hx => h.1 x (mem_middle.2 (.inr hx)), h.2⟩) h hr

theorem loadHost_ok (ho : OracleOK O) (c : Conf) (d : DLease) (hd : NameOK O d.host) :
    NameOK O (loadHost O c d) := by
  unfold loadHost
  split
  · exact hd
  · exact validHost_ok ho _ _

theorem resetLoop_goodL (O : Oracle) (c : Conf) (ho : OracleOK O) (d : List DLease) (s : State)
    (h : GoodL O c s.leases) (hd : ∀ x ∈ d, GoodLease O c x.static x.ip x.host) : GoodL O c (resetLoop O c d s).leases :=
  resetLoop_keeps (P := fun t => GoodL O c t.leases) (fun _ h => h)
    (fun x hx t _ h hadd => GoodL_add (s := t.fresh.2) h hadd (loadHost_ok ho c x (hd x hx).1)) s h

theorem Inv3_emptied (h : Inv3 O c s) :
    Inv3 O c { State.init with nextId := s.nextId, now := s.now, disk := s.disk } :=
  ⟨fun _ hx => (nomatch hx), h.2⟩

theorem restart_inv3 (ho : OracleOK O) (h : Inv3 O c s) : Inv3 O c (restart O c s) := by
  unfold restart
  split
  · exact Inv3_emptied h
  · next d hd =>
    refine ⟨resetLoop_goodL O c ho d _ (Inv3_emptied h).1 (h.2 d hd), ?_⟩
    rw [(resetLoop_frame O c d _).1]
    exact h.2

theorem Tidied.goodL (ht : Tidied c s t) (h : GoodL O c s.leases) : GoodL O c t.leases :=
  ht.keeps (J := fun t => GoodL O c t.leases) (fun _ m i hh h => rmDynamicLease_goodL m i hh h)
    (fun _ _ _ h => allocate_goodL h) (fun _ h => h) h

theorem Outcome.inv3 (ho : Outcome O c s op r) (hO : OracleOK O) (h : Inv3 O c s) : Inv3 O c r.1 := by
  cases ho with
  | same | sleep => exact h
  | tidied ht => exact Inv3_store (ht.goodL h.1)
  | @commit _ hn _ _ _ _ l hl => exact Inv3_store (renameLease_goodL h.1 (commitName_ok hO c l hn s (h.1 l hl).1))
  | replaced hold ht => exact Inv3_store (renameLease_goodL (ht.goodL h.1) (h.1 _ hold).1)
  | @added _ _ _ _ t _ hsh ht _ hadd =>
    exact Inv3_store (GoodL_add (s := t.fresh.2) (ht.goodL h.1) hadd (staticHost_ok hO hsh))
  | updFailed _ _ _ hr => exact (rmLease_inv3 h hr :)
  | @updated _ _ _ _ _ t _ _ hnorm hchk hr hadd =>
    exact Inv3_store (GoodL_add (s := t.fresh.2) (rmLease_inv3 (s' := t) h hr).1 hadd
      (.of_norm hO hnorm (updStaticCheck_none hchk).1))
  | removed hr => exact Inv3_store (rmLease_inv3 h hr).1
  | restart => exact restart_inv3 hO h
  | resetLeases => exact Inv3_store (Inv3_emptied h).1
  | reorder d =>
    refine reorderDisk_ind h (fun d0 hd0 hp => ⟨h.1, fun d' hd' x hx => ?_⟩)
    cases hd'
    exact h.2 d0 hd0 x (hp.mem_iff.1 hx)

theorem Inv3_step (ho : OracleOK O) (h : Inv3 O c s) :
    Inv3 O c (step O c s op).1 :=
  (step_outcome O c s op).inv3 ho h

theorem Inv3_init (O : Oracle) (c : Conf) : Inv3 O c State.init :=
  ⟨fun _ hx => (nomatch hx), fun _ hd => (nomatch hd)⟩

theorem run_inv3 (ho : OracleOK O) (ops : List Op) (s : State) (h : Inv3 O c s) : Inv3 O c (run O c s ops) :=
  run_ind (P := fun s _ => Inv3 O c s) (fun _ _ _ => Inv3_step ho) ops s h

theorem Reachable.inv2_inv3 (ho : OracleOK O) (hf : c.fixR3 = true)
    (hr : Reachable O c s) : Inv2 True c s ∧ Inv3 O c s := by
  obtain ⟨ops, rfl⟩ := hr
  exact ⟨run_inv2_fix hf ops, run_inv3 ho ops _ (Inv3_init O c)⟩

theorem validHost_idem {h : Bytes} (h1 : h ≠ []) (h2 : O.norm h = some h) (h3 : O.valid h = true) :
    validHost O h ip = h := by
  unfold validHost
  simp [h2, h1, h3]

theorem loadHost_eq (hf4 : c.fixR4 = true) {d : DLease} (hd : NameOK O d.host) : loadHost O c d = d.host := by
  unfold loadHost
  refine ite_ind (P := (· = d.host)) (fun _ => rfl) (fun hn => ?_)
  by_cases he : d.host = []
  · exact absurd (by simp [hf4, he]) hn
  · rcases hd with hd | ⟨h1, h2⟩
    · exact absurd hd he
    · exact validHost_idem he h1 h2

theorem restart_restores_fixed (hf4 : c.fixR4 = true)
    (h2 : Inv2 True c s) (h3 : Inv3 O c s) (hm : Mirror s) :
    ((restart O c s).leases.map Lease.toDisk).Perm (s.leases.map Lease.toDisk) ∧ Mirror (restart O c s) := by
  have hres := restart_restores (O := O) h2.1 hm
    (fun l hl hs => (h3.1 l hl).2 hs)
    (fun l hl _ => loadHost_eq hf4 (h3.1 l hl).1)
    (by
      intro l₁ h₁ l₂ h₂ he hne
      have e1 := h2.2 trivial l₁ h₁ hne
      have e2 := h2.2 trivial l₂ h₂ (by rw [← he]; exact hne)
      rw [he, e2] at e1
      exact nodup_map_inj h2.1.idNodup h₁ h₂ (by simpa using e1.symm))
  exact ⟨hres.1, hres.2.1⟩

theorem run_mirror_fixed (ho : OracleOK O) (hf3 : c.fixR3 = true) (hf4 : c.fixR4 = true) (ops : List Op) (s : State)
    (h2 : Inv2 True c s) (h3 : Inv3 O c s) (hm : Mirror s) : Mirror (run O c s ops) := by
  refine (run_ind (P := fun s _ => Inv2 True c s ∧ Inv3 O c s ∧ Mirror s) ?_ ops s ⟨h2, h3, hm⟩).2.2
  intro s op _ ⟨h2, h3, hm⟩
  refine ⟨Inv2_step h2 (fun _ => .inl hf3), Inv3_step ho h3, ?_⟩
  by_cases hop : op = .restart
  · subst hop
    exact (restart_restores_fixed hf4 h2.clearStale h3 hm.clearStale).2
  · exact Mirror_step h2.1 hm hop

end AGH.C10
