/-
C09, the flush loop: after each wake-up the current unit is that of the hour
shown then; wake-ups are one period apart and leave skew and limit alone.
-/
import AGH.Model.StatsLoop
import AGH.Lemmas.StatsBasic
namespace AGH.C09

theorem poll_limitHours (P : Nat) (L : Loop) : (L.poll P).s.limitHours = L.s.limitHours := by
  simp only [Loop.poll, State.limitHours, tick_limit]

theorem polls_succ_eq (P n : Nat) (L : Loop) : L.polls P (n + 1) = (L.polls P n).poll P := by
  induction n generalizing L with
  | zero => rfl
  | succ n ih => exact ih (L.poll P)

theorem polls_frame (P n : Nat) (L : Loop) :
    (L.polls P n).next = L.next + n * P ∧ (L.polls P n).skew = L.skew ∧
      (L.polls P n).s.limitHours = L.s.limitHours := by
  induction n with
  | zero => exact ⟨by rw [Nat.zero_mul]; rfl, rfl, rfl⟩
  | succ n ih =>
    rw [polls_succ_eq]
    exact ⟨by rw [Nat.succ_mul, ← Nat.add_assoc, ← ih.1]; rfl, ih.2.1, (poll_limitHours ..).trans ih.2.2⟩

theorem polls_curr_id (P : Nat) (n : Nat) (L : Loop) (h : L.s.limitHours ≠ 0) :
    (L.polls P (n + 1)).s.curr.id = hourAt (L.next + n * P) L.skew := by
  obtain ⟨a, b, c⟩ := polls_frame P n L
  rw [polls_succ_eq, ← a, ← b]
  exact tick_id _ _ (c ▸ h)

theorem hourAt_mono {a b : Nat} (h : a ≤ b) (k : Nat) : hourAt a k ≤ hourAt b k := by
  simp only [hourAt]
  exact Nat.add_le_add_right (Nat.div_le_div_right h) k

end AGH.C09
