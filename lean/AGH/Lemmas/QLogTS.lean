/-
C20: `readQLogTimestamp` at byte level — the quick scan
for the first `"T":"` (then `"Time":"`) and the value up to the next quote.
-/
import AGH.Model.QLogFile
namespace AGH.C20
open AGH

/-- `strings.Index` finds the FIRST occurrence. -/
theorem indexOf_first (pat : Bytes) (hp : pat ≠ []) : ∀ (pre rest : Bytes),
    (∀ j, j < pre.length → pat.isPrefixOf ((pre ++ pat ++ rest).drop j) = false) →
    indexOf pat (pre ++ pat ++ rest) = some pre.length := by
  intro pre
  induction pre with
  | nil =>
    intro rest _
    cases hpr : pat with
    | nil => exact absurd hpr hp
    | cons b t =>
      simp only [List.nil_append, List.cons_append, indexOf]
      have : (b :: t).isPrefixOf (b :: (t ++ rest)) = true := by
        rw [List.isPrefixOf_iff_prefix]; exact List.prefix_append (b :: t) rest
      simp [this]
  | cons a pre ih =>
    intro rest hno
    have h0 := hno 0 (by simp)
    simp only [List.drop_zero, List.cons_append] at h0
    simp only [List.cons_append, indexOf, h0, Bool.false_eq_true, if_false, List.length_cons]
    rw [ih rest (fun j hj => by
      have := hno (j + 1) (by simp; omega)
      simpa using this)]
    rfl

theorem indexOf_byte (c : Nat) (v post : Bytes) (hv : ¬ (c ∈ v)) :
    indexOf [c] (v ++ c :: post) = some v.length := by
  induction v with
  | nil => simp [indexOf, List.isPrefixOf]
  | cons a v ih =>
    rw [List.mem_cons, not_or] at hv
    simp [indexOf, List.isPrefixOf, hv.1, ih hv.2]

theorem readJSONValue_first (key pre v post : Bytes) (hk : key ≠ [])
    (hno : ∀ j, j < pre.length → key.isPrefixOf ((pre ++ key ++ (v ++ 34 :: post)).drop j) = false)
    (hv : ¬ (34 ∈ v)) :
    readJSONValue (pre ++ key ++ (v ++ 34 :: post)) key = v := by
  unfold readJSONValue
  rw [indexOf_first key hk pre _ hno]
  simp only
  rw [← List.length_append, List.drop_left', indexOf_byte 34 v post hv]
  · exact List.take_left' rfl
  · rfl

/-- `time.RFC3339Nano`, the layout `readQLogTimestamp` parses with (the driver's
`parseTime` implements the fixed-day UTC part of it). -/
def rfc3339NanoLayout : Bytes := [50, 48, 48, 54, 45, 48, 49, 45, 48, 50, 84, 49, 53, 58, 48, 52, 58, 48, 53, 46, 57, 57, 57, 57, 57, 57, 57, 57, 57, 90, 48, 55, 58, 48, 48]

end AGH.C20
