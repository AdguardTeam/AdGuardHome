/-
C17 helper lemmas: a location that `reader` opens is absolute and its `Clean`
form matches a configured pattern, and so does the `Clean` form of an absolute
location that `validateFilterURL` accepts; what an entry point (`runOp`) stores
comes from `download`, a local file only through `reader`.
-/
import AGH.Lemmas.SafeFSMatch
import AGH.Lemmas.SafeFSClean
namespace AGH.C17
open AGH AGH.Bytes

/-- By the cases of `matchAny`: no pattern, a malformed one, a match, no match (and on to the rest). -/
theorem matchAny_true (gs : List Bytes) (p : Bytes) : matchAny gs p = .ok true →
    ∃ g ∈ gs, goMatch g p = .ok true := by
  fun_induction matchAny gs p with
  | case1 => intro h; cases h
  | case2 => intro h; cases h
  | case3 g gs p hg => intro _; exact ⟨g, List.mem_cons_self, hg⟩
  | case4 g gs p hg ih =>
    intro h
    obtain ⟨g', hm, hg'⟩ := ih h
    exact ⟨g', List.mem_cons_of_mem _ hm, hg'⟩

theorem matchesSome_iff {pats : List Bytes} {p : Bytes} :
    matchesSome pats p = true ↔ ∃ g ∈ pats, globMatches g p = true :=
  List.any_eq_true

theorem pathMatchesAny_true {pats : List Bytes} {p : Bytes} : pathMatchesAny pats p = .ok true →
    pats ≠ [] ∧ ∃ g ∈ pats, globMatches g p = true := by
  fun_cases pathMatchesAny pats p
  · intro h; cases h
  · intro h; cases h
  · next h0 _ =>
    intro h
    obtain ⟨g, hm, hg⟩ := matchAny_true _ _ h
    obtain ⟨ts, hp, hts⟩ := goMatch_sound hg
    exact ⟨h0, g, hm, by simp [globMatches, hp, hts]⟩

theorem matchAny_ne_notAbs (gs : List Bytes) (p : Bytes) : matchAny gs p ≠ .error .notAbs := by
  fun_induction matchAny gs p with
  | case4 _ _ _ _ ih => exact ih
  | _ => intro h; cases h

theorem pathMatchesAny_pathClean_ne_notAbs (pats : List Bytes) {loc : Bytes} (ha : isAbs loc = true) :
    pathMatchesAny pats (pathClean loc) ≠ .error .notAbs := by
  unfold pathMatchesAny
  by_cases h0 : pats = []
  · rw [if_pos h0]; intro h; cases h
  · rw [if_neg h0, isAbs_pathClean ha, pathClean_idem ha, bne_self_eq_false]
    exact matchAny_ne_notAbs _ _

theorem reader_abs {pats : List Bytes} {loc : Bytes} (ha : isAbs loc = true) :
    reader pats loc =
      match pathMatchesAny pats (pathClean loc) with
      | .error e => .panic e
      | .ok false => .noMatch
      | .ok true => .opened (pathClean loc) := by
  unfold reader
  rw [ha]; rfl

theorem validate_abs {pats : List Bytes} {loc : Bytes} {kind : Kind} {urlOK : Bool} (ha : isAbs loc = true) :
    validateFilterURL pats loc kind urlOK =
      if kind = .missing then .errStat
      else match pathMatchesAny pats (pathClean loc) with
        | .error e => .panic e
        | .ok false => .errNoMatch
        | .ok true => .ok := by
  unfold validateFilterURL
  rw [if_pos ha]; rfl

theorem opens_spec {pats : List Bytes} {loc p : Bytes} : opens pats loc = some p →
    isAbs loc = true ∧ p = pathClean loc ∧ pats ≠ [] ∧ ∃ g ∈ pats, globMatches g p = true := by
  unfold opens
  fun_cases reader pats loc
  · intro h; cases h
  · intro h; cases h
  · intro h; cases h
  · next ha q hm =>
    unfold q at hm ⊢
    intro h; cases h
    exact ⟨by simpa using ha, rfl, pathMatchesAny_true hm⟩

theorem validate_ok_abs {pats : List Bytes} {loc : Bytes} {kind : Kind} {urlOK : Bool}
    (hv : validateFilterURL pats loc kind urlOK = .ok) (ha : isAbs loc = true) :
    matchesSome pats (pathClean loc) = true := by
  revert hv
  fun_cases validateFilterURL pats loc kind urlOK <;> intro hv <;> cases hv
  · next hm => exact matchesSome_iff.mpr (pathMatchesAny_true hm).2
  · next hna _ => exact absurd ha hna

theorem download_src {e : Env} {s : Src} : download e = .ok (some s) →
    s = .http ∨ ∃ p, s = .file p ∧ opens e.pats e.loc = some p ∧ e.kind = .file := by
  fun_cases download e
  · intro h; cases h
  · intro h
    by_cases hf : e.fetchOK = true
    · rw [if_pos hf] at h; cases h; exact .inl rfl
    · rw [if_neg hf] at h; cases h
  · intro h; cases h
  · next p hr =>
    intro h
    by_cases hk : e.kind = .file
    · rw [if_pos hk] at h; cases h; exact .inr ⟨p, rfl, by rw [opens, hr], hk⟩
    · rw [if_neg hk] at h; cases h

/-- Of the branches of `runOp` the nine that end in `.done` remain, in the order of its text: for `add`
stored, fetch failed, refused; for `setURL` the same with "disabled" before "refused"; for `refresh`
stored, fetch failed.  What is in force afterwards is nothing, the old content, what the server served,
or a file that `reader` opened. -/
theorem runOp_done {op : Op} {e : Env} {st : Nat} {c : Cls} {src : Src} {u : Bool} :
    runOp op e = .done st c src u →
    (src = .none ∨ src = .old ∨ src = .http ∨
      ∃ p, src = .file p ∧ opens e.pats e.loc = some p ∧ e.kind = .file) ∧
    (st = 200 → op = .refresh ∨ validateFilterURL e.pats e.loc e.kind e.urlOK = .ok) := by
  have no200 : ∀ {P : Prop}, (400 : Nat) = 200 → P := fun h => absurd h (by decide)
  fun_cases runOp op e <;> intro h <;> cases h
  · next hv hd => exact ⟨.inr (.inr (download_src hd)), fun _ => .inr hv⟩
  · exact ⟨.inl rfl, no200⟩
  · exact ⟨.inl rfl, no200⟩
  · next hv _ hd => exact ⟨.inr (.inr (download_src hd)), fun _ => .inr hv⟩
  · exact ⟨.inr (.inl rfl), no200⟩
  · next hv _ => exact ⟨.inr (.inl rfl), fun _ => .inr hv⟩
  · exact ⟨.inr (.inl rfl), no200⟩
  · next hd => exact ⟨.inr (.inr (download_src hd)), fun _ => .inl rfl⟩
  · exact ⟨.inr (.inl rfl), no200⟩

end AGH.C17
