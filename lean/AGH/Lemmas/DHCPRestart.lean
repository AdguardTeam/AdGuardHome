/-
C10 — the restart of a table whose leases all carry distinct, normalised names restores it (`restart_restores`).
-/
import AGH.Lemmas.DHCPTable
namespace AGH.C10
open AGH

variable {O : Oracle} {c : Conf} {s : State}

/-- What `resetLoop` needs of the records to re-add every one of them unchanged. -/
structure Loadable (O : Oracle) (c : Conf) (d : List DLease) : Prop where
  subnet : ∀ x ∈ d, x.static = true → inSubnet c x.ip = true
  pool : ∀ x ∈ d, x.static = false → c.start ≤ x.ip ∧ x.ip ≤ c.stop
  named : ∀ x ∈ d, loadHost O c x = x.host
  exp0 : ∀ x ∈ d, x.static = true → x.exp = 0
  distinct : d.Pairwise (fun x y => x.host = [] ∨ x.host ≠ y.host)

theorem Loadable.tail {x : DLease} {rest : List DLease} (hl : Loadable O c (x :: rest)) :
    Loadable O c rest :=
  { subnet := fun y hy => hl.subnet y (List.mem_cons_of_mem _ hy)
    pool := fun y hy => hl.pool y (List.mem_cons_of_mem _ hy)
    named := fun y hy => hl.named y (List.mem_cons_of_mem _ hy)
    exp0 := fun y hy => hl.exp0 y (List.mem_cons_of_mem _ hy)
    distinct := (List.pairwise_cons.1 hl.distinct).2 }

/-- A record whose name `loadHost` leaves alone is stored again as it was loaded. -/
theorem loadLease_toDisk {x : DLease} (id : Nat) (hn : loadHost O c x = x.host) (he : x.static = true → x.exp = 0) :
    (loadLease O c x id).toDisk = x := by
  unfold loadLease Lease.toDisk
  rw [hn, ite_ind (P := (· = x.exp)) (fun hs => (he hs).symm) fun _ => rfl]

theorem resetLoop_loadable (O : Oracle) (c : Conf) : ∀ (d : List DLease) (s : State), Loadable O c d →
    (∀ x ∈ d, x.host ≠ [] → s.hosts x.host = none) →
    (resetLoop O c d s).leases.map Lease.toDisk = s.leases.map Lease.toDisk ++ d := by
  intro d
  induction d with
  | nil => intro s _ _; simp [resetLoop]
  | cons x rest ih =>
    intro s hl hfree
    have hx : x ∈ x :: rest := List.mem_cons_self
    have hn : (loadLease O c x s.nextId).host = x.host := hl.named x hx
    unfold resetLoop
    rw [addLease_accepts (l := loadLease O c x s.nextId) (s := s.fresh.2) (hl.subnet x hx) (hl.pool x hx)
      (by rw [hn]; exact hfree x hx)]
    refine (ih _ hl.tail fun y hy hne => ?_).trans ?_
    · -- a later record has another name (`distinct`), so the index still has none for it
      have : y.host ≠ (loadLease O c x s.nextId).host := by
        rw [hn]
        exact ((List.pairwise_cons.1 hl.distinct).1 y hy).elim (fun h0 => h0 ▸ hne) fun h0 e => h0 e.symm
      exact (addLeaseOK_hosts_other this).trans (hfree y (List.mem_cons_of_mem _ hy) hne)
    · show (s.leases ++ [_]).map Lease.toDisk ++ rest = _
      rw [List.map_append, List.map_singleton, loadLease_toDisk _ (hl.named x hx) (hl.exp0 x hx), List.append_assoc]
      rfl

theorem resetLoop_frame (O : Oracle) (c : Conf) (d : List DLease) (s : State) :
    (resetLoop O c d s).disk = s.disk ∧ (resetLoop O c d s).now = s.now :=
  resetLoop_keeps (P := fun t => t.disk = s.disk ∧ t.now = s.now) (fun _ h => h)
    (fun _ _ _ _ h hadd => ⟨(addLease_frame hadd).2.2.1.trans h.1, (addLease_frame hadd).2.2.2.trans h.2⟩) s ⟨rfl, rfl⟩

/-- The file of a mirrored table is `Loadable` under the three hypotheses, so `resetLoop_loadable`
re-adds its records one by one. -/
theorem restart_restores (h : Inv c s) (hm : Mirror s)
    (hsub : ∀ l ∈ s.leases, l.static = true → inSubnet c l.ip = true)
    (hnamed : ∀ l ∈ s.leases, l.static = false → loadHost O c l.toDisk = l.host)
    (huniq : ∀ l₁ ∈ s.leases, ∀ l₂ ∈ s.leases, l₁.host = l₂.host → l₁.host ≠ [] → l₁ = l₂) :
    ((restart O c s).leases.map Lease.toDisk).Perm (s.leases.map Lease.toDisk) ∧ Mirror (restart O c s) ∧
    (∀ d, s.disk = some d → (restart O c s).leases.map Lease.toDisk = d) := by
  unfold restart
  rcases hm with ⟨d, hd, hp⟩ | ⟨hd, hl⟩
  · have hall : ∀ {P : DLease → Prop}, (∀ l ∈ s.leases, P l.toDisk) → ∀ x ∈ d, P x := by
      intro P hP x hx
      obtain ⟨l, hl, rfl⟩ := List.mem_map.1 (hp.mem_iff.1 hx)
      exact hP l hl
    -- of the file itself the invariant says that its addresses differ and its dynamic records lie in the pool
    obtain ⟨hip, _, hpool⟩ := h.disk d hd
    have hload : Loadable O c d :=
      { subnet := hall hsub
        pool := hpool
        named := hall fun l hl => by
          cases hs : l.static
          · exact hnamed l hl hs
          · exact if_pos (by simp [Lease.toDisk, hs])
        exp0 := hall fun l _ hs => if_pos hs
        distinct := by
          refine (List.pairwise_map.1 (List.nodup_iff_pairwise_ne.1 hip)).imp_of_mem fun hx hy => ?_
          -- two records with one name come from one lease (`huniq`), so they have one address
          refine hall (P := fun x => ∀ y ∈ d, x.ip ≠ y.ip → x.host = [] ∨ x.host ≠ y.host)
            (fun a ha => hall fun b hb hab => ?_) _ hx _ hy
          exact Decidable.byCases .inl fun hh => .inr fun e => hab (by rw [huniq a ha b hb e hh]) }
    rw [hd]
    have hres : (resetLoop O c d { State.init with nextId := s.nextId, now := s.now, disk := some d }).leases.map
        Lease.toDisk = d := resetLoop_loadable O c d _ hload fun _ _ _ => rfl
    exact ⟨(List.Perm.of_eq hres).trans hp, .inl ⟨d, (resetLoop_frame O c d _).1, .of_eq hres.symm⟩,
      fun _ hd' => hres.trans (Option.some.inj hd')⟩
  · rw [hd, hl]
    exact ⟨.refl _, .inr ⟨rfl, rfl⟩, fun _ hd' => nomatch hd'⟩

end AGH.C10
