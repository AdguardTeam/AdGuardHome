/-
C10 — what one operation does to the table, read off the handlers once (no invariant assumed):
`Outcome` lists the ways `step` can end; every clause about a step (invariant, file, replies,
reservations, names) is a case analysis of `Outcome`.
-/
import AGH.Lemmas.DHCPOps
namespace AGH.C10
open AGH

variable {O : Oracle} {c : Conf} {s t : State} {mac raw hn : Bytes} {ip sid rip ci : Nat} {rp : Bool}

/-- `t` is `s` after some of the preparations of a handler: dynamic leases removed
(`rmDynamicLease`), an address reserved for a client the table does not know (`allocateLease`),
an id used up. -/
inductive Tidied (c : Conf) (s : State) : State → Prop
  | refl : Tidied c s s
  | rmDyn {m h : Bytes} {i : Nat} {t t' : State} {b : Bool} : Tidied c s t →
      rmDynamicLease c m i h t = (t', b) → Tidied c s t'
  | alloc {mac : Bytes} {t t' : State} {a : Option (Option Lease)} : Tidied c s t →
      (∀ y ∈ t.leases, y.mac ≠ mac) → allocateLease c mac t = (t', a) → Tidied c s t'
  | fresh {t : State} : Tidied c s t → Tidied c s t.fresh.2

theorem Tidied.keeps {J : State → Prop} (rm : ∀ t m i h, J t → J (rmDynamicLease c m i h t).1)
    (al : ∀ t mac, (∀ y ∈ t.leases, y.mac ≠ mac) → J t → J (allocateLease c mac t).1)
    (fr : ∀ t, J t → J t.fresh.2) (ht : Tidied c s t) (h : J s) : J t := by
  induction ht with
  | refl => exact h
  | rmDyn _ hr ih =>
    obtain rfl := congrArg Prod.fst hr
    exact rm _ _ _ _ ih
  | alloc _ hm hal ih =>
    obtain rfl := congrArg Prod.fst hal
    exact al _ _ hm ih
  | fresh _ ih => exact fr _ ih

/-- The ways `step` ends, started in `s` (with `stale` emptied).  `same`: nothing changed, and a DHCP
message got no positive reply.  `tidied`: the table was only prepared and stored; an address in
the reply is that of a lease the table has for the client. -/
inductive Outcome (O : Oracle) (c : Conf) (s : State) : Op → State × Reply → Prop
  | same {op : Op} {r : Reply} : (op.mac?.isSome → r.rc ≠ 1) → Outcome O c s op (s, r)
  | tidied {op : Op} {t : State} {r : Reply} : Tidied c s t →
      (∀ m, op.mac? = some m → r.yi ≠ 0 → ∃ l ∈ t.leases, l.mac = m ∧ l.ip = r.yi) → Outcome O c s op (t.store, r)
  | commit {mac hn : Bytes} {sid rip ci : Nat} {rp : Bool} {l : Lease} : l ∈ s.leases → l.mac = mac →
      l.static = false → (handleByRequestType c mac sid rp rip ci s).1 = some l →
      Outcome O c s (.request mac sid rp rip ci hn)
        ((commitLease O c l hn s).store, { rc := 1, typ := 5, yi := l.ip, err := "ok" })
  /-- the replacement `nl` takes over the name of the declined lease, which `rmDynamicLease` has freed -/
  | replaced {mac : Bytes} {rp : Bool} {rip ci : Nat} {old nl : Lease} {t : State} : old ∈ s.leases →
      Tidied c s t → nl ∈ t.leases → nl.mac = mac → nl.static = false → t.hosts old.host = none →
      Outcome O c s (.decline mac rp rip ci)
        ((renameLease nl old.host (t.now + c.leaseTime) t).store, { rc := 1, typ := 5, yi := nl.ip, err := "ok" })
  | added {mac raw host : Bytes} {ip : Nat} {t t' : State} : staticHost O raw = some host → Tidied c s t →
      (∀ x ∈ t.leases, x.mac ≠ mac ∧ x.ip ≠ ip) →
      addLease c { id := t.nextId, mac := mac, ip := ip, host := host, static := true, exp := 0 } t.fresh.2 = .ok t' →
      Outcome O c s (.addStatic mac ip raw) (t'.store, Reply.api "ok")
  /-- `UpdateStaticLease` past its checks and `rmLease`, `addLease` refuses: the table is left without the
  old lease, and unsaved.  Excluded under `Inv c s` by `updStatic_add_ok` (so discharged in
  `Outcome.store_or_same`); listed because `step_outcome` assumes no invariant -/
  | updFailed {mac raw host : Bytes} {ip : Nat} {found : Lease} {t : State} {e : AddErr} {r : Reply} :
      findLease mac s = some found → O.norm raw = some host → updStaticCheck O c mac ip host s = none →
      rmLease c found.mac found.ip found.host s = .ok t →
      addLease c { id := t.nextId, mac := mac, ip := ip, host := host, static := true, exp := 0 } t.fresh.2 = .error e →
      Outcome O c s (.updStatic mac ip raw) (t.fresh.2, r)
  | updated {mac raw host : Bytes} {ip : Nat} {found : Lease} {t t' : State} :
      findLease mac s = some found → O.norm raw = some host → updStaticCheck O c mac ip host s = none →
      rmLease c found.mac found.ip found.host s = .ok t →
      addLease c { id := t.nextId, mac := mac, ip := ip, host := host, static := true, exp := 0 } t.fresh.2 = .ok t' →
      Outcome O c s (.updStatic mac ip raw) (t'.store, Reply.api "ok")
  | removed {mac raw : Bytes} {ip : Nat} {t : State} : rmLease c mac ip raw s = .ok t →
      Outcome O c s (.rmStatic mac ip raw) (t.store, Reply.api "ok")
  | sleep (d : Nat) : Outcome O c s (.sleep d) ({ s with now := s.now + d }, Reply.api "ok")
  | restart : Outcome O c s .restart (restart O c s, Reply.api "ok")
  | resetLeases : Outcome O c s .resetLeases (resetAll s, Reply.api "ok")
  | reorder (d : List DLease) : Outcome O c s (.reorder d) (reorderDisk d s, Reply.api "ok")

theorem handleDiscover_outcome : Outcome O c s (.discover mac) (handleDiscover c mac s) := by
  fun_cases handleDiscover c mac s with
  | case1 l hf =>
    exact .tidied .refl fun m hm _ => ⟨l, (findLease_some hf).1, (findLease_some hf).2.trans (Option.some.inj hm), rfl⟩
  | case2 hf s1 hal => exact .tidied (.alloc .refl (findLease_none.1 hf) hal) fun _ _ hyi => absurd rfl hyi
  | case3 hf s1 hal => exact .tidied (.alloc .refl (findLease_none.1 hf) hal) fun _ _ hyi => absurd rfl hyi
  | case4 hf s1 l hal =>
    obtain ⟨hl, hm, _⟩ := allocate_some hal
    exact .tidied (.alloc .refl (findLease_none.1 hf) hal) fun m hm' _ => ⟨l, hl, hm.trans (Option.some.inj hm'), rfl⟩

theorem handleRequest_outcome :
    Outcome O c s (.request mac sid rp rip ci hn) (handleRequest O c mac sid rp rip ci hn s) := by
  fun_cases handleRequest O c mac sid rp rip ci hn s with
  | case1 => exact .same fun _ => by decide
  | case2 => exact .same fun _ => by decide
  | case3 l _ hb =>
    obtain ⟨hl, hm⟩ := hbrt_some hb
    exact .tidied .refl fun m hm' _ => ⟨l, hl, hm.trans (Option.some.inj hm'), rfl⟩
  | case4 l _ hb hs =>
    obtain ⟨hl, hm⟩ := hbrt_some hb
    exact .commit hl hm ((Bool.not_eq_true _).mp hs) (by rw [hb])

/-- The cases are the exits of `handleDecline`: no lease of the client at the address; a reservation in the
way; then the three results of `allocateLease`. -/
theorem handleDecline_outcome : Outcome O c s (.decline mac rp rip ci) (handleDecline c mac rp rip ci s) := by
  have hnew : ∀ {old s1}, s.leases.find? (fun l => l.mac == mac && l.ip == msgIP rp rip ci) = some old →
      rmDynamicLease c old.mac old.ip old.host s = (s1, false) → ∀ y ∈ s1.leases, y.mac ≠ mac := by
    intro old s1 hf hr y hy
    have := List.find?_some hf
    rw [Bool.and_eq_true, beq_iff_eq] at this
    exact this.1 ▸ (rmDynamicLease_clean hr y hy).1
  fun_cases handleDecline c mac rp rip ci s with
  | case1 => exact .tidied .refl fun _ _ hyi => absurd rfl hyi
  | case2 _ old hf s1 hr => exact .tidied (.rmDyn .refl hr) fun _ _ hyi => absurd rfl hyi
  | case3 _ old hf s1 hr s2 hal => exact .tidied (.alloc (.rmDyn .refl hr) (hnew hf hr) hal) fun _ _ hyi => absurd rfl hyi
  | case4 _ old hf s1 hr s2 hal => exact .tidied (.alloc (.rmDyn .refl hr) (hnew hf hr) hal) fun _ _ hyi => absurd rfl hyi
  | case5 _ old hf s1 hr s2 nl hal =>
    obtain ⟨hl, hm, hst⟩ := allocate_some hal
    refine .replaced (List.mem_of_find?_eq_some hf) (.alloc (.rmDyn .refl hr) (hnew hf hr) hal) hl hm hst ?_
    rw [allocate_hosts hal]
    exact rmDynamicLease_frees_name (List.mem_of_find?_eq_some hf) rfl hr

/-- `handleRelease` empties `stale` itself, so it is stated from the state `step` hands to the other
handlers. -/
theorem handleRelease_outcome :
    Outcome O c { s with stale := [] } (.release mac rp rip ci) (handleRelease c mac rp rip ci s) := by
  have ht : Tidied c { s with stale := [] } (releaseLoop c mac (msgIP rp rip ci) s.leases.length 0 { s with stale := [] }).1 :=
    releaseLoop_keeps (fun _ _ _ _ ht => .rmDyn ht rfl) _ _ _ .refl
  fun_cases handleRelease c mac rp rip ci s with
  | case1 _ s1 hrl => rw [hrl] at ht; exact .tidied ht fun _ _ hyi => absurd rfl hyi
  | case2 _ s1 hrl => rw [hrl] at ht; exact .tidied ht fun _ _ hyi => absurd rfl hyi

theorem addStatic_outcome : Outcome O c s (.addStatic mac ip raw) (addStatic O c mac ip raw s) := by
  have refused : ∀ r, Outcome O c s (.addStatic mac ip raw) (s, r) := fun _ => .same fun h => nomatch h
  fun_cases addStatic O c mac ip raw s with
  | case4 _ _ host hsh =>
    fun_cases addStaticCore c mac ip host s with
    | case1 s1 hr => exact .tidied (.rmDyn .refl hr) fun _ hm => nomatch hm
    | case2 s1 hr e hadd => exact .tidied (.fresh (.rmDyn .refl hr)) fun _ hm => nomatch hm
    | case3 s1 hr s2 hadd => exact .added hsh (.rmDyn .refl hr) (rmDynamicLease_clean hr) hadd
  -- the gateway's address, a malformed hardware address, a bad hostname
  | _ => exact refused _

theorem updStatic_outcome : Outcome O c s (.updStatic mac ip raw) (updStatic O c mac ip raw s) := by
  have refused : ∀ r, Outcome O c s (.updStatic mac ip raw) (s, r) := fun _ => .same fun h => nomatch h
  fun_cases updStatic O c mac ip raw s with
  | case4 found hf host hn hchk =>
    fun_cases updStaticCore c found mac ip host s with
    | case3 s1 hr e hadd => exact .updFailed hf hn hchk hr hadd
    | case4 s1 hr s2 hadd => exact .updated hf hn hchk hr hadd
    -- the two errors of `rmLease`
    | _ => exact refused _
  -- no lease of the client, a hostname that does not normalise, a check of `validateStaticLease` that fails
  | _ => exact refused _

theorem rmStatic_outcome : Outcome O c s (.rmStatic mac ip raw) (rmStatic c mac ip raw s) := by
  have refused : ∀ r, Outcome O c s (.rmStatic mac ip raw) (s, r) := fun _ => .same fun h => nomatch h
  fun_cases rmStatic c mac ip raw s with
  | case4 _ s1 hr => exact .removed hr
  -- a malformed hardware address, the two errors of `rmLease`
  | _ => exact refused _

/-- The cases follow the text of `step`: for each of the four DHCP messages the dropped one, then the handler. -/
theorem step_outcome (O : Oracle) (c : Conf) (s : State) (op : Op) :
    Outcome O c { s with stale := [] } op (step O c s op) := by
  fun_cases step O c s op with
  | case2 => exact handleDiscover_outcome
  | case4 => exact handleRequest_outcome
  | case6 => exact handleDecline_outcome
  | case8 => exact handleRelease_outcome
  | case9 => exact addStatic_outcome
  | case10 => exact updStatic_outcome
  | case11 => exact rmStatic_outcome
  | case12 _ d => exact .sleep d
  | case13 => exact .restart
  | case14 => exact .resetLeases
  | case15 _ d => exact .reorder d
  -- a DHCP message with a malformed hardware address is dropped
  | _ => exact .same fun _ => by decide

end AGH.C10
