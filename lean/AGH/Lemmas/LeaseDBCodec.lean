/-
C10 — the JSON string codec of `leases.json` round-trips every ASCII hostname
(`encoding/json` escaping incl. the HTML-safe escapes, read back by the decoder).
-/
import AGH.Model.LeaseDB
namespace AGH.C10
open AGH

theorem unhexd_hexd : ∀ n, n < 16 → unhexd (hexd n) = some n := by
  intro n hn
  have : ∀ k : Fin 16, unhexd (hexd k.val) = some k.val := by decide
  exact this ⟨n, hn⟩

theorem readBody_escByte (b : Nat) (hb : b < 128) (f : Nat) (acc tail : Bytes) :
    readBody (f + 1) acc (escByte b ++ tail) = readBody f (b :: acc) tail := by
  fun_cases escByte b with
  | case8 =>
    have hx := unhexd_hexd (b / 16) (by omega)
    have hy := unhexd_hexd (b % 16) (Nat.mod_lt _ (by decide))
    have hsum : b / 16 * 16 + b % 16 = b := by omega
    simp only [List.cons_append, List.nil_append, readBody, hx, hy, hsum]
    simp
  | case9 h1 h2 => simp only [List.cons_append, List.nil_append, readBody, if_neg h1, if_neg h2]
  -- the seven two-character escapes, one literal each
  | _ =>
    subst b
    rfl

theorem readBody_escape : ∀ (h : Bytes), (∀ b ∈ h, b < 128) → ∀ (f : Nat) (acc rest : Bytes), h.length < f →
    readBody f acc (escape h ++ 34 :: rest) = some (acc.reverse ++ h, rest) := by
  intro h
  induction h with
  | nil =>
    intro _ f acc rest hf
    cases f with
    | zero => omega
    | succ f => simp [escape, readBody]
  | cons b t ih =>
    intro hb f acc rest hf
    cases f with
    | zero => omega
    | succ f =>
      have hbb : b < 128 := hb b List.mem_cons_self
      have : escape (b :: t) ++ 34 :: rest = escByte b ++ (escape t ++ 34 :: rest) := by
        simp [escape, List.flatMap_cons, List.append_assoc]
      rw [this, readBody_escByte b hbb f acc]
      rw [ih (fun x hx => hb x (List.mem_cons_of_mem _ hx)) f (b :: acc) rest (by simpa using hf)]
      simp

/-- Each of the nine exits of `escByte` is a literal list that is not empty. -/
theorem escByte_length_pos (b : Nat) : 0 < (escByte b).length := by
  fun_cases escByte b <;> exact Nat.succ_pos _

theorem escape_length_le (h : Bytes) : h.length ≤ (escape h).length := by
  induction h with
  | nil => exact Nat.le_refl _
  | cons b t ih =>
    have := escByte_length_pos b
    simp only [escape, List.flatMap_cons, List.length_append, List.length_cons] at ih ⊢
    omega

theorem readString_jsonString (h rest : Bytes) (hb : ∀ b ∈ h, b < 128) :
    readString (jsonString h ++ rest) = some (h, rest) := by
  unfold readString jsonString
  simp only [List.cons_append, List.append_assoc]
  have := readBody_escape h hb ((escape h ++ 34 :: rest).length + 1) [] rest
    (by have := escape_length_le h; simp only [List.length_append, List.length_cons]; omega)
  simpa using this

end AGH.C10
