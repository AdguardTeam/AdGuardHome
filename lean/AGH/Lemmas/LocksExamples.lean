/-
C05 — non-vacuity of the lock-machine theorems: a disciplined program that
really contends, an undisciplined one with a reachable race, a lock-order
inversion with a reachable deadlock (and wait-for cycle), and the RWMutex
recursive-read-lock deadlock.
-/
import AGH.Lemmas.LocksExec
namespace AGH.C05

open Event Mode

/-- Two goroutines, each `mu.Lock(); x = …; mu.Unlock()`. -/
def exGood : Prog :=
  [[acq 0 excl, wr 0, rel 0 excl], [acq 0 excl, wr 0, rel 0 excl]]

example : progDisc (fun _ => 0) exGood = true := by decide +kernel
example : progRanked (fun l => l) exGood = true := by decide +kernel

example : exGood.all (fun t => t.contains (acq 0 excl) && t.contains (wr 0)) = true := by decide +kernel

/-- The lock really arbitrates: while goroutine 0 is inside, goroutine 1's pick
is refused; afterwards it is granted, and both run to completion. -/
example : modelSched exGood [0, 1, 0, 1, 0, 1, 1, 1] =
    [true, false, true, false, true, true, true, true] := by decide +kernel

example : (statesFrom (init exGood) [0, 1, 0, 1, 0, 1, 1, 1]).getLast?.map unfinished = some false := by
  decide

example : ∀ s, Reach (init exGood) s → ¬ Race s ∧ ¬ Deadlock s ∧ ∀ i, ¬ WaitChain s i i :=
  fun s hr =>
    ⟨lockset_sound (fun _ => 0) exGood (by decide +kernel) s hr,
     order_sound (fun l => l) exGood (by decide +kernel) s hr,
     no_wait_cycle (fun l => l) exGood (by decide +kernel) s hr⟩

def exRacy : Prog := [[acq 0 excl, wr 0, rel 0 excl], [rd 0]]

example : ∀ guard, progDisc guard exRacy = false := by
  intro guard
  simp [progDisc, exRacy, discOK, mayRead, holdsMode]

example : ∃ s, Reach (init exRacy) s ∧ Race s := by
  refine ⟨(statesFrom (init exRacy) [0]).getLast (by decide +kernel), ?_, ?_⟩
  · exact statesFrom_reach _ _ Reach.refl [0] _ (List.getLast_mem _)
  · exact (raceB_iff _).1 (by decide +kernel)

/-- The same state, with the `Reach` derivation and the `Race` witnesses spelled out. -/
example : ∃ s, Reach (init exRacy) s ∧ Race s := by
  refine ⟨[⟨[(0, excl)], false, [wr 0, rel 0 excl]⟩, ⟨[], false, [rd 0]⟩], ?_, ?_⟩
  · exact Reach.step Reach.refl (Step.run 0 (by decide +kernel))
  · exact ⟨0, 1, 0, true, false, by decide +kernel, rfl, rfl, Or.inl rfl⟩

def exInversion : Prog :=
  [[acq 0 excl, acq 1 excl, rel 1 excl, rel 0 excl],
   [acq 1 excl, acq 0 excl, rel 0 excl, rel 1 excl]]

/-- It is perfectly disciplined in the lockset sense (no accesses at all), … -/
example : progDisc (fun _ => 0) exInversion = true := by decide +kernel

/-- After each goroutine took its first lock. -/
def exInversionStuck : State :=
  [⟨[(0, excl)], false, [acq 1 excl, rel 1 excl, rel 0 excl]⟩,
   ⟨[(1, excl)], false, [acq 0 excl, rel 0 excl, rel 1 excl]⟩]

example : (statesFrom (init exInversion) [0, 1]).getLast? = some exInversionStuck := by decide +kernel

theorem exInversion_reach : Reach (init exInversion) exInversionStuck :=
  statesFrom_reach _ _ Reach.refl [0, 1] _ (by decide +kernel)

example : ∃ s, Reach (init exInversion) s ∧ Deadlock s :=
  ⟨exInversionStuck, exInversion_reach, (deadlockB_iff _).1 (by decide +kernel)⟩

/-- … but no rank function orders its acquisitions: `order_sound` would exclude
the deadlock just shown. -/
example : ∀ rank, progRanked rank exInversion = false := by
  intro rank
  cases h : progRanked rank exInversion with
  | false => rfl
  | true =>
    exact absurd ((deadlockB_iff _).1 (by decide +kernel))
      (order_sound rank exInversion h exInversionStuck exInversion_reach)

example : ∃ s i, Reach (init exInversion) s ∧ WaitChain s i i := by
  refine ⟨exInversionStuck, 0, exInversion_reach, ?_⟩
  refine WaitChain.cons (k := 1) ?_ (WaitChain.one ?_)
  · exact ⟨_, _, 1, excl, _, rfl, rfl, rfl, by decide +kernel, by decide +kernel⟩
  · exact ⟨_, _, 0, excl, _, rfl, rfl, rfl, by decide +kernel, by decide +kernel⟩

/-- A: `RLock; RLock; RUnlock; RUnlock`.  B: `Lock; Unlock`. -/
def exRecursiveRead : Prog :=
  [[acq 0 shared, acq 0 shared, rel 0 shared, rel 0 shared], [acq 0 excl, rel 0 excl]]

/-- Accepted by no rank function: lock 0 is acquired while held. -/
example : ∀ rank, progRanked rank exRecursiveRead = false := by
  intro rank
  simp [progRanked, exRecursiveRead, rankOK]

/-- After A's first `RLock` and B's announcement. -/
def exRecursiveReadStuck : State :=
  [⟨[(0, shared)], false, [acq 0 shared, rel 0 shared, rel 0 shared]⟩,
   ⟨[], true, [acq 0 excl, rel 0 excl]⟩]

theorem exRecursiveRead_reach : Reach (init exRecursiveRead) exRecursiveReadStuck :=
  Reach.step (Reach.step Reach.refl (Step.run 0 (s' :=
    [⟨[(0, shared)], false, [acq 0 shared, rel 0 shared, rel 0 shared]⟩,
     ⟨[], false, [acq 0 excl, rel 0 excl]⟩]) (by decide +kernel)))
    (Step.ann 1 (by decide +kernel))

theorem exRecursiveRead_deadlock : ∃ s, Reach (init exRecursiveRead) s ∧ Deadlock s :=
  ⟨exRecursiveReadStuck, exRecursiveRead_reach, (deadlockB_iff _).1 (by decide +kernel)⟩

example : ∃ s, Reach (init exRecursiveRead) s ∧ Deadlock s :=
  exRecursiveRead_deadlock

/-- Without the writer's announcement the second `RLock` is granted: the
deadlock is due to the pending writer. -/
example : grantsFrom (init exRecursiveRead) [0, 0, 0, 0, 1, 1] =
    [true, true, true, true, true, true] := by decide +kernel

end AGH.C05
