/-
C05 — ranked lock order with balanced releases and GATE LOCKS (`rankOKg`) gives
progress (`order_sound_gated`) and excludes wait-for cycles
(`no_wait_cycle_gated`), for all programs and all interleavings.  An acquisition
of a gated lock whose gate is held exclusively can only be delayed by a LEAF
holder (a goroutine whose next event releases the lock), never by a goroutine
that itself waits, so it is exempt from the rank rule.  Both results rest on
`waitsFor_rank_lt`: the ranks of the awaited locks go up along wait-for edges;
where nobody can move, every thread with work left waits (`stuck_waits`).  The
plain ranked order is the discipline without gates (`rankOKg_none`), so
`order_sound` and `no_wait_cycle` are the case `gate = fun _ => none`.
-/
import AGH.Lemmas.Locks
namespace AGH.C05

theorem rankOKg_acq {rank : Lock → Nat} {gate : Lock → Option Lock} {held : List (Lock × Mode)}
    {l : Lock} {m : Mode} {r : List Event} :
    rankOKg rank gate held (Event.acq l m :: r) = true ↔
      (gateHeldOK gate held l = true ∨ leafNext l m r = true) ∧
      (exemptB gate held l = true ∨ held.all (fun h => rank h.1 < rank l) = true) ∧
      rankOKg rank gate ((l, m) :: held) r = true := by
  simp only [rankOKg, Bool.and_eq_true, Bool.or_eq_true, and_assoc]

theorem rankOKg_rel {rank : Lock → Nat} {gate : Lock → Option Lock} {held : List (Lock × Mode)}
    {l : Lock} {m : Mode} {r : List Event} :
    rankOKg rank gate held (Event.rel l m :: r) = true ↔
      held.contains (l, m) = true ∧ relOK gate (held.erase (l, m)) = true ∧
      rankOKg rank gate (held.erase (l, m)) r = true := by
  simp only [rankOKg, Bool.and_eq_true, and_assoc]

theorem relOK_none (held : List (Lock × Mode)) : relOK (fun _ => none) held = true :=
  List.all_eq_true.2 fun _ _ => rfl

theorem rankOKg_none (rank : Lock → Nat) (held : List (Lock × Mode)) (t : List Event) :
    rankOKg rank (fun _ => none) held t = rankOK rank held t := by
  -- the cases of `rankOK`: none left, `acq`, `rel`, `rd`, `wr`
  fun_induction rankOK rank held t with
  | case1 => rfl
  | case2 held l m r ih =>
    rw [rankOKg, ih]
    exact congrArg (· && _) (Bool.true_and _)
  | case3 held l m r ih => rw [rankOKg, ih, relOK_none, Bool.and_true]
  | case4 held x r ih => exact ih
  | case5 held x r ih => exact ih

theorem progRankedG_none (rank : Lock → Nat) (p : Prog) :
    progRankedG rank (fun _ => none) p = progRanked rank p :=
  congrArg p.all (funext (rankOKg_none rank []))

theorem gateHeldOK_iff {gate : Lock → Option Lock} {held : List (Lock × Mode)} {l : Lock} :
    gateHeldOK gate held l = true ↔ ∀ g, gate l = some g → ∃ m, (g, m) ∈ held := by
  unfold gateHeldOK
  cases gate l with
  | none => exact ⟨fun _ _ hg => (nomatch hg), fun _ => rfl⟩
  | some g =>
    exact any_fst_iff.trans ⟨fun h _ hg => Option.some.inj hg ▸ h, fun h => h g rfl⟩

theorem exemptB_iff {gate : Lock → Option Lock} {held : List (Lock × Mode)} {l : Lock} :
    exemptB gate held l = true ↔
      ∃ g, gate l = some g ∧ (g, Mode.excl) ∈ held ∧ ∀ m, (l, m) ∉ held := by
  unfold exemptB
  cases gate l with
  | none => exact ⟨fun h => (nomatch h), fun ⟨_, hg, _⟩ => (nomatch hg)⟩
  | some g =>
    rw [Bool.and_eq_true, Bool.not_eq_true', ← Bool.not_eq_true, any_fst_iff, not_exists,
      List.contains_iff_mem]
    exact ⟨fun h => ⟨g, rfl, h⟩, fun ⟨_, hg, h⟩ => Option.some.inj hg ▸ h⟩

theorem gateHeldOK_cons {gate : Lock → Option Lock} {held : List (Lock × Mode)} {l : Lock}
    (x : Lock × Mode) (h : gateHeldOK gate held l = true) :
    gateHeldOK gate (x :: held) l = true := by
  rw [gateHeldOK_iff] at h ⊢
  intro g hg
  obtain ⟨m, hm⟩ := h g hg
  exact ⟨m, List.mem_cons_of_mem _ hm⟩

/-- `rankOKg` constrains the remaining events only; this is what it required of
the holds already taken: gate held, or leaf hold. -/
def leafInv (gate : Lock → Option Lock) (held : List (Lock × Mode)) (rest : List Event) : Bool :=
  held.all (fun h => gateHeldOK gate held h.1 || leafNext h.1 h.2 rest)

/-- The invariant of the progress proof, for a thread in mid-run. -/
structure ThreadRanked (rank : Lock → Nat) (gate : Lock → Option Lock) (held : List (Lock × Mode))
    (rest : List Event) : Prop where
  ranked : rankOKg rank gate held rest = true
  leaf : leafInv gate held rest = true

theorem leafNext_iff {l : Lock} {m : Mode} {r : List Event} :
    leafNext l m r = true ↔ ∃ r', r = Event.rel l m :: r' := by
  rw [leafNext, beq_iff_eq, List.head?_eq_some_iff]

theorem leafInv_iff {gate : Lock → Option Lock} {held : List (Lock × Mode)} {rest : List Event} :
    leafInv gate held rest = true ↔
      ∀ x ∈ held, gateHeldOK gate held x.1 = true ∨ leafNext x.1 x.2 rest = true := by
  simp only [leafInv, List.all_eq_true, Bool.or_eq_true]

theorem leafInv_not_rel {gate : Lock → Option Lock} {held : List (Lock × Mode)} {rest : List Event}
    (h : leafInv gate held rest = true) (hnr : ∀ l m r, rest ≠ Event.rel l m :: r) :
    ∀ x ∈ held, gateHeldOK gate held x.1 = true :=
  fun x hx => (leafInv_iff.1 h x hx).resolve_right fun h2 =>
    (leafNext_iff.1 h2).elim (hnr x.1 x.2)

theorem leafInv_of_gates {gate : Lock → Option Lock} {held : List (Lock × Mode)} {rest : List Event}
    (h : ∀ x ∈ held, gateHeldOK gate held x.1 = true) : leafInv gate held rest = true :=
  leafInv_iff.2 fun x hx => Or.inl (h x hx)

theorem threadRanked_advance (rank : Lock → Nat) (gate : Lock → Option Lock) (t : Thread)
    (h : ThreadRanked rank gate t.held t.rest) :
    ThreadRanked rank gate (advance t).held (advance t).rest := by
  obtain ⟨held, ann, rest⟩ := t
  obtain ⟨h1, h2⟩ := h
  cases rest with
  | nil => exact ⟨h1, h2⟩
  | cons e r =>
    cases e with
    | acq l m =>
      have hold := leafInv_not_rel h2 (fun _ _ _ hh => nomatch hh)
      obtain ⟨hnew, _, htail⟩ := rankOKg_acq.1 h1
      refine ⟨htail, leafInv_iff.2 fun x hx => ?_⟩
      rcases List.mem_cons.1 hx with rfl | hx
      · -- the new hold: its gate was held, or it is a leaf hold
        exact hnew.imp_left (gateHeldOK_cons _)
      · exact Or.inl (gateHeldOK_cons _ (hold x hx))
    | rel l m =>
      obtain ⟨_, hrel, htail⟩ := rankOKg_rel.1 h1
      exact ⟨htail, leafInv_of_gates (List.all_eq_true.1 hrel)⟩
    | rd y | wr y =>
      have hold := leafInv_not_rel h2 (fun _ _ _ hh => nomatch hh)
      exact ⟨h1, leafInv_of_gates hold⟩

theorem threadRanked_reach (rank : Lock → Nat) (gate : Lock → Option Lock) (p : Prog)
    (h : progRankedG rank gate p = true) :
    ∀ s, Reach (init p) s → ∀ t ∈ s, ThreadRanked rank gate t.held t.rest :=
  reach_forall_thread (ThreadRanked rank gate)
    (fun evs hevs => ⟨List.all_eq_true.1 h evs hevs, rfl⟩) (threadRanked_advance rank gate)

theorem holder_gate_or_leaf {gate : Lock → Option Lock} {t : Thread} {l g : Lock}
    (h : leafInv gate t.held t.rest = true) (hl : holdsAny t l = true) (hg : gate l = some g) :
    holdsAny t g = true ∨ ∃ m r, t.rest = Event.rel l m :: r := by
  obtain ⟨m, hm⟩ := holdsAny_iff.1 hl
  exact (leafInv_iff.1 h (l, m) hm).imp (fun h1 => holdsAny_iff.2 (gateHeldOK_iff.1 h1 g hg))
    fun h2 => ⟨m, leafNext_iff.1 h2⟩

theorem blocked_cases {rank : Lock → Nat} {gate : Lock → Option Lock} {s : State} {t : Thread}
    (h : rankOKg rank gate t.held t.rest = true) (hb : enabled s t = false) :
    t.rest = [] ∨ ∃ l m r, t.rest = Event.acq l m :: r ∧ canAcq s l m = false := by
  obtain ⟨held, ann, rest⟩ := t
  cases rest with
  | nil => exact Or.inl rfl
  | cons e r =>
    cases e with
    | acq l m => exact Or.inr ⟨l, m, r, rfl, hb⟩
    | rel l m => exact nomatch (rankOKg_rel.1 h).1.symm.trans hb
    | rd x | wr x => cases hb

theorem all_blocked_of_deadlock {s : State} (h : ∀ i, stepThread s i = none) :
    ∀ t ∈ s, enabled s t = false := by
  intro t ht
  obtain ⟨i, hi⟩ := List.mem_iff_getElem?.1 ht
  simpa [stepThread, hi] using h i

theorem refused_has_holder {s : State} {l : Lock} {m : Mode}
    (hall : ∀ t ∈ s, enabled s t = false) (hc : canAcq s l m = false) :
    ∃ u ∈ s, holdsAny u l = true := by
  cases m with
  | excl => exact canAcq_excl_refused.1 hc
  | shared =>
    obtain ⟨u, hu, he | hw⟩ := canAcq_shared_refused.1 hc
    · exact ⟨u, hu, holdsAny_of_holdsExcl he⟩
    · -- `u` is a pending writer; it is blocked, so someone holds `l`
      obtain ⟨_, r, hr⟩ := wantsExcl_iff.1 hw
      have hbu := hall u hu
      unfold enabled at hbu
      rw [hr] at hbu
      exact canAcq_excl_refused.1 hbu

/-- The key to the exemption: a holder of `l` that is not a leaf holder holds the
gate of `l` too, which mutual exclusion forbids while `ti` holds it exclusively. -/
theorem exempt_holder_leaf {rank : Lock → Nat} {gate : Lock → Option Lock} {s : State}
    (hmx : MutexInv s) (hg : ∀ t ∈ s, ThreadRanked rank gate t.held t.rest)
    {i k : Nat} {ti tk : Thread} {l : Lock}
    (hi : s[i]? = some ti) (hex : exemptB gate ti.held l = true)
    (hk : s[k]? = some tk) (hl : holdsAny tk l = true) :
    ∃ m r, tk.rest = Event.rel l m :: r := by
  obtain ⟨g, hgl, hge, hnl⟩ := exemptB_iff.1 hex
  have hik : i ≠ k := by
    rintro rfl
    cases Option.some.inj (hi.symm.trans hk)
    obtain ⟨m, hm⟩ := holdsAny_iff.1 hl
    exact hnl m hm
  rcases holder_gate_or_leaf (hg tk (List.mem_of_getElem? hk)).leaf hl hgl with h1 | h2
  · exact nomatch h1.symm.trans (hmx i k ti tk g hik hi hk (holdsExcl_iff.2 hge))
  · exact h2

/-- The `0` of a thread that is not at an acquisition is never compared: `waitsFor_rank_lt` and
`order_sound_gated` compare threads that wait. -/
def awaitKey (rank : Lock → Nat) (t : Thread) : Nat :=
  match t.rest with
  | Event.acq l _ :: _ => rank l
  | _ => 0

theorem awaitKey_acq {rank : Lock → Nat} {t : Thread} {l : Lock} {m : Mode} {r : List Event}
    (hr : t.rest = Event.acq l m :: r) : awaitKey rank t = rank l := by
  unfold awaitKey; rw [hr]

def awaited (rank : Lock → Nat) (s : State) (i : Nat) : Nat :=
  match s[i]? with
  | some t => awaitKey rank t
  | none => 0

theorem awaited_eq {rank : Lock → Nat} {s : State} {i : Nat} {t : Thread} (hi : s[i]? = some t) :
    awaited rank s i = awaitKey rank t := by
  unfold awaited; rw [hi]

/-- A thread that waits for a thread that itself waits is at a NON-exempt
acquisition (the holder it waits for is not a leaf holder), so the ranks of the
awaited locks go up along two consecutive wait-for edges that are followed by a
third. -/
theorem waitsFor_rank_lt {rank : Lock → Nat} {gate : Lock → Option Lock} {s : State}
    (hmx : MutexInv s) (hg : ∀ t ∈ s, ThreadRanked rank gate t.held t.rest) {i k k' k'' : Nat}
    (h1 : WaitsFor s i k) (h2 : WaitsFor s k k') (h3 : WaitsFor s k' k'') :
    awaited rank s i < awaited rank s k := by
  obtain ⟨ti, tk, l, m, r, hi, hk, hri, _, hhold⟩ := h1
  obtain ⟨tk₂, tk', l', m', r', hk₂, hk', hrk, _, hhold'⟩ := h2
  obtain ⟨tk'₂, _, l'', m'', r'', hk'₂, _, hrk', _, _⟩ := h3
  cases Option.some.inj (hk.symm.trans hk₂)
  cases Option.some.inj (hk'.symm.trans hk'₂)
  rw [awaited_eq hi, awaited_eq hk, awaitKey_acq hri, awaitKey_acq hrk]
  have hok := (hg tk (List.mem_of_getElem? hk)).ranked
  rw [hrk] at hok
  rcases (rankOKg_acq.1 hok).2.1 with hex | hall
  · obtain ⟨_, _, hrel⟩ := exempt_holder_leaf hmx hg hk hex hk' hhold'
    rw [hrk'] at hrel; cases hrel
  · obtain ⟨m₀, hm₀⟩ := holdsAny_iff.1 hhold
    exact of_decide_eq_true (List.all_eq_true.1 hall (l, m₀) hm₀)

theorem waitChain_first {s : State} {i j : Nat} (h : WaitChain s i j) : ∃ k, WaitsFor s i k := by
  cases h with
  | one h => exact ⟨_, h⟩
  | cons h _ => exact ⟨_, h⟩

theorem waitChain_first_two {s : State} {i j : Nat} (h : WaitChain s i j)
    (hj : ∃ j', WaitsFor s j j') : ∃ k k', WaitsFor s i k ∧ WaitsFor s k k' := by
  cases h with
  | one h =>
    obtain ⟨j', hj'⟩ := hj
    exact ⟨_, j', h, hj'⟩
  | cons h hc =>
    obtain ⟨k', hk'⟩ := waitChain_first hc
    exact ⟨_, k', h, hk'⟩

theorem waitChain_rank_lt {rank : Lock → Nat} {gate : Lock → Option Lock} {s : State}
    (hmx : MutexInv s) (hg : ∀ t ∈ s, ThreadRanked rank gate t.held t.rest) {i j : Nat}
    (h : WaitChain s i j) :
    ∀ j' j'', WaitsFor s j j' → WaitsFor s j' j'' → awaited rank s i < awaited rank s j := by
  induction h with
  | one h => intro j' j'' hj hj'; exact waitsFor_rank_lt hmx hg h hj hj'
  | cons h hc ih =>
    intro j' j'' hj hj'
    obtain ⟨k', k'', hk', hk''⟩ := waitChain_first_two hc ⟨j', hj⟩
    exact Nat.lt_trans (waitsFor_rank_lt hmx hg h hk' hk'') (ih j' j'' hj hj')

theorem no_wait_cycle_gated (rank : Lock → Nat) (gate : Lock → Option Lock) (p : Prog)
    (h : progRankedG rank gate p = true) : ∀ s, Reach (init p) s → ∀ i, ¬ WaitChain s i i := by
  intro s hr i hc
  have hg := threadRanked_reach rank gate p h s hr
  have hmx := mutexInv_reach p s hr
  obtain ⟨k, k', hk, hk'⟩ := waitChain_first_two hc (waitChain_first hc)
  exact Nat.lt_irrefl _ (waitChain_rank_lt hmx hg hc k k' hk hk')

/-- The acquisition is refused, so the lock has a holder; a finished thread holds
nothing, so the holder has work left. -/
theorem stuck_waits {rank : Lock → Nat} {gate : Lock → Option Lock} {s : State}
    (hg : ∀ t ∈ s, ThreadRanked rank gate t.held t.rest) (hall : ∀ t ∈ s, enabled s t = false)
    {i : Nat} {t : Thread} (hi : s[i]? = some t) (hne : (!t.rest.isEmpty) = true) :
    ∃ k u, s[k]? = some u ∧ (!u.rest.isEmpty) = true ∧ WaitsFor s i k := by
  have ht := List.mem_of_getElem? hi
  rcases blocked_cases (hg t ht).ranked (hall t ht) with hnil | ⟨l, m, r, hr, hc⟩
  · rw [hnil] at hne; cases hne
  · obtain ⟨u, hu, hul⟩ := refused_has_holder hall hc
    obtain ⟨k, hk⟩ := List.mem_iff_getElem?.1 hu
    refine ⟨k, u, hk, ?_, t, u, l, m, r, hi, hk, hr, hc, hul⟩
    cases hrest : u.rest with
    | cons _ _ => rfl
    | nil =>
      obtain ⟨m', hm'⟩ := holdsAny_iff.1 hul
      have hfin := (hg u hu).ranked
      rw [hrest] at hfin
      rw [List.isEmpty_iff.1 hfin] at hm'
      cases hm'

theorem exists_max {α : Type} (f : α → Nat) (s : List α) (hs : s ≠ []) :
    ∃ a ∈ s, ∀ b ∈ s, f b ≤ f a := by
  have hne : s.map f ≠ [] := mt List.map_eq_nil_iff.1 hs
  obtain ⟨a, ha, hfa⟩ := List.mem_map.1 (List.max_mem hne)
  exact ⟨a, ha, fun b hb => hfa ▸ List.le_max_of_mem (List.mem_map_of_mem hb)⟩

/-- Among the threads with work left, take one that awaits a lock of maximal rank.
Nobody can move, so it waits for a thread that waits for a thread that waits, and
the first of these awaits a lock of larger rank still (`waitsFor_rank_lt`). -/
theorem order_sound_gated (rank : Lock → Nat) (gate : Lock → Option Lock) (p : Prog)
    (h : progRankedG rank gate p = true) : ∀ s, Reach (init p) s → ¬ Deadlock s := by
  intro s hr ⟨hunf, hnone⟩
  have hg := threadRanked_reach rank gate p h s hr
  have hmx := mutexInv_reach p s hr
  have hall := all_blocked_of_deadlock hnone
  obtain ⟨t0, ht0, hne0⟩ := List.any_eq_true.1 hunf
  obtain ⟨a, ha, hmax⟩ := exists_max (awaitKey rank) (s.filter fun t => !t.rest.isEmpty)
    (List.ne_nil_of_mem (List.mem_filter.2 ⟨ht0, hne0⟩))
  obtain ⟨ha, hane⟩ := List.mem_filter.1 ha
  obtain ⟨i, hi⟩ := List.mem_iff_getElem?.1 ha
  obtain ⟨k, u, hk, hune, hw1⟩ := stuck_waits hg hall hi hane
  obtain ⟨k', v, hk', hvne, hw2⟩ := stuck_waits hg hall hk hune
  obtain ⟨k'', _, _, _, hw3⟩ := stuck_waits hg hall hk' hvne
  have hlt := waitsFor_rank_lt hmx hg hw1 hw2 hw3
  rw [awaited_eq hi, awaited_eq hk] at hlt
  exact Nat.lt_irrefl _ (Nat.lt_of_lt_of_le hlt
    (hmax u (List.mem_filter.2 ⟨List.mem_of_getElem? hk, hune⟩)))

theorem order_sound (rank : Lock → Nat) (p : Prog) (h : progRanked rank p = true) :
    ∀ s, Reach (init p) s → ¬ Deadlock s :=
  order_sound_gated rank (fun _ => none) p ((progRankedG_none rank p).trans h)

theorem no_wait_cycle (rank : Lock → Nat) (p : Prog) (h : progRanked rank p = true) :
    ∀ s, Reach (init p) s → ∀ i, ¬ WaitChain s i i :=
  no_wait_cycle_gated rank (fun _ => none) p ((progRankedG_none rank p).trans h)

end AGH.C05
