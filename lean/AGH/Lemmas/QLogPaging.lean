/-
Lemmas for C07: following the returned `older_than` cursor partitions the
visible sequence.
-/
import AGH.Lemmas.QLogSearch
namespace AGH.C07

def withOlder (p : Params) (ot : Option Int) : Params := { p with olderThan := ot }

/-- Follow the returned cursor for at most `fuel` requests: the pages, and
whether the end (no cursor) was reported. -/
def pageChain (s : State) (p : Params) : Nat → Option Int → List (List Entry) × Bool
  | 0, _ => ([], false)
  | fuel + 1, ot =>
    match search s (withOlder p ot) with
    | .ok (D, some c) => (D :: (pageChain s p fuel (some c)).1, (pageChain s p fuel (some c)).2)
    | .ok (D, none) => ([D], true)
    | .error _ => ([], false)

theorem keepMem_withOlder (c : Conf) (p : Params) (t : Int) (e : Entry) :
    keepMem c (withOlder p (some t)) e = (decide (e.ts < t) && keepMem c (withOlder p none) e) := by
  simp only [keepMem, matchE, withOlder]
  cases isIgnored c e.host <;> cases clientIgnored c e.cid e.ip <;> cases decide (e.ts < t) <;> simp

theorem vis_withOlder (s : State) (p : Params) (ot : Option Int) (c : Int) (h : ∀ t, ot = some t → c < t) :
    vis s (withOlder p (some c)) = (vis s (withOlder p ot)).filter (fun e => decide (e.ts < c)) := by
  unfold vis
  rw [List.filter_filter]
  congr 1
  funext e
  rw [keepMem_withOlder]
  cases ot with
  | none => rfl
  | some t =>
    rw [keepMem_withOlder s.conf p t, ← Bool.and_assoc]
    congr 1
    have := h t rfl
    by_cases h1 : e.ts < c
    · simp [h1, show e.ts < t by omega]
    · simp [h1]

theorem desc_filter_split (L : List Entry) (c : Int) (h : Desc L) :
    L.filter (fun e => decide (e.ts ≥ c)) ++ L.filter (fun e => decide (e.ts < c)) = L := by
  induction L with
  | nil => rfl
  | cons x xs ih =>
    have h' := List.pairwise_cons.mp h
    by_cases hx : x.ts ≥ c
    · rw [List.filter_cons_of_pos (by simpa using hx), List.filter_cons_of_neg (by simp; omega),
        List.cons_append, ih h'.2]
    · have hall : ∀ a ∈ x :: xs, a.ts < c := by
        intro a ha
        rcases List.mem_cons.mp ha with rfl | ha
        · omega
        · have := h'.1 a ha; omega
      rw [List.filter_eq_nil_iff.mpr (fun a ha => by have := hall a ha; simp; omega),
        List.filter_eq_self.mpr (fun a ha => by simpa using hall a ha), List.nil_append]

/-- The records of the log older than the cursor `ot`: each further request has a cursor with fewer. -/
def remaining (s : State) (ot : Option Int) : Nat :=
  ((logOf s).filter (fun e => ot.all (fun t => decide (e.ts < t)))).length

theorem remaining_le (s : State) (ot : Option Int) : remaining s ot ≤ (logOf s).length :=
  List.length_filter_le _ _

theorem filter_length_lt {l : List α} {p q : α → Bool} (hpq : ∀ e, p e = true → q e = true)
    (hex : ∃ e ∈ l, q e = true ∧ p e = false) : (l.filter p).length < (l.filter q).length := by
  obtain ⟨e, he, hq, hp⟩ := hex
  have hpf : l.filter p = (l.filter q).filter p := by
    rw [List.filter_filter]
    refine List.filter_congr fun x _ => ?_
    cases h : p x
    · rfl
    · rw [hpq x h]; rfl
  rw [hpf]
  exact List.length_filter_lt_length_iff_exists.mpr
    ⟨e, List.mem_filter.mpr ⟨he, hq⟩, by rw [hp]; exact Bool.false_ne_true⟩

theorem validP_withOlder (p : Params) (ot : Option Int) (hv : ValidP p) : ValidP (withOlder p ot) :=
  ⟨hv.off, hv.lim, hv.sum⟩

theorem pageChain_spec (s : State) (p : Params) (hi : Inv s) (hv : ValidP p) (hoff : p.offset = 0)
    (hscan : 2 ≤ p.scan ∨ p.scan ≤ 0) :
    ∀ (fuel : Nat) (ot : Option Int), CursorOK s (withOlder p ot) → remaining s ot < fuel →
      (pageChain s p fuel ot).2 = true ∧ (pageChain s p fuel ot).1.flatten = vis s (withOlder p ot) := by
  intro fuel
  induction fuel with
  | zero => intro ot _ h; omega
  | succ fuel ih =>
    intro ot hc hrem
    have hv' := validP_withOlder p ot hv
    obtain ⟨D, O, hs, _⟩ := search_sound s (withOlder p ot) hi hv'
    obtain ⟨hnone, hsome⟩ := search_cursor s (withOlder p ot) hi hv' hoff hc hs
    cases O with
    | none =>
      simp only [pageChain, hs]
      exact ⟨by simp, by simp [hnone rfl]⟩
    | some c =>
      obtain ⟨hpage, hprog, hstamp⟩ := hsome c rfl
      simp only [pageChain, hs]
      have hc' : CursorOK s (withOlder p (some c)) := (cursorOK_some rfl).mpr hstamp
      have hlt : ∀ t, ot = some t → c < t := fun t ht => hprog t (by simp [withOlder, ht]) hscan
      have hrem' : remaining s (some c) < fuel := by
        obtain ⟨e, he, hec⟩ := hstamp
        refine Nat.lt_of_lt_of_le (filter_length_lt (fun x hx => ?_) ⟨e, he, ?_, by simp [hec]⟩)
          (Nat.le_of_lt_succ hrem)
        · cases hot : ot with
          | none => rfl
          | some t => have := hlt t hot; simp at hx ⊢; omega
        · cases hot : ot with
          | none => rfl
          | some t => have := hlt t hot; simp; omega
      obtain ⟨hend, hflat⟩ := ih (some c) hc' hrem'
      refine ⟨hend, ?_⟩
      simp only [List.flatten_cons, hflat, hpage]
      -- D ++ (visible older than c) = visible older than ot
      rw [vis_withOlder s p ot c hlt]
      exact desc_filter_split _ c (desc_vis s (withOlder p ot) hi)

end AGH.C07
