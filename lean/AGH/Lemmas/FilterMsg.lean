/-
C01 / C02: the blocking-mode responses built by the model satisfy the spec's
mode table, with one exception in default mode (marked QUIRK).
-/
import AGH.Lemmas.Filter
namespace AGH.Filter
open AGH AGH.Bytes

theorem map_ansA (c : Conf) {q : Query} (h : q.qtype = tA) (l : List (Option IP)) :
    l.map (ansA c q) = addrAnswers c q l := by
  unfold addrAnswers
  simp only [h, if_true]
  rfl

theorem map_ansAAAA (c : Conf) {q : Query} (h : q.qtype = tAAAA) (l : List (Option IP)) :
    l.map (ansAAAA c q) = addrAnswers c q l := by
  unfold addrAnswers
  simp only [h, if_neg (by decide : tAAAA ≠ tA)]
  rfl

theorem eraseAll_addrAnswers (c : Conf) (q : Query) (l : List (Option IP)) :
    eraseAll (addrAnswers c q l) = addrAnswers c q (l.map (Option.map IP.erase)) := by
  simp only [eraseAll, addrAnswers, List.map_map]
  congr 1
  funext ip
  simp only [Function.comp, RR.erase]
  split <;> rfl

theorem responseWithIPs_addr (c : Conf) {q : Query} (hq : q.qtype = tA ∨ q.qtype = tAAAA) (ips : List IP)
    (hfam : ∀ ip ∈ ips, ip.v6 = (q.qtype == tAAAA)) :
    responseWithIPs c q ips = { reply q rcSuccess with answer := addrAnswers c q (ips.map some) } := by
  unfold responseWithIPs
  rcases hq with h | h
  · have hall : ips.all (fun ip => !ip.v6) = true :=
      List.all_eq_true.mpr fun ip hip => by rw [hfam ip hip, h]; rfl
    simp only [if_pos h, answersV4, hall, if_true, ← map_ansA c h, List.map_map]
    rfl
  · have hflt : ips.filter (·.v6) = ips :=
      List.filter_eq_self.mpr fun ip hip => by rw [hfam ip hip, h]; rfl
    simp only [if_neg (h ▸ (by decide : tAAAA ≠ tA)), if_pos h, hflt, ← map_ansAAAA c h, List.map_map]
    rfl

theorem responseNullIP_addr (c : Conf) {q : Query} (hq : q.qtype = tA ∨ q.qtype = tAAAA) :
    responseNullIP c q =
      { reply q rcSuccess with answer := addrAnswers c q [some (if q.qtype = tA then ip4Zero else ip6Zero)] } := by
  unfold responseNullIP
  rcases hq with h | h
  · rw [if_pos h, responseWithIPs_addr c (Or.inl h), if_pos h]
    · rfl
    · intro ip hip; rw [List.mem_singleton.mp hip, h]; rfl
  · have h' : q.qtype ≠ tA := h ▸ (by decide : tAAAA ≠ tA)
    rw [if_neg h', if_pos h, responseWithIPs_addr c (Or.inr h), if_neg h']
    · rfl
    · intro ip hip; rw [List.mem_singleton.mp hip, h]; rfl

theorem responseCustomIP_addr (c : Conf) {q : Query} (hq : q.qtype = tA ∨ q.qtype = tAAAA) :
    responseCustomIP c q =
      { reply q rcSuccess with answer := addrAnswers c q [if q.qtype = tA then c.bip4 else c.bip6] } := by
  unfold responseCustomIP
  rcases hq with h | h
  · rw [if_pos h, if_pos h, ← map_ansA c h]; rfl
  · have h' : q.qtype ≠ tA := h ▸ (by decide : tAAAA ≠ tA)
    rw [if_neg h', if_pos h, if_neg h', ← map_ansAAAA c h]; rfl

theorem genForBlockingMode_other (c : Conf) {q : Query} (h1 : q.qtype ≠ tA) (h2 : q.qtype ≠ tAAAA) (ips : List IP) :
    genForBlockingMode c q ips =
      { reply q (modeRcode c.mode) with ns := if c.mode = .nxdomain then genSOA c q else [] } := by
  have hw : ∀ l, responseWithIPs c q l = reply q rcSuccess := by
    intro l; unfold responseWithIPs; rw [if_neg h1, if_neg h2]; rfl
  have hn : responseNullIP c q = reply q rcSuccess := by
    unfold responseNullIP; rw [if_neg h1, if_neg h2]
  have hc : responseCustomIP c q = reply q rcSuccess := by
    unfold responseCustomIP; rw [if_neg h1, if_neg h2]
  unfold genForBlockingMode
  cases c.mode
  · simp only [hw, hn, ite_self]; rfl
  · exact hn
  · exact hc
  · rfl
  · rfl

theorem isLocalNs_genSOA (c : Conf) (q : Query) : isLocalNs q (genSOA c q) = true := by
  simp [isLocalNs, genSOA]

theorem zeroIP_erase (q : Query) :
    (if q.qtype = tA then ip4Zero else ip6Zero).erase = if q.qtype = tA then ip4Zero else ip6Zero := by
  split <;> rfl

theorem genDNSFilterMessage_syntheticOK (c : Conf) (q : Query) (res : Result) (ruleIPs : List IP)
    (h : c.mode = .default → q.qtype = tA ∨ q.qtype = tAAAA →
      res.ips = ruleIPs.filter (fun ip => ip.v6 == (q.qtype == tAAAA))) :
    syntheticOK c q ruleIPs (genDNSFilterMessage c q res) = true := by
  unfold syntheticOK genDNSFilterMessage
  by_cases hq : q.qtype = tA ∨ q.qtype = tAAAA
  · have hno : ¬(q.qtype ≠ tA ∧ q.qtype ≠ tAAAA ∧ q.qtype ≠ tHTTPS) := fun hh => hq.elim hh.1 hh.2.1
    rw [if_neg hno, if_pos hq]
    unfold genForBlockingMode
    cases hm : c.mode
    · -- default is the only mode that reads `res.ips`, hence the only use of `h`
      have hips := h hm hq
      simp only [← hips, dedupIPs_isEmpty]
      cases hemp : res.ips.isEmpty
      · have hfam : ∀ ip ∈ dedupIPs res.ips [], ip.v6 = (q.qtype == tAAAA) := by
          intro ip hip
          have hmem := dedupIPs_subset _ ip hip
          rw [hips] at hmem
          simpa using (List.mem_filter.mp hmem).2
        simp only [Bool.not_false, if_true, responseWithIPs_addr c hq _ hfam, eraseAll_addrAnswers, List.map_map,
          Function.comp_def, Option.map_some, reply, isLocalNs, List.all_nil, beq_self_eq_true, Bool.and_self,
          Bool.false_eq_true, if_false]
      · simp only [Bool.not_true, Bool.false_eq_true, if_false, if_true, responseNullIP_addr c hq,
          eraseAll_addrAnswers, List.map_cons, List.map_nil, Option.map_some, zeroIP_erase, reply, isLocalNs,
          List.all_nil, beq_self_eq_true, Bool.and_self]
    · simp only [responseNullIP_addr c hq, eraseAll_addrAnswers, List.map_cons, List.map_nil, Option.map_some,
        zeroIP_erase, reply, isLocalNs, List.all_nil, beq_self_eq_true, Bool.and_self]
    · simp only [responseCustomIP_addr c hq, eraseAll_addrAnswers, List.map_cons, List.map_nil, reply,
        isLocalNs, List.all_nil, beq_self_eq_true, Bool.and_self]
    · simp only [msgNXDOMAIN, reply, isLocalNs_genSOA, beq_self_eq_true, List.isEmpty_nil, Bool.and_self]
    · simp only [reply, isLocalNs, List.all_nil, beq_self_eq_true, List.isEmpty_nil, Bool.and_self]
  · have h1 : q.qtype ≠ tA := fun hh => hq (Or.inl hh)
    have h2 : q.qtype ≠ tAAAA := fun hh => hq (Or.inr hh)
    have hns : ∀ b : Prop, [Decidable b] → isLocalNs q (if b then genSOA c q else []) = true := by
      intro b _; split
      · exact isLocalNs_genSOA c q
      · rfl
    rw [if_neg hq]
    by_cases h3 : q.qtype = tHTTPS
    · rw [if_neg (fun hh => hh.2.2 h3), genForBlockingMode_other c h1 h2]
      simp only [reply, hns, beq_self_eq_true, List.isEmpty_nil, Bool.or_true, Bool.and_self]
    · rw [if_pos ⟨h1, h2, h3⟩]
      split
      · simp only [reply, isLocalNs, List.all_nil, beq_self_eq_true, List.isEmpty_nil, Bool.true_or, Bool.and_self]
      · simp only [msgNODATA, reply, isLocalNs_genSOA, beq_self_eq_true, List.isEmpty_nil, Bool.true_or, Bool.and_self]

/-- QUIRK: `genResponseWithIPs` for an address query and addresses that are all
of the other family answers without any record. -/
theorem responseWithIPs_cross (c : Conf) {q : Query} (hq : q.qtype = tA ∨ q.qtype = tAAAA) (ips : List IP)
    (hne : ips ≠ []) (hfam : ∀ ip ∈ ips, ip.v6 = !(q.qtype == tAAAA)) :
    responseWithIPs c q ips = reply q rcSuccess := by
  unfold responseWithIPs
  rcases hq with h | h
  · have hall : ips.all (fun ip => !ip.v6) = false := by
      cases ips with
      | nil => exact absurd rfl hne
      | cons ip rest => rw [List.all_cons, hfam ip List.mem_cons_self, h]; rfl
    simp only [if_pos h, answersV4, hall, Bool.false_eq_true, if_false]
    rfl
  · have hflt : ips.filter (·.v6) = [] :=
      List.filter_eq_nil_iff.mpr fun ip hip => by rw [hfam ip hip, h]; exact Bool.false_ne_true
    simp only [if_neg (h ▸ (by decide : tAAAA ≠ tA)), if_pos h, hflt, List.map_nil]
    rfl

/-- … so in default mode a block by hosts-style lines of the other family is an
empty NOERROR response. -/
theorem genDNSFilterMessage_cross_family (c : Conf) (q : Query) (res : Result)
    (hm : c.mode = .default) (hq : q.qtype = tA ∨ q.qtype = tAAAA) (hne : res.ips ≠ [])
    (hfam : ∀ ip ∈ res.ips, ip.v6 = !(q.qtype == tAAAA)) :
    genDNSFilterMessage c q res = reply q rcSuccess := by
  have hd : (dedupIPs res.ips []).isEmpty = false := by
    rw [dedupIPs_isEmpty]; cases h : res.ips with
    | nil => exact absurd h hne
    | cons _ _ => rfl
  have hd' : dedupIPs res.ips [] ≠ [] := fun h => by rw [h] at hd; cases hd
  unfold genDNSFilterMessage genForBlockingMode
  rw [if_neg (fun hh => hq.elim hh.1 hh.2.1), hm]
  simp only [hd, Bool.not_false, if_true]
  exact responseWithIPs_cross c hq _ hd' fun ip hip => hfam ip (dedupIPs_subset _ ip hip)

end AGH.Filter
