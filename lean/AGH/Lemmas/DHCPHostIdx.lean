/-
C10 — `Inv2 p c s := Inv c s ∧ (p → HostComplete s)`, followed once through every kind of `Outcome`
(`Outcome.inv2`, `Inv2_step`): with `p := False` every operation keeps the invariant (`Inv_step` in `DHCPStep`), with
`p := True` it also keeps the hostname index COMPLETE (every named lease is what its name resolves to) as long as
`commitLease` does not fall back to a generated name that is already indexed for another lease (R3: `R3at` of one
step, `NoR3` along a history).
-/
import AGH.Lemmas.DHCPOutcome
namespace AGH.C10
open AGH

variable {p : Prop} {O : Oracle} {c : Conf} {s s' t : State} {mac host hn : Bytes} {ip : Nat}
  {l : Lease} {A B : List Lease} {op : Op} {r : State × Reply}

def HostComplete (s : State) : Prop := ∀ l ∈ s.leases, l.host ≠ [] → s.hosts l.host = some l.id

/-- The operations are followed once for both readings: `p := False` is the invariant alone,
`p := True` adds completeness of the hostname index (which the tree before 410da26 loses at an
instance of R3, so it cannot be a field of `Inv`). -/
def Inv2 (p : Prop) (c : Conf) (s : State) : Prop := Inv c s ∧ (p → HostComplete s)

theorem Inv.inv2 (h : Inv c s) : Inv2 False c s := ⟨h, False.elim⟩

theorem Inv2_init : Inv2 p c State.init := ⟨Inv_init c, fun _ l hl => by cases hl⟩

theorem Inv2.clearStale (h : Inv2 p c s) : Inv2 p c { s with stale := [] } := ⟨h.1.clearStale, h.2⟩

theorem Inv2_store (h : Inv2 p c s) : Inv2 p c s.store :=
  ⟨Inv_store h.1, h.2⟩

theorem Inv2_fresh (h : Inv2 p c s) : Inv2 p c s.fresh.2 :=
  ⟨Inv_fresh h.1, h.2⟩

theorem Inv2_emptied (h : Inv c s) :
    Inv2 p c { State.init with nextId := s.nextId, now := s.now, disk := s.disk } :=
  ⟨Inv_empty c _ _ _ h.disk, fun _ l hl => by cases hl⟩

theorem indexed_host_ne {y : Lease}
    (h : Inv c { s with leases := A ++ l :: B }) (hy : y ∈ A ++ B)
    (hyc : s.hosts y.host = some y.id) (hlc : s.hosts l.host = some l.id) : y.host ≠ l.host := by
  intro hk
  rw [hk, hlc] at hyc
  exact (nodup_map_middle_iff.1 h.idNodup).2 y hy (Option.some.inj hyc).symm

theorem Inv2_rm (X : List Lease)
    (h : Inv2 p c { s with leases := A ++ l :: B }) : Inv2 p c { rmSide c l X s with leases := A ++ B } := by
  refine ⟨Inv_rm X h.1, fun hp y hy hne => ?_⟩
  have hyc : s.hosts y.host = some y.id := h.2 hp y (mem_middle.2 (.inr hy)) hne
  show setFn s.hosts l.host none y.host = some y.id
  by_cases hk : y.host = l.host
  · exact absurd hk (indexed_host_ne h.1 hy hyc (h.2 hp l (mem_middle.2 (.inl rfl)) (hk ▸ hne)))
  · rw [setFn_other _ _ _ hk]; exact hyc

theorem Inv2_clear (h : Inv2 p c { s with leases := A ++ l :: B }) :
    Inv2 p c { (if l.host ≠ [] ∧ s.hosts l.host = some l.id then s.delHost l.host else s) with
      leases := A ++ { l with host := [] } :: B } := by
  refine ⟨Inv_clear h.1, fun hp y hy hne => ?_⟩
  rcases mem_middle.1 hy with rfl | hy'
  · exact absurd rfl hne
  · have hyc : s.hosts y.host = some y.id := h.2 hp y (mem_middle.2 (.inr hy')) hne
    by_cases hd : l.host ≠ [] ∧ s.hosts l.host = some l.id
    · rw [if_pos hd]
      show setFn s.hosts l.host none y.host = some y.id
      rw [setFn_other _ _ _ (indexed_host_ne h.1 hy' hyc hd.2)]; exact hyc
    · rw [if_neg hd]; exact hyc

theorem Inv2_addFresh {st : Bool} {e : Nat} (h : Inv2 p c s) (hcl : ∀ y ∈ s.leases, y.mac ≠ mac ∧ y.ip ≠ ip)
    (hadd : addLease c { id := s.nextId, mac := mac, ip := ip, host := host, static := st, exp := e } s.fresh.2 = .ok s') :
    Inv2 p c s' := by
  refine ⟨Inv_add (Inv_fresh h.1) hadd (fun y hy => (hcl y hy).2) (fun y hy => (hcl y hy).1) (Nat.lt_succ_self _)
    (fun y hy => Nat.ne_of_lt (h.1.idLt y hy)), fun hp => ?_⟩
  obtain ⟨_, _, hfree, rfl⟩ := addLease_ok hadd
  intro y hy hne
  rcases List.mem_append.1 (show y ∈ s.leases ++ [_] from hy) with hy' | hy'
  · have hyc := h.2 hp y hy' hne
    -- `addLease` accepted the name, so the index did not have it
    have : y.host ≠ host := by
      intro e1; rw [e1, show s.hosts host = none from hfree (e1 ▸ hne)] at hyc; cases hyc
    exact (addLeaseOK_hosts_other this).trans hyc
  · rw [List.mem_singleton.1 hy'] at hne ⊢
    exact addLeaseOK_hosts_new hne

theorem Inv2_setMac (m : Bytes)
    (h : Inv2 p c { s with leases := A ++ l :: B }) (hm : ∀ y ∈ A ++ B, y.mac ≠ m) :
    Inv2 p c { s with leases := A ++ { l with mac := m } :: B } := by
  refine ⟨Inv_setMac m h.1 hm, fun hp y hy hne => ?_⟩
  rcases mem_middle.1 hy with rfl | hy'
  · exact h.2 hp l (mem_middle.2 (.inl rfl)) hne
  · exact h.2 hp y (mem_middle.2 (.inr hy')) hne

theorem Inv2_rename {e : Nat} (h : Inv2 p c s) (hl : l ∈ s.leases)
    (hfree : p → hn = [] ∨ s.hosts hn = none ∨ s.hosts hn = some l.id) : Inv2 p c (renameLease l hn e s) := by
  obtain ⟨A, B, hs⟩ := List.append_of_mem hl
  have h0 : Inv c { s with leases := A ++ l :: B } := by rw [← hs]; exact h.1
  refine ⟨Inv_rename hn e h.1 hs, fun hp y hy hne => ?_⟩
  rw [renameLease_leases, hs, mapId_split h0.idNodup] at hy
  rcases mem_middle.1 hy with rfl | hy'
  · exact renameLease_hosts_new e s hne
  · have hyc : s.hosts y.host = some y.id := h.2 hp y (hs ▸ mem_middle.2 (.inr hy')) hne
    -- every other named lease keeps its entry: its name is not the one entered (`hfree`) nor the
    -- one `l` had (`indexed_host_ne`)
    have hnew : y.host ≠ hn := by
      intro e1
      rcases hfree hp with hf | hf | hf
      · exact hne (e1.trans hf)
      · rw [e1, hf] at hyc; cases hyc
      · rw [e1, hf] at hyc
        exact (nodup_map_middle_iff.1 h0.idNodup).2 y hy' (Option.some.inj hyc).symm
    have hold : y.host ≠ l.host := fun e1 => indexed_host_ne h0 hy' hyc (h.2 hp l hl (e1 ▸ hne)) e1
    rw [renameLease_hosts_other e hnew hold]
    exact hyc

theorem Inv2_setIP_same (h : Inv2 p c s) {y : Lease} (hy : y ∈ s.leases) :
    Inv2 p c (s.setIP y.ip y.id) := ⟨Inv_setIP_same h.1 hy, h.2⟩

theorem rmDynamicLease_inv2 (mac : Bytes) (ip : Nat) (host : Bytes)
    (h : Inv2 p c s) : Inv2 p c (rmDynamicLease c mac ip host s).1 :=
  rmDynLoop_keeps (fun _ _ _ X _ _ h => Inv2_rm X h) (fun _ _ _ _ _ h => Inv2_clear h) s.leases [] s h

theorem rmLease_inv2 (h : Inv2 p c s) (hr : rmLease c mac ip host s = .ok s') : Inv2 p c s' :=
  rmLease_keeps (fun _ _ _ X _ h => Inv2_rm X h) h hr

theorem allocate_inv2 (h : Inv2 p c s) (hmac : ∀ y ∈ s.leases, y.mac ≠ mac) :
    Inv2 p c (allocateLease c mac s).1 := by
  refine allocate_ind (P := fun r => Inv2 p c r.1) (fun _ _ => h) (fun _ l hl _ _ => ?_) (fun ip s' _ _ hn hadd => ?_)
  · obtain ⟨A, B, hs⟩ := List.append_of_mem hl
    have h' : Inv2 p c { s with leases := A ++ l :: B } := by rw [← hs]; exact h
    have hupd : (s.update l.id (fun x => { x with mac := mac })) =
        { s with leases := A ++ { l with mac := mac } :: B } := by
      unfold State.update
      rw [hs, mapId_split h'.1.idNodup]
    rw [hupd]
    exact Inv2_setMac mac h' fun y hy => hmac y (by rw [hs]; exact mem_middle.2 (.inr hy))
  · exact Inv2_addFresh h (fun y hy => ⟨hmac y hy, nextIP_unleased h.1 hn y hy⟩) hadd

theorem Tidied.inv2 (ht : Tidied c s t) (h : Inv2 p c s) : Inv2 p c t :=
  ht.keeps (fun _ m i hh h => rmDynamicLease_inv2 m i hh h) (fun _ _ hm h => allocate_inv2 h hm)
    (fun _ h => Inv2_fresh h) h

/-- The cases: no record left; a record that `addLease` refuses; a record that it adds. -/
theorem resetLoop_inv2 (O : Oracle) (c : Conf) (d : List DLease) (s : State) : Inv2 p c s →
    (d.map (·.ip)).Nodup → (d.map (·.mac)).Nodup →
    (∀ x ∈ d, ∀ y ∈ s.leases, y.mac ≠ x.mac ∧ y.ip ≠ x.ip) →
    Inv2 p c (resetLoop O c d s) := by
  fun_induction resetLoop O c d s with
  | case1 s => exact fun h _ _ _ => h
  | case2 x rest s e hadd ih =>
    intro h hip hmac hfresh
    rw [List.map_cons, List.nodup_cons] at hip hmac
    exact ih (Inv2_fresh h) hip.2 hmac.2 fun z hz => hfresh z (List.mem_cons_of_mem _ hz)
  | case3 x rest s s' hadd ih =>
    intro h hip hmac hfresh
    rw [List.map_cons, List.nodup_cons] at hip hmac
    refine ih (Inv2_addFresh h (hfresh x List.mem_cons_self) hadd) hip.2 hmac.2 ?_
    intro z hz y hy
    rw [(addLease_frame hadd).1] at hy
    rcases List.mem_append.1 hy with hy | hy
    · exact hfresh z (List.mem_cons_of_mem _ hz) y hy
    · rw [List.mem_singleton.1 hy]
      exact ⟨fun e => hmac.1 (List.mem_map.2 ⟨z, hz, e.symm⟩), fun e => hip.1 (List.mem_map.2 ⟨z, hz, e.symm⟩)⟩

theorem restart_inv2 (h : Inv c s) : Inv2 p c (restart O c s) := by
  unfold restart
  have h0 := Inv2_emptied (p := p) h
  split
  · exact h0
  · next d hd =>
    obtain ⟨d1, d2, _⟩ := h.disk d hd
    exact resetLoop_inv2 O c d _ h0 d1 d2 (fun _ _ y hy => by cases hy)

theorem commitLease_inv2 (hostname : Bytes)
    (h : Inv2 p c s) (hl : l ∈ s.leases)
    (hfree : p → commitName O c l hostname s = [] ∨ s.hosts (commitName O c l hostname s) = none ∨
      s.hosts (commitName O c l hostname s) = some l.id) : Inv2 p c (commitLease O c l hostname s) :=
  Inv2_setIP_same (Inv2_rename h hl hfree)
    (y := { l with host := commitName O c l hostname s, exp := s.now + c.leaseTime }) (renameLease_mem hl)

/-- The R3 pattern: a REQUEST commits a lease that has no name yet, the name
the client asks for (or the generated one, for an empty request) is taken, and
the generated name `commitLease` falls back to is indexed for another lease.  Stated of `s` as `step`
receives it, a reachable state: `step` empties `stale` before the handlers run, hence `{ s with stale := [] }`. -/
def R3at (O : Oracle) (c : Conf) (s : State) : Op → Prop
  | .request mac sid rp rip ci hn =>
    ∃ l, (handleByRequestType c mac sid rp rip ci { s with stale := [] }).1 = some l ∧ l.static = false ∧ l.host = [] ∧
      (s.hosts (validHost O hn l.ip)).isSome = true ∧ ∃ id, s.hosts (genHost l.ip) = some id ∧ id ≠ l.id
  | _ => False

theorem commitName_free (h : Inv2 p c s) (hl : l ∈ s.leases) (hp : p)
    (hno : c.fixR3 = true ∨ ¬ (l.host = [] ∧ (s.hosts (validHost O hn l.ip)).isSome = true ∧
      ∃ id, s.hosts (genHost l.ip) = some id ∧ id ≠ l.id)) :
    commitName O c l hn s = [] ∨ s.hosts (commitName O c l hn s) = none ∨
      s.hosts (commitName O c l hn s) = some l.id := by
  refine commitName_ind (P := fun n => n = [] ∨ s.hosts n = none ∨ s.hosts n = some l.id)
    (fun h0 => .inr (.inl h0)) (fun hne => .inr (.inr (h.2 hp l hl hne))) (fun _ => .inl rfl)
    (fun hlh htaken hown => ?_)
  cases hg : s.hosts (genHost l.ip) with
  | none => exact .inr (.inl rfl)
  | some id =>
    refine .inr (.inr (congrArg some ?_))
    rcases hno with hf | hno
    · exact hown hf id hg
    · exact Decidable.byContradiction fun hid => hno ⟨hlh, htaken, id, hg, hid⟩

theorem Outcome.inv2 (ho : Outcome O c s op r) (h : Inv2 p c s)
    (hno : p → c.fixR3 = true ∨ ¬ R3at O c s op) : Inv2 p c r.1 := by
  cases ho with
  | same => exact h
  | tidied ht => exact Inv2_store (ht.inv2 h)
  | @commit mac hn sid rip ci rp l hl _ hd hsel =>
    refine Inv2_store (commitLease_inv2 hn h hl fun hp => commitName_free h hl hp ?_)
    -- `handleByRequestType` does not read `stale`, so `hsel` is the first part of `R3at` as it stands
    exact (hno hp).imp_right fun hno ⟨h1, h2, h3⟩ => hno ⟨l, hsel, hd, h1, h2, h3⟩
  | replaced _ ht hnl _ _ hname => exact Inv2_store (Inv2_rename (ht.inv2 h) hnl fun _ => .inr (.inl hname))
  | added _ ht hcl hadd => exact Inv2_store (Inv2_addFresh (ht.inv2 h) hcl hadd)
  | updFailed _ _ _ hr => exact Inv2_fresh (rmLease_inv2 h hr)
  | updated hf _ hchk hr hadd =>
    exact Inv2_store (Inv2_addFresh (rmLease_inv2 h hr) (updStatic_add_ok h.1 hf hchk hr).1 hadd)
  | removed hr => exact Inv2_store (rmLease_inv2 h hr)
  | sleep d => exact ⟨Inv_congr h.1 rfl rfl rfl rfl rfl rfl, h.2⟩
  | restart => exact restart_inv2 h.1
  | resetLeases => exact Inv2_store (Inv2_emptied h.1)
  | reorder d =>
    exact ⟨Inv_reorder d h.1, fun hp => reorderDisk_ind (P := HostComplete) (h.2 hp) (fun _ _ _ => h.2 hp)⟩

theorem Inv2_step (h : Inv2 p c s)
    (hno : p → c.fixR3 = true ∨ ¬ R3at O c s op) : Inv2 p c (step O c s op).1 :=
  -- `R3at` reads `hosts` and the state with `stale` emptied: it says the same of `s` and of `{ s with stale := [] }`
  (step_outcome O c s op).inv2 h.clearStale hno

def NoR3 (O : Oracle) (c : Conf) : State → List Op → Prop
  | _, [] => True
  | s, op :: rest => (c.fixR3 = true ∨ ¬ R3at O c s op) ∧ NoR3 O c (step O c s op).1 rest

theorem run_inv2 (ops : List Op) (s : State) (h : Inv2 p c s) (hno : p → NoR3 O c s ops) :
    Inv2 p c (run O c s ops) :=
  (run_ind (P := fun s ops => Inv2 p c s ∧ (p → NoR3 O c s ops))
    (fun _ _ _ h => ⟨Inv2_step h.1 fun hp => (h.2 hp).1, fun hp => (h.2 hp).2⟩) ops s ⟨h, hno⟩).1

theorem NoR3_of_fix (hf : c.fixR3 = true) : ∀ (ops : List Op) (s : State), NoR3 O c s ops := by
  intro ops
  induction ops with
  | nil => intro s; trivial
  | cons op rest ih => intro s; exact ⟨.inl hf, ih _⟩

theorem run_inv2_fix (hf : c.fixR3 = true) (ops : List Op) : Inv2 True c (run O c State.init ops) :=
  run_inv2 ops _ Inv2_init fun _ => NoR3_of_fix hf ops _

end AGH.C10
