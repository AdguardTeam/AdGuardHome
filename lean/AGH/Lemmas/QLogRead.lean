/-
Lemmas for C07: lists sorted by time, what `readEntries` may answer (`ReadSpec`), the file seek on lists.
-/
import AGH.Model.QLog
namespace AGH.C07
open AGH

theorem eq_take_cons_drop {l : List α} {k : Nat} {x : α} (h : l[k]? = some x) :
    l = l.take k ++ x :: l.drop (k + 1) := by
  obtain ⟨hk, hx⟩ := List.getElem?_eq_some_iff.mp h
  rw [← hx, ← List.drop_eq_getElem_cons hk, List.take_append_drop]

/-- Answers list the records newest first, files hold them oldest first; both strictly, so no two
records of a list have the same time. -/
def Desc (l : List Entry) : Prop := l.Pairwise (fun a b => b.ts < a.ts)

def Asc (l : List Entry) : Prop := l.Pairwise (fun a b => a.ts < b.ts)

theorem insertDesc_of_all_lt (e : Entry) (l : List Entry) (h : ∀ x ∈ l, x.ts < e.ts) :
    insertDesc e l = e :: l := by
  cases l with
  | nil => rfl
  | cons x xs => simp [insertDesc, h x (by simp)]

theorem sortDesc_of_desc (l : List Entry) (h : Desc l) : sortDesc l = l := by
  induction l with
  | nil => rfl
  | cons e rest ih =>
    have h' := List.pairwise_cons.mp h
    simp only [sortDesc, ih h'.2]
    exact insertDesc_of_all_lt e rest h'.1

theorem desc_split {P S : List Entry} {x : Entry} (h : Desc (P ++ x :: S)) :
    (∀ e ∈ P, x.ts < e.ts) ∧ ∀ e ∈ S, e.ts < x.ts :=
  have hP := List.pairwise_append.mp h
  ⟨fun e he => hP.2.2 e he x List.mem_cons_self, (List.pairwise_cons.mp hP.2.1).1⟩

theorem desc_filter_ge_prefix (P S : List Entry) (x : Entry) (h : Desc (P ++ x :: S)) :
    (P ++ x :: S).filter (fun e => decide (e.ts ≥ x.ts)) = P ++ [x] := by
  rw [List.filter_append, List.filter_cons]
  have hP : P.filter (fun e => decide (e.ts ≥ x.ts)) = P := by
    apply List.filter_eq_self.mpr
    intro a ha
    have := (desc_split h).1 a ha
    simp; omega
  have hS : S.filter (fun e => decide (e.ts ≥ x.ts)) = [] := by
    apply List.filter_eq_nil_iff.mpr
    intro a ha
    have := (desc_split h).2 a ha
    simp; omega
  simp [hP, hS]

theorem desc_filter_ge_append {A l : List Entry} {k : Nat} {e : Entry} (h : Desc (A ++ l))
    (he : l[k]? = some e) : (A ++ l).filter (fun a => decide (a.ts ≥ e.ts)) = A ++ l.take (k + 1) := by
  have hs := eq_take_cons_drop he
  have hl : A ++ l = (A ++ l.take k) ++ e :: l.drop (k + 1) := by rw [List.append_assoc, ← hs]
  rw [hl, desc_filter_ge_prefix _ _ e (hl ▸ h), List.append_assoc, List.take_add_one, he]
  rfl

theorem desc_prefix_eq_filter {D V : List Entry} {x : Entry} (hV : Desc V) (hp : D <+: V)
    (hx : D.getLast? = some x) : D = V.filter (fun e => decide (e.ts ≥ x.ts)) := by
  obtain ⟨ys, rfl⟩ := List.getLast?_eq_some_iff.mp hx
  obtain ⟨S, rfl⟩ := hp
  rw [List.append_assoc] at hV ⊢
  exact (desc_filter_ge_prefix ys S x hV).symm

/-- What `readEntries`, entered with `oldest = o`, has in `oldest` after reading `l`. -/
def lastTs (o : Option Int) (l : List Entry) : Option Int := l.foldl (fun _ e => some e.ts) o

theorem lastTs_take {l : List Entry} {n : Nat} {o : Option Int} {c : Int} (hn : n ≤ l.length)
    (h : lastTs o (l.take n) = some c) :
    n = 0 ∧ o = some c ∨ ∃ e, l[n - 1]? = some e ∧ 1 ≤ n ∧ e.ts = c := by
  induction l generalizing n o with
  | nil => exact Or.inl ⟨Nat.le_zero.mp hn, by rwa [List.take_nil] at h⟩
  | cons x l ih =>
    cases n with
    | zero => exact Or.inl ⟨rfl, h⟩
    | succ m =>
      right
      rcases ih (o := some x.ts) (Nat.le_of_succ_le_succ hn) h with ⟨hm, hx⟩ | ⟨e, he, hm, hts⟩
      · exact ⟨x, by rw [hm]; rfl, Nat.le_add_left 1 m, Option.some.inj hx⟩
      · refine ⟨e, ?_, Nat.le_add_left 1 m, hts⟩
        rw [← he, Nat.add_sub_cancel, ← Nat.sub_add_cancel hm, List.getElem?_cons_succ, Nat.add_sub_cancel]

/-- What `readEntries` on `rem` may answer after reading `n` records: the kept ones among them, with the time of
the last one read; it stops before the end of the file and before the limit only when the scan budget is used up. -/
structure ReadSpec (keep : Entry → Bool) (scan TL : Int) (rem acc : List Entry) (total : Int) (o : Option Int)
    (r : List Entry × Option Int) (n : Nat) : Prop where
  le : n ≤ rem.length
  kept : r.1 = acc ++ (rem.take n).filter keep
  len_le : (r.1.length : Int) ≤ TL
  all_of_none : r.2 = none → n = rem.length
  of_some : ∀ c, r.2 = some c → lastTs o (rem.take n) = some c ∧
    ((r.1.length : Int) < TL → 0 < scan ∧ scan ≤ total + n)

/-- One statement for the kept and the skipped record: `[e].filter keep` is `[e]` or `[]`. -/
theorem readSpec_cons {keep : Entry → Bool} {scan TL : Int} {e : Entry} {rest acc : List Entry} {total : Int}
    {o : Option Int} {r : List Entry × Option Int} {n : Nat}
    (h : ReadSpec keep scan TL rest (acc ++ [e].filter keep) (total + 1) (some e.ts) r n) :
    ReadSpec keep scan TL (e :: rest) acc total o r (n + 1) where
  le := Nat.succ_le_succ h.le
  kept := by
    rw [h.kept, List.append_assoc, ← List.filter_append]
    rfl
  len_le := h.len_le
  all_of_none hnone := by rw [h.all_of_none hnone]; rfl
  of_some c hsome := by
    obtain ⟨hlast, hb⟩ := h.of_some c hsome
    refine ⟨hlast, fun hl => ?_⟩
    have := hb hl
    omega

/-- The cases are those of `readEntries`: the end of the file, within the budget and beyond it; a kept record
that fills the page, a kept one that does not, a skipped one; the budget used up before the end. -/
theorem readEntries_spec (keep : Entry → Bool) (scan TL : Int) (rem acc : List Entry) (total : Int)
    (o : Option Int) : (acc.length : Int) < TL →
      -- the budget is used up only after a record was read (needed for `all_of_none`)
      ((total < scan ∨ scan ≤ 0) ∨ o.isSome) →
      ∃ n, ReadSpec keep scan TL rem acc total o (readEntries keep scan TL rem acc total o) n := by
  fun_induction readEntries keep scan TL rem acc total o with
  | case1 acc total o hc =>
    intro hlt _
    exact ⟨0, by simp, by simp, by simp; omega, fun _ => rfl, nofun⟩
  | case2 acc total o hc =>
    intro hlt hl
    exact ⟨0, by simp, by simp, by simp; omega,
      fun h => absurd (hl.resolve_left hc) (by simp [show o = none from h]), fun c hc' => ⟨hc', fun _ => by omega⟩⟩
  | case3 e rest acc total o hc hk hfull =>
    intro hlt _
    exact ⟨1, by simp, by simp [hk], by dsimp only; omega, by simp,
      fun c hc' => ⟨hc', fun hl' => by dsimp only at hl'; omega⟩⟩
  | case4 e rest acc total o hc hk hfull ih =>
    intro hlt _
    obtain ⟨n, h⟩ := ih (by simp at hfull ⊢; omega) (Or.inr rfl)
    exact ⟨n + 1, readSpec_cons (by simpa [hk] using h)⟩
  | case5 e rest acc total o hc hk ih =>
    intro hlt _
    obtain ⟨n, h⟩ := ih hlt (Or.inr rfl)
    exact ⟨n + 1, readSpec_cons (by simpa [hk] using h)⟩
  | case6 e rest acc total o hc =>
    intro hlt hl
    exact ⟨0, by simp, by simp, by dsimp only; omega,
      fun h => absurd (hl.resolve_left hc) (by simp [show o = none from h]), fun c hc' => ⟨hc', fun _ => by omega⟩⟩

theorem readEntries_unlimited (keep : Entry → Bool) (scan TL : Int) (hscan : scan ≤ 0)
    (rem acc : List Entry) (total : Int) (o : Option Int) (hlt : (acc.length : Int) < TL) :
    (readEntries keep scan TL rem acc total o).1 = acc ++ (rem.filter keep).take (TL.toNat - acc.length) := by
  obtain ⟨n, h⟩ := readEntries_spec keep scan TL rem acc total o hlt (Or.inl (Or.inr hscan))
  have hpre := List.prefix_iff_eq_take.mp ((List.take_prefix n rem).filter keep)
  have h2 := h.len_le
  have h4 := h.of_some
  rw [h.kept, List.length_append] at h2 h4
  rw [h.kept, List.append_cancel_left_eq]
  cases hO : (readEntries keep scan TL rem acc total o).2 with
  | none =>
    rw [h.all_of_none hO, List.take_length] at h2 ⊢
    rw [List.take_of_length_le (by omega)]
  | some c =>
    have hb := (h4 c hO).2
    rw [hpre]
    congr 1
    omega

theorem fileSeek_found_iff {f : List Entry} {t : Int} {k : Nat} :
    fileSeek f t = .found k ↔ f.findIdx? (fun e => e.ts == t) = some k := by
  unfold fileSeek
  cases f.findIdx? (fun e => e.ts == t) with
  | some k' => simp
  | none =>
    simp only [reduceCtorEq, iff_false]
    split
    · nofun
    · split <;> nofun

theorem fileSeek_absent {f : List Entry} {t : Int} (h : ∀ e ∈ f, e.ts ≠ t) :
    fileSeek f t = if f.all (fun e => decide (t < e.ts)) then .tooEarly
      else if f.all (fun e => decide (e.ts < t)) then .tooLate else .notFound := by
  unfold fileSeek
  rw [List.findIdx?_eq_none_iff.mpr (by simpa using h)]

/-- The record found, in the reader's order: `pre` is what the seek leaves behind, `x :: rest` what is read next. -/
theorem fileSeek_found {f : List Entry} {t : Int} {k : Nat} (h : fileSeek f t = .found k) :
    ∃ pre x rest, x.ts = t ∧ f.reverse = pre ++ x :: rest ∧ (f.take (k + 1)).reverse = x :: rest := by
  obtain ⟨hk, hx, _⟩ := List.findIdx?_eq_some_iff_getElem.mp (fileSeek_found_iff.mp h)
  have hkx := List.getElem?_eq_getElem hk
  refine ⟨(f.drop (k + 1)).reverse, f[k], (f.take k).reverse, by simpa using hx, ?_, ?_⟩
  · conv => lhs; rw [eq_take_cons_drop hkx]
    simp
  · rw [List.take_add_one, hkx]
    simp

theorem fileSeek_tooEarly_iff {f : List Entry} {t : Int} : fileSeek f t = .tooEarly ↔ ∀ e ∈ f, t < e.ts := by
  constructor
  · fun_cases fileSeek f t with
    | case2 _ hall => intro _; simpa using hall
    -- found, too late, not found
    | _ => intro h; cases h
  · intro h
    rw [fileSeek_absent fun e he => Int.ne_of_gt (h e he), if_pos]
    simpa using h

theorem fileSeek_found_of_mem {f : List Entry} {t : Int} {e : Entry} (he : e ∈ f) (ht : e.ts = t) :
    ∃ k, fileSeek f t = .found k := by
  cases hf : f.findIdx? (fun e => e.ts == t) with
  | some k => exact ⟨k, fileSeek_found_iff.mpr hf⟩
  | none =>
    have := List.findIdx?_eq_none_iff.mp hf e he
    simp [ht] at this

theorem fileSeek_all_lt {f : List Entry} {t : Int} (hne : f ≠ []) (h : ∀ e ∈ f, e.ts < t) :
    fileSeek f t = .tooLate := by
  obtain ⟨x, hx⟩ := List.exists_mem_of_ne_nil f hne
  rw [fileSeek_absent fun e he => Int.ne_of_lt (h e he), if_neg, if_pos]
  · simpa using h
  · simp only [List.all_eq_true, decide_eq_true_eq]
    intro hall
    have := h x hx
    have := hall x hx
    omega

/-- `seekTS` over the files by the outcome in the current file alone: an empty
file answers "too early", so an absent current file is not a case of its own.  The form to rewrite with where
the outcome of `fileSeek` is known; `seekFiles_absent`, whose hypothesis fixes none, walks the exits instead. -/
theorem seekFiles_eq (rot cur : List Entry) (t : Int) :
    seekFiles rot cur t =
      match fileSeek cur t with
      | .found k => some ((cur.take (k + 1)).reverse ++ rot.reverse)
      | .tooLate => some (filesRev rot cur)
      | .notFound => none
      | .tooEarly => if rot = [] then (if cur = [] then some [] else none) else seekRot rot cur t := by
  unfold seekFiles
  by_cases hc : cur = []
  · subst hc
    by_cases hr : rot = [] <;> simp [hr, fileSeek]
  · simp only [ne_eq, hc, not_false_eq_true, if_true, if_false]
    cases fileSeek cur t <;> simp

theorem desc_filesRev {rot cur : List Entry} (hA : Asc (rot ++ cur)) : Desc (filesRev rot cur) := by
  rw [filesRev, ← List.reverse_append]
  exact List.pairwise_reverse.mpr hA

/-- The seek to the time of a record of the files lands on that record. -/
theorem seekFiles_of_mem {rot cur : List Entry} {t : Int} (hA : Asc (rot ++ cur))
    (ht : ∃ e ∈ rot ++ cur, e.ts = t) :
    ∃ pre x rest, x.ts = t ∧ filesRev rot cur = pre ++ x :: rest ∧ seekFiles rot cur t = some (x :: rest) := by
  obtain ⟨e, he, hts⟩ := ht
  rw [seekFiles_eq]
  rcases List.mem_append.mp he with her | hec
  · have hcur : ∀ x ∈ cur, t < x.ts := fun x hx => hts ▸ (List.pairwise_append.mp hA).2.2 e her x hx
    obtain ⟨k, hk⟩ := fileSeek_found_of_mem her hts
    obtain ⟨pre, x, rest, hxt, hrev, htake⟩ := fileSeek_found hk
    rw [fileSeek_tooEarly_iff.mpr hcur]
    simp only
    rw [if_neg (List.ne_nil_of_mem her), seekRot, hk]
    exact ⟨cur.reverse ++ pre, x, rest, hxt, by rw [filesRev, hrev, List.append_assoc], by simp only [htake]⟩
  · obtain ⟨k, hk⟩ := fileSeek_found_of_mem hec hts
    obtain ⟨pre, x, rest, hxt, hrev, htake⟩ := fileSeek_found hk
    rw [hk]
    exact ⟨pre, x, rest ++ rot.reverse, hxt, by rw [filesRev, hrev, List.append_assoc]; rfl,
      by simp only [htake, List.cons_append]⟩

theorem seekFiles_all_lt {rot cur : List Entry} {t : Int} (h : ∀ e ∈ rot ++ cur, e.ts < t) :
    seekFiles rot cur t = some (filesRev rot cur) := by
  rw [seekFiles_eq]
  by_cases hc : cur = []
  · subst hc
    rw [fileSeek_tooEarly_iff.mpr (by simp)]
    by_cases hr : rot = []
    · subst hr
      rfl
    · simp only
      rw [if_neg hr, seekRot, fileSeek_all_lt hr (by simpa using h)]
  · rw [fileSeek_all_lt hc fun x hx => h x (List.mem_append_right _ hx)]

/-- A seek to a time that no record of the files has succeeds only by starting from the top
(`tooLate` in the file it stops at). The cases are the exits of `seekFiles`: found, too late, not found in the
current file; too early there, with a rotated file and without; no current file, with a rotated one and without. -/
theorem seekFiles_absent {rot cur : List Entry} {t : Int} {rem : List Entry}
    (hn : ∀ e ∈ rot ++ cur, e.ts ≠ t) : seekFiles rot cur t = some rem → rem = filesRev rot cur := by
  have hfile : ∀ f, (∀ e ∈ f, e ∈ rot ++ cur) → ∀ k, fileSeek f t ≠ .found k := fun f hf k hk =>
    have ⟨pre, x, rest, hxt, hrev, _⟩ := fileSeek_found hk
    hn x (hf x (List.mem_reverse.mp (hrev ▸ List.mem_append_right _ List.mem_cons_self))) hxt
  have hrot : seekRot rot cur t = some rem → rem = filesRev rot cur := by
    fun_cases seekRot rot cur t with
    | case1 k hk => exact absurd hk (hfile rot (fun _ => List.mem_append_left _) k)
    | case2 => exact fun h => (Option.some.inj h).symm
    | case3 | case4 => nofun
  fun_cases seekFiles rot cur t with
  | case1 hc k hk => exact absurd hk (hfile cur (fun _ => List.mem_append_right _) k)
  | case2 => exact fun h => (Option.some.inj h).symm
  | case3 => nofun
  | case4 => exact hrot
  | case5 => nofun
  | case6 => exact hrot
  | case7 hc hr =>
    intro h
    rw [← Option.some.inj h, Decidable.not_not.mp hr, Decidable.not_not.mp hc]
    rfl

theorem seekFiles_some {rot cur : List Entry} {t : Int} {rem : List Entry}
    (hA : Asc (rot ++ cur)) (h : seekFiles rot cur t = some rem) :
    ∃ pre, filesRev rot cur = pre ++ rem ∧ ∀ e ∈ pre, t < e.ts := by
  by_cases ht : ∃ e ∈ rot ++ cur, e.ts = t
  · obtain ⟨pre, x, rest, hxt, hsplit, hseek⟩ := seekFiles_of_mem hA ht
    cases hseek.symm.trans h
    exact ⟨pre, hsplit, hxt ▸ (desc_split (hsplit ▸ desc_filesRev hA)).1⟩
  · exact ⟨[], by rw [seekFiles_absent (fun e he hts => ht ⟨e, he, hts⟩) h]; rfl, nofun⟩

theorem seekRecord_some {rot cur : List Entry} {ot : Option Int} {rem : List Entry}
    (hA : Asc (rot ++ cur)) (h : seekRecord rot cur ot = some rem) :
    ∃ pre, filesRev rot cur = pre ++ rem ∧ ∀ e ∈ pre, ∃ t, ot = some t ∧ t < e.ts := by
  cases ot with
  | none =>
    simp only [seekRecord, Option.some.injEq] at h
    exact ⟨[], by simp [h], by simp⟩
  | some t =>
    obtain ⟨pre, h1, h2⟩ := seekFiles_some hA h
    exact ⟨pre, h1, fun e he => ⟨t, rfl, h2 e he⟩⟩

/-- The seek lands ON the record that carries the cursor's time, not behind it: the first record
read may be that record again, and only from the second on (`rem.tail`) are all older than the cursor. -/
theorem seekRecord_cursor {rot cur mem : List Entry} {t : Int} (hA : Asc (rot ++ cur ++ mem))
    (ht : ∃ e ∈ rot ++ cur ++ mem, e.ts = t) :
    ∃ rem, seekRecord rot cur (some t) = some rem ∧ ∀ x ∈ rem.tail, x.ts < t := by
  obtain ⟨e, he, hts⟩ := ht
  have hP := List.pairwise_append.mp hA
  rcases List.mem_append.mp he with hef | hem
  · obtain ⟨pre, x, rest, hxt, hsplit, hseek⟩ := seekFiles_of_mem hP.1 ⟨e, hef, hts⟩
    exact ⟨_, hseek, hxt ▸ (desc_split (hsplit ▸ desc_filesRev hP.1)).2⟩
  · have hlt : ∀ x ∈ rot ++ cur, x.ts < t := fun x hx => hts ▸ hP.2.2 x hx e hem
    refine ⟨_, seekFiles_all_lt hlt, fun x hx => hlt x ?_⟩
    rw [← List.mem_reverse, List.reverse_append]
    exact List.mem_of_mem_tail hx

end AGH.C07
