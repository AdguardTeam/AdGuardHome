/-
C13, independence from partial runs: the erasure `er` (what re-encoding and
re-reading does to the document in memory) with its lemmas, the invariant `inv`
(where Go-typed values may live), and `Keyed`, the form `inv`, `subOK` and `clean`
share, with the rules by which reading, writing and deleting a field keep each of
them.  Core Lean only.

Between two partial runs the document is written and read again: a
`timeutil.Duration` comes back as a string, a `[]string` as a sequence, an
`UpstreamMode` as a string; every other value comes back as itself provided
re-encoding does not change the type of a scalar (`clean`: the hypothesis that
excludes the known finding — an integral float comes back as an int).
-/
import AGH.Lemmas.Migrate
namespace AGH.C13
open AGH

mutual
/-- The document in memory as it is read back after having been written: the model's `reparse` made
total, so that two runs can be compared on it.  It keeps an `.opaque` scalar as it is where `reparse` asks
the round-trip oracle `o.rt` (a difference `clean` excludes), and renders a duration whose string is not
shipped as the empty string where `reparse` gives `none` (`FmtTotal` excludes that).  On a `clean`
document both are the identity (`er_of_clean`, `reparse_clean`); under `inv` and `FmtTotal`,
`reparse o d = some (er o d)` (`reparse_inv` in `MigratePath.lean`).  What `reparse` does to the fields of a
map under no hypothesis is `reparse_getK` (`MigrateRun.lean`). -/
def er (o : Oracles) : YVal → YVal
  | .arr xs => .arr (erList o xs)
  | .obj es => .obj (erEnts o es)
  | .dur n => .str ((o.fmtDays n).getD [])
  | .strs xs => .arr (xs.map .str)
  | .umode s => .str s
  | v => v
def erList (o : Oracles) : List YVal → List YVal
  | [] => []
  | x :: xs => er o x :: erList o xs
def erEnts (o : Oracles) : List (Key × YVal) → List (Key × YVal)
  | [] => []
  | (k, v) :: es => (k, er o v) :: erEnts o es
end

mutual
/-- No Go-typed value inside, and every non-generic scalar is read back as itself. -/
def clean (o : Oracles) : YVal → Bool
  | .opaque k p =>
    match o.rt k p with
    | some (.opaque k' p') => k' == k && p' == p
    | _ => false
  | .arr xs => cleanList o xs
  | .obj es => cleanEnts o es
  | .dur _ => false
  | .strs _ => false
  | .umode _ => false
  | _ => true
def cleanList (o : Oracles) : List YVal → Bool
  | [] => true
  | x :: xs => clean o x && cleanList o xs
def cleanEnts (o : Oracles) : List (Key × YVal) → Bool
  | [] => true
  | (_, v) :: es => clean o v && cleanEnts o es
end

/-- A value as Go holds it and YAML does not: `timeutil.Duration`, `[]string`, `UpstreamMode`. -/
def isTypedLeaf : YVal → Bool
  | .dur _ => true
  | .strs _ => true
  | .umode _ => true
  | _ => false

/-- What may sit at a place where a step leaves a Go-typed value. -/
def excOK (o : Oracles) (v : YVal) : Bool := clean o v || isTypedLeaf v

def subOK (o : Oracles) (ex : List Key) : YVal → Bool
  | .obj ws => ws.all (fun e => if e.1 ∈ ex then excOK o e.2 else clean o e.2)
  | v => clean o v

/-- What `subOK o ex` asks of the field `k` of a section (`subOK_keyed`). -/
def kidOK (o : Oracles) (ex : List Key) (k : Key) (v : YVal) : Bool :=
  if k ∈ ex then excOK o v else clean o v

theorem kidOK_of_not_mem {o : Oracles} {ex : List Key} {k : Key} (hk : k ∉ ex) : kidOK o ex k = clean o := by
  funext v; simp [kidOK, hk]

theorem kidOK_of_mem {o : Oracles} {ex : List Key} {k : Key} (hk : k ∈ ex) : kidOK o ex k = excOK o := by
  funext v; simp [kidOK, hk]

/-- The keys of a top-level section at which Go-typed values may sit:
`dns.querylog_interval` (v12), `dns.upstream_mode` (v28), `querylog.interval`
(moved there by v15), `statistics.interval` (v20), `filtering.safe_fs_patterns` (v29). -/
def exc (k : Key) : List Key :=
  if k = kDns then [kQuerylogInterval, kUpstreamMode]
  else if k = kQuerylog then [kInterval]
  else if k = kStatistics then [kInterval]
  else if k = kFiltering then [kSafeFsPatterns]
  else []

/-- The invariant of path independence: the document is a map of sections, and Go-typed values sit
only where `exc` says. -/
def inv (o : Oracles) : YVal → Bool
  | .obj es => es.all (fun e => subOK o (exc e.1) e.2)
  | _ => false

/-- Hypothesis of path independence: the decoded document holds no scalar whose
re-encoding changes its type (decidable over the shipped round-trip oracle). -/
def ReencodeStable (o : Oracles) (doc : YVal) : Bool := clean o doc

/-- `timeutil.Duration.String` is total. -/
def FmtTotal (o : Oracles) : Prop := ∀ n, (o.fmtDays n).isSome = true

@[simp] theorem er_null (o) : er o .null = .null := rfl
@[simp] theorem er_bool (o b) : er o (.bool b) = .bool b := rfl
@[simp] theorem er_int (o i) : er o (.int i) = .int i := rfl
@[simp] theorem er_str (o s) : er o (.str s) = .str s := rfl
@[simp] theorem er_opaque (o k p) : er o (.opaque k p) = .opaque k p := rfl
@[simp] theorem er_arr (o xs) : er o (.arr xs) = .arr (erList o xs) := rfl
@[simp] theorem er_obj (o es) : er o (.obj es) = .obj (erEnts o es) := rfl
@[simp] theorem er_dur (o n) : er o (.dur n) = .str ((o.fmtDays n).getD []) := rfl
@[simp] theorem er_strs (o xs) : er o (.strs xs) = .arr (xs.map .str) := rfl
@[simp] theorem er_umode (o s) : er o (.umode s) = .str s := rfl
@[simp] theorem erList_nil (o) : erList o [] = [] := rfl
@[simp] theorem erList_cons (o x xs) : erList o (x :: xs) = er o x :: erList o xs := rfl
@[simp] theorem erEnts_nil (o) : erEnts o [] = [] := rfl
@[simp] theorem erEnts_cons (o k v es) : erEnts o ((k, v) :: es) = (k, er o v) :: erEnts o es := rfl

theorem erList_eq_map (o : Oracles) (xs : List YVal) : erList o xs = xs.map (er o) := by
  induction xs with
  | nil => rfl
  | cons x xs ih => rw [erList_cons, ih, List.map_cons]

theorem erList_strs (o : Oracles) (xs : List Bytes) : erList o (xs.map .str) = xs.map .str := by
  rw [erList_eq_map, List.map_map]
  rfl

mutual
theorem er_idem (o : Oracles) : ∀ v, er o (er o v) = er o v
  | .arr xs => congrArg YVal.arr (erList_idem o xs)
  | .obj es => congrArg YVal.obj (erEnts_idem o es)
  | .strs xs => congrArg YVal.arr (erList_strs o xs)
  | .null | .bool _ | .int _ | .str _ | .opaque _ _ | .dur _ | .umode _ => rfl
theorem erList_idem (o : Oracles) : ∀ xs, erList o (erList o xs) = erList o xs
  | [] => rfl
  | x :: xs => by rw [erList_cons, erList_cons, er_idem o x, erList_idem o xs]
theorem erEnts_idem (o : Oracles) : ∀ es, erEnts o (erEnts o es) = erEnts o es
  | [] => rfl
  | (k, v) :: es => by rw [erEnts_cons, erEnts_cons, er_idem o v, erEnts_idem o es]
end

mutual
theorem er_of_clean (o : Oracles) : ∀ v, clean o v = true → er o v = v
  | .arr xs, h => congrArg YVal.arr (erList_of_clean o xs h)
  | .obj es, h => congrArg YVal.obj (erEnts_of_clean o es h)
  | .null, _ | .bool _, _ | .int _, _ | .str _, _ | .opaque _ _, _ => rfl
  | .dur _, h | .strs _, h | .umode _, h => by cases h
theorem erList_of_clean (o : Oracles) : ∀ xs, cleanList o xs = true → erList o xs = xs
  | [], _ => rfl
  | x :: xs, h => by
    simp only [cleanList, Bool.and_eq_true] at h
    rw [erList_cons, er_of_clean o x h.1, erList_of_clean o xs h.2]
theorem erEnts_of_clean (o : Oracles) : ∀ es, cleanEnts o es = true → erEnts o es = es
  | [], _ => rfl
  | (k, v) :: es, h => by
    simp only [cleanEnts, Bool.and_eq_true] at h
    rw [erEnts_cons, er_of_clean o v h.1, erEnts_of_clean o es h.2]
end

mutual
theorem reparse_clean (o : Oracles) : ∀ v, clean o v = true → reparse o v = some v
  | .null, _ => by simp [reparse]
  | .bool _, _ => by simp [reparse]
  | .int _, _ => by simp [reparse]
  | .str _, _ => by simp [reparse]
  | .opaque k p, h => by
    simp only [clean] at h
    simp only [reparse]
    cases hr : o.rt k p with
    | none => simp [hr] at h
    | some w =>
      cases w <;> simp [hr] at h
      obtain ⟨rfl, rfl⟩ := h; rfl
  | .arr xs, h => by simp only [clean] at h; simp [reparse, reparseList_clean o xs h]
  | .obj es, h => by simp only [clean] at h; simp [reparse, reparseEntries_clean o es h]
  | .dur _, h => by simp [clean] at h
  | .strs _, h => by simp [clean] at h
  | .umode _, h => by simp [clean] at h
theorem reparseList_clean (o : Oracles) : ∀ xs, cleanList o xs = true → reparseList o xs = some xs
  | [], _ => by simp [reparseList]
  | x :: xs, h => by
    simp [cleanList] at h
    simp [reparseList, reparse_clean o x h.1, reparseList_clean o xs h.2]
theorem reparseEntries_clean (o : Oracles) : ∀ es, cleanEnts o es = true → reparseEntries o es = some es
  | [], _ => by simp [reparseEntries]
  | (k, v) :: es, h => by
    simp [cleanEnts] at h
    simp [reparseEntries, reparse_clean o v h.1, reparseEntries_clean o es h.2]
end

theorem lookup_erEnts (o : Oracles) (k : Key) (es : List (Key × YVal)) :
    lookup k (erEnts o es) = (lookup k es).map (er o) := by
  fun_induction lookup k es with
  | case1 => rfl
  | case2 v es => exact if_pos rfl
  | case3 k' v es h ih => rw [erEnts_cons, lookup, if_neg h, ih]

theorem erEnts_insert (o : Oracles) (k : Key) (v : YVal) (es : List (Key × YVal)) :
    erEnts o (insert k v es) = insert k (er o v) (erEnts o es) := by
  fun_induction insert k v es with
  | case1 => rfl
  | case2 v' es => exact (if_pos rfl).symm
  | case3 k' v' es h ih => rw [erEnts_cons, erEnts_cons, insert, if_neg h, ih]

theorem erEnts_erase (o : Oracles) (k : Key) (es : List (Key × YVal)) :
    erEnts o (erase k es) = erase k (erEnts o es) := by
  fun_induction erase k es with
  | case1 => rfl
  | case2 v' es ih => exact ih.trans (if_pos rfl).symm
  | case3 k' v' es h ih => rw [erEnts_cons, erEnts_cons, erase, if_neg h, ih]

theorem erList_map (o : Oracles) (f : YVal → YVal) (hf : ∀ x, er o (f x) = f (er o x)) (xs : List YVal) :
    erList o (xs.map f) = (erList o xs).map f := by
  induction xs with
  | nil => rfl
  | cons x xs ih => simp [hf, ih]

theorem getK_er (o : Oracles) (m : YVal) (k : Key) : getK (er o m) k = (getK m k).map (er o) := by
  cases m <;> simp [getK, lookup_erEnts]

theorem er_putK (o : Oracles) (m : YVal) (k : Key) (v : YVal) :
    er o (putK m k v) = putK (er o m) k (er o v) := by
  cases m <;> simp [putK, erEnts_insert]

theorem er_delK (o : Oracles) (m : YVal) (k : Key) : er o (delK m k) = delK (er o m) k := by
  cases m <;> simp [delK, erEnts_erase]

theorem isEmptyObj_er (o : Oracles) (m : YVal) : isEmptyObj (er o m) = isEmptyObj m := by
  cases m with
  | obj es => cases es <;> rfl
  | _ => rfl

theorem isEmptyObj_erEnts (o : Oracles) (es) : isEmptyObj (.obj (erEnts o es)) = isEmptyObj (.obj es) := by
  rw [← er_obj, isEmptyObj_er]

theorem setK_er (o : Oracles) (m : YVal) (k : Key) (v : YVal) :
    setK (er o m) k (er o v) = (setK m k v).map (er o) := by
  cases m <;> simp [setK, Except.map, erEnts_insert]

theorem intOf_er (o : Oracles) (v : YVal) : intOf (er o v) = intOf v := by
  cases v <;> rfl

def FV.er (o : Oracles) (r : FV) : FV := ⟨C13.er o r.v, r.ok, r.err⟩

@[simp] theorem FV.er_v (o : Oracles) (r : FV) : (r.er o).v = C13.er o r.v := rfl
@[simp] theorem FV.er_ok (o : Oracles) (r : FV) : (r.er o).ok = r.ok := rfl
@[simp] theorem FV.er_err (o : Oracles) (r : FV) : (r.er o).err = r.err := rfl

@[simp] theorem er_zeroOf (o : Oracles) (T : Ty) : er o (zeroOf T) = zeroOf T := by
  cases T <;> rfl

/-- Reading a field of the re-read map gives the re-read field, unless a string
(sequence) is asked for where a Go-typed duration or mode (string list) sits. -/
theorem fieldVal_er (o : Oracles) (T : Ty) (m : YVal) (k : Key)
    (h : T = .str ∨ T = .arr → ∀ c, getK m k = some c → isTypedLeaf c = false) :
    fieldVal T (er o m) k = (fieldVal T m k).er o := by
  unfold fieldVal
  rw [getK_er]
  cases hg : getK m k with
  | none => cases T <;> rfl
  | some c =>
    have hc := fun hT => h hT c hg
    -- `er` keeps the constructor of every value but the Go-typed ones
    cases c <;> cases T <;> first | rfl | exact absurd (hc (by simp)) (by simp [isTypedLeaf])

theorem not_isTypedLeaf_of_clean (o : Oracles) (c : YVal) (h : clean o c = true) : isTypedLeaf c = false := by
  cases c <;> first | rfl | cases h

theorem not_isTypedLeaf_of_subOK {o : Oracles} {ex : List Key} {c : YVal} (h : subOK o ex c = true) :
    isTypedLeaf c = false := by
  cases c <;> first | rfl | exact absurd h (by simp [subOK, clean])

theorem clean_zeroOf (o : Oracles) (T : Ty) : clean o (zeroOf T) = true := by
  cases T <;> rfl

theorem cleanEnts_eq_all (o : Oracles) (es : List (Key × YVal)) : cleanEnts o es = es.all fun e => clean o e.2 := by
  induction es with
  | nil => rfl
  | cons e es ih => obtain ⟨k, w⟩ := e; simp [cleanEnts, ih]

theorem excOK_of_clean {o : Oracles} {v : YVal} (h : clean o v = true) : excOK o v = true := by simp [excOK, h]

/-- The form `inv` (over the sections), `subOK` (over the fields of a section) and `clean` share, so that
what reading, writing and deleting a field keep is proved once. -/
structure Keyed (o : Oracles) (P : YVal → Bool) (Q : Key → YVal → Bool) : Prop where
  obj : ∀ es, P (.obj es) = es.all fun e => Q e.1 e.2
  of_clean : ∀ k v, clean o v = true → Q k v = true

theorem clean_keyed (o : Oracles) : Keyed o (clean o) fun _ => clean o :=
  ⟨fun es => by rw [clean, cleanEnts_eq_all], fun _ _ h => h⟩

theorem subOK_keyed (o : Oracles) (ex : List Key) : Keyed o (subOK o ex) (kidOK o ex) :=
  ⟨fun _ => rfl, fun k v hv => by simp [kidOK, excOK, hv]⟩

theorem Keyed.obj_iff {o : Oracles} {P : YVal → Bool} {Q : Key → YVal → Bool} (hK : Keyed o P Q)
    {es : List (Key × YVal)} : P (.obj es) = true ↔ ∀ e ∈ es, Q e.1 e.2 = true := by
  rw [hK.obj, List.all_eq_true]

theorem Keyed.obj_of_clean {o : Oracles} {P : YVal → Bool} {Q : Key → YVal → Bool} (hK : Keyed o P Q)
    {es : List (Key × YVal)} (h : clean o (.obj es) = true) : P (.obj es) = true :=
  hK.obj_iff.mpr fun e he => hK.of_clean _ _ ((clean_keyed o).obj_iff.mp h e he)

theorem subOK_nil (o : Oracles) (v : YVal) : subOK o [] v = clean o v := by
  cases v <;> try rfl
  rw [(subOK_keyed o []).obj, (clean_keyed o).obj]
  rfl

theorem subOK_of_clean (o : Oracles) (ex : List Key) (v : YVal) (h : clean o v = true) : subOK o ex v = true := by
  cases v <;> try exact h
  exact (subOK_keyed o ex).obj_of_clean h

theorem subOK_plain (o : Oracles) {k : Key} (hk : exc k = []) : subOK o (exc k) = clean o := by
  rw [hk]; exact funext (subOK_nil o)

theorem inv_keyed (o : Oracles) : Keyed o (inv o) fun k => subOK o (exc k) :=
  ⟨fun _ => rfl, fun k v => subOK_of_clean o (exc k) v⟩

theorem inv_of_clean (o : Oracles) (es : List (Key × YVal)) (h : clean o (.obj es) = true) :
    inv o (.obj es) = true :=
  (inv_keyed o).obj_of_clean h

section keyed
variable {o : Oracles} {P : YVal → Bool} {Q : Key → YVal → Bool} (hK : Keyed o P Q)
include hK

theorem Keyed.get {m : YVal} (h : P m = true) {k : Key} {c : YVal} (hg : getK m k = some c) :
    Q k c = true := by
  cases m <;> simp [getK] at hg
  exact hK.obj_iff.mp h _ (mem_of_lookup hg)

theorem Keyed.read {m : YVal} (h : P m = true) (T : Ty) (k : Key) : Q k (fieldVal T m k).v = true := by
  rcases fieldVal_v_cases T m k with hv | hg
  · rw [hv]; exact hK.of_clean k _ (clean_zeroOf o T)
  · exact hK.get h hg

theorem Keyed.put {m : YVal} (h : P m = true) {k : Key} {v : YVal} (hv : Q k v = true) :
    P (putK m k v) = true := by
  cases m <;> try exact h
  refine hK.obj_iff.mpr fun e he => ?_
  rcases mem_insert he with rfl | he
  · exact hv
  · exact hK.obj_iff.mp h e he

theorem Keyed.del {m : YVal} (h : P m = true) (k : Key) : P (delK m k) = true := by
  cases m <;> try exact h
  exact hK.obj_iff.mpr fun e he => hK.obj_iff.mp h e (mem_erase he)

end keyed

theorem er_fv_sub {o : Oracles} {D : YVal} (hD : inv o D = true) (T : Ty) (k : Key) {k2 : Key} (hk : k2 ∉ exc k)
    (T2 : Ty) : er o (fieldVal T2 (fieldVal T D k).v k2).v = (fieldVal T2 (fieldVal T D k).v k2).v := by
  have := (subOK_keyed o _).read ((inv_keyed o).read hD T k) T2 k2
  rw [kidOK_of_not_mem hk] at this
  exact er_of_clean _ _ this

end AGH.C13
