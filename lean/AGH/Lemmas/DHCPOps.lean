/-
C10 — what the searches and checks of the model find, the in-place changes of one table lease
(hardware address, hostname, expiry), and the ways `commitName` and `allocateLease` end.
-/
import AGH.Lemmas.DHCPTable
namespace AGH.C10
open AGH

variable {O : Oracle} {c : Conf} {s : State} {mac host hn : Bytes} {ip sid rip ci : Nat} {rp : Bool}
  {l : Lease} {A B : List Lease}

theorem mapId_of_ne {id : Nat} {f : Lease → Lease} {L : List Lease} (h : ∀ x ∈ L, x.id ≠ id) : mapId id f L = L := by
  unfold mapId
  conv => rhs; rw [← List.map_id L]
  exact List.map_congr_left fun x hx => if_neg (h x hx)

theorem mapId_split {f : Lease → Lease}
    (h : ((A ++ l :: B).map (·.id)).Nodup) : mapId l.id f (A ++ l :: B) = A ++ f l :: B := by
  have hm := (nodup_map_middle_iff.1 h).2
  have hA : mapId l.id f A = A := mapId_of_ne fun x hx => hm x (List.mem_append.2 (.inl hx))
  have hB : mapId l.id f B = B := mapId_of_ne fun x hx => hm x (List.mem_append.2 (.inr hx))
  unfold mapId at hA hB ⊢
  rw [List.map_append, List.map_cons, if_pos rfl, hA, hB]

theorem find_id_mem {L : List Lease} {y : Lease} (h : (L.map (·.id)).Nodup) (hy : y ∈ L) :
    L.find? (fun l => l.id == y.id) = some y := by
  cases hf : L.find? (fun l => l.id == y.id) with
  | none => exact absurd (beq_self_eq_true y.id) (List.find?_eq_none.1 hf y hy)
  | some z =>
    have hid := List.find?_some hf
    exact congrArg some (nodup_map_inj h (List.mem_of_find?_eq_some hf) hy (beq_iff_eq.1 hid))

theorem deref_mem (h : Inv c s) {y : Lease} (hy : y ∈ s.leases) : s.deref y.id = some y := by
  unfold State.deref
  rw [List.find?_append, find_id_mem h.idNodup hy]
  rfl

theorem findLease_some (h : findLease mac s = some l) :
    l ∈ s.leases ∧ l.mac = mac := by
  unfold findLease at h
  exact ⟨List.mem_of_find?_eq_some h, by simpa using List.find?_some h⟩

theorem findLease_none : findLease mac s = none ↔ ∀ y ∈ s.leases, y.mac ≠ mac := by
  unfold findLease
  rw [List.find?_eq_none]
  exact forall₂_congr fun y _ => by rw [beq_iff_eq]

theorem findExpired_eq_find? (now : Nat) (L : List Lease) :
    findExpired now L = L.find? (fun l => !l.static && decide (l.exp < now)) := by
  induction L with
  | nil => rfl
  | cons x xs ih =>
    unfold findExpired
    rw [List.find?_cons, ih]
    cases (!x.static && decide (x.exp < now)) <;> rfl

theorem findExpired_some {now : Nat} {L : List Lease} {l : Lease} (h : findExpired now L = some l) :
    l ∈ L ∧ l.static = false ∧ l.exp < now := by
  rw [findExpired_eq_find?] at h
  exact ⟨List.mem_of_find?_eq_some h, by simpa using List.find?_some h⟩

theorem findExpired_none {now : Nat} {L : List Lease} (h : findExpired now L = none) :
    ∀ l ∈ L, l.static = true ∨ now ≤ l.exp := by
  rw [findExpired_eq_find?] at h
  intro l hl
  have := List.find?_eq_none.1 h l hl
  cases hs : l.static
  · exact .inr (by simpa [hs] using this)
  · exact .inl rfl

theorem firstClear_spec (bits : Nat → Bool) (n o : Nat) :
    (∀ r, firstClear bits n o = some r → o ≤ r ∧ r < o + n ∧ bits r = false) ∧
    (firstClear bits n o = none → ∀ r, o ≤ r → r < o + n → bits r = true) := by
  fun_induction firstClear bits n o with
  | case1 o => exact ⟨nofun, fun _ r h1 h2 => absurd h2 (Nat.not_lt.mpr h1)⟩
  | case2 n o hb ih =>
    refine ⟨fun r h => ?_, fun h r h1 h2 => ?_⟩
    · obtain ⟨h1, h2, h3⟩ := ih.1 r h
      exact ⟨by omega, by omega, h3⟩
    · by_cases hr : r = o
      · rw [hr]; exact hb
      · exact ih.2 h r (by omega) (by omega)
  | case3 n o hb =>
    refine ⟨fun r h => ?_, nofun⟩
    cases h
    exact ⟨Nat.le_refl _, Nat.lt_add_of_pos_right n.succ_pos, Bool.eq_false_iff.mpr hb⟩

theorem checkLease_some {b : Bool} :
    checkLease mac ip s = (some l, b) → l ∈ s.leases ∧ l.mac = mac ∧ l.ip = ip := by
  fun_cases checkLease mac ip s with
  | case1 => nofun
  | case2 l0 hf hip =>
    intro h
    cases h
    exact ⟨(findLease_some hf).1, (findLease_some hf).2, beq_iff_eq.mp hip⟩
  | case3 => nofun

/-- `handleByRequestType`: each of the three kinds of REQUEST ends with no lease, or with the lease `checkLease`
finds for the client at the address the message names. -/
theorem hbrt_ind {P : Option Lease × Bool → Prop} (no : ∀ b, P (none, b))
    (found : ∀ ip l, checkLease mac ip s = (some l, false) → P (some l, true)) :
    P (handleByRequestType c mac sid rp rip ci s) := by
  have sel : ∀ ip, P (match checkLease mac ip s with
      | (_, true) => (none, true)
      | (l, false) => (l, true)) := by
    intro ip
    rcases hc : checkLease mac ip s with ⟨_ | l, _ | _⟩
    · exact no _
    · exact no _
    · exact found ip l hc
    · exact no _
  have chk : ∀ ip, P (match checkLease mac ip s with
      | (_, true) => (none, true)
      | (none, false) => (none, false)
      | (some l, false) => (some l, true)) := by
    intro ip
    rcases hc : checkLease mac ip s with ⟨_ | l, _ | _⟩
    · exact no _
    · exact no _
    · exact found ip l hc
    · exact no _
  unfold handleByRequestType
  have br := @ite_ind (Option Lease × Bool) P
  exact br (fun _ => br (fun _ => no _) (fun _ => br (fun _ => no _) (fun _ => br (fun _ => no _) (fun _ => sel rip))))
    (fun _ => br (fun _ => br (fun _ => no _) (fun _ => br (fun _ => no _) (fun _ => chk rip)))
      (fun _ => br (fun _ => no _) (fun _ => chk ci)))

theorem hbrt_some {b : Bool}
    (h : handleByRequestType c mac sid rp rip ci s = (some l, b)) : l ∈ s.leases ∧ l.mac = mac := by
  revert h
  refine hbrt_ind (P := fun p => p = (some l, b) → l ∈ s.leases ∧ l.mac = mac) (fun _ h => by cases h) ?_
  intro ip l' hc h
  cases h
  exact ⟨(checkLease_some hc).1, (checkLease_some hc).2.1⟩

theorem updStaticCheck_none : updStaticCheck O c mac ip host s = none →
    O.valid host = true ∧ heldByOther s (s.hosts host) mac = false ∧
    heldByOther s (s.ips ip) mac = false ∧
    ip ≠ c.gw ∧ inSubnet c ip = true := by
  fun_cases updStaticCheck O c mac ip host s with
  | case6 h1 h2 h3 h4 h5 =>
    exact fun _ => ⟨by simpa using h1, by simpa using h2, by simpa using h3, h4, by simpa using h5⟩
  -- each of the five tests that fails is a refusal
  | _ => nofun

theorem not_heldByOther {y : Lease} (h : Inv c s) (hy : y ∈ s.leases)
    (hh : heldByOther s (some y.id) mac = false) : y.mac = mac := by
  unfold heldByOther macOfId at hh
  rw [Option.bind_some, deref_mem h hy] at hh
  simpa using hh

/-- Past the checks of `UpdateStaticLease` the `addLease` after `rmLease` cannot fail: the table is not
left without the lease and unsaved. -/
theorem updStatic_add_ok {found : Lease} {s1 : State} (h : Inv c s) (hfound : findLease mac s = some found)
    (hchk : updStaticCheck O c mac ip host s = none) (hr : rmLease c found.mac found.ip found.host s = .ok s1) :
    (∀ y ∈ s1.leases, y.mac ≠ mac ∧ y.ip ≠ ip) ∧
    ∀ id, ∃ s2, addLease c { id := id, mac := mac, ip := ip, host := host, static := true, exp := 0 } s1.fresh.2 = .ok s2 := by
  obtain ⟨_, hdh, hdi, _, hsub⟩ := updStaticCheck_none hchk
  obtain ⟨hfm, hfmac⟩ := findLease_some hfound
  rcases rmLease_spec hr with ⟨he, _⟩ | ⟨A, B, l, hs, hlip, _, _, rfl⟩
  · rw [he] at hfm; cases hfm
  have hlmem : l ∈ s.leases := hs ▸ mem_middle.2 (.inl rfl)
  cases nodup_map_inj h.ipNodup hlmem hfm hlip
  have hin : ∀ y ∈ A ++ B, y ∈ s.leases := fun y hy => hs ▸ mem_middle.2 (.inr hy)
  have hmacs : ∀ y ∈ A ++ B, y.mac ≠ mac := fun y hy => hfmac ▸ (nodup_map_middle_iff.1 (hs ▸ h.macNodup)).2 y hy
  refine ⟨fun y hy => ⟨hmacs y hy, fun he => ?_⟩, fun id => ?_⟩
  · rw [(h.ipsIff ip y.id).2 ⟨y, hin y hy, he, rfl⟩] at hdi
    exact hmacs y hy (not_heldByOther h (hin y hy) hdi)
  · refine ⟨_, addLease_accepts (fun _ => hsub) (fun hs => nomatch hs) fun _ => ?_⟩
    show setFn s.hosts found.host none host = none
    -- an entry for the new name would be the client's old lease, whose name has just been deleted
    by_cases hk : host = found.host
    · rw [hk, setFn_same]
    · rw [setFn_other _ _ _ hk]
      cases hsh : s.hosts host with
      | none => rfl
      | some id0 =>
        obtain ⟨y, hy, hyid, hyh⟩ := h.hostsSound host id0 hsh
        rw [hsh, ← hyid] at hdh
        have : y = found := nodup_map_inj h.macNodup hy hlmem ((not_heldByOther h hy hdh).trans hfmac.symm)
        exact absurd (by rw [← hyh, this]) hk

theorem nextIP_pool {a : Nat} (hn : nextIP c s = some a) :
    c.start ≤ a ∧ a ≤ c.stop ∧ s.bits (a - c.start) = false := by
  unfold nextIP at hn
  cases hfc : firstClear s.bits (c.stop + 1 - c.start) 0 with
  | none => rw [hfc] at hn; cases hn
  | some o =>
    rw [hfc, Option.map_some, Option.some.injEq] at hn
    obtain ⟨_, ho2, ho3⟩ := (firstClear_spec s.bits _ _).1 _ hfc
    subst hn
    exact ⟨Nat.le_add_right _ _, by omega, by rwa [Nat.add_sub_cancel_left]⟩

theorem nextIP_unleased (h : Inv c s) {a : Nat} (hn : nextIP c s = some a) : ∀ y ∈ s.leases, y.ip ≠ a := by
  obtain ⟨h1, h2, hb⟩ := nextIP_pool hn
  intro y hy he
  have : s.bits (a - c.start) = true := (h.bitsIff _).2 ⟨y, hy, he.trans (Nat.add_sub_cancel' h1).symm, he ▸ h2⟩
  rw [hb] at this; cases this

theorem nextIP_none (h : Inv c s) (hn : nextIP c s = none) {a : Nat} (h1 : c.start ≤ a) (h2 : a ≤ c.stop) :
    ∃ l ∈ s.leases, l.ip = a := by
  unfold nextIP at hn
  cases hfc : firstClear s.bits (c.stop + 1 - c.start) 0 with
  | some o => rw [hfc] at hn; cases hn
  | none =>
    obtain ⟨l, hl, hlip, _⟩ :=
      (h.bitsIff (a - c.start)).1 ((firstClear_spec s.bits _ _).2 hfc (a - c.start) (Nat.zero_le _) (by omega))
    exact ⟨l, hl, hlip.trans (Nat.add_sub_cancel' h1)⟩

theorem Inv_fresh (h : Inv c s) : Inv c s.fresh.2 := by
  refine { h with idLt := ?_ }
  intro l hl
  have := h.idLt l hl
  simp only [State.fresh]
  omega

theorem Inv_setIP_same (h : Inv c s) {y : Lease} (hy : y ∈ s.leases) :
    Inv c (s.setIP y.ip y.id) := by
  refine Inv_congr h rfl rfl ?_ rfl rfl rfl
  have : s.ips y.ip = some y.id := (h.ipsIff y.ip y.id).2 ⟨y, hy, rfl, rfl⟩
  funext x
  simp only [State.setIP, setFn]
  split
  · next hx => rw [hx, this]
  · rfl

theorem Inv_setMac (m : Bytes)
    (h : Inv c { s with leases := A ++ l :: B }) (hm : ∀ y ∈ A ++ B, y.mac ≠ m) :
    Inv c { s with leases := A ++ { l with mac := m } :: B } := by
  refine Inv_of_keys h ?_ rfl rfl rfl rfl ?_ ?_ h.hostsNil
  · simp only [List.map_append, List.map_cons]
    rfl
  · exact nodup_map_middle_iff.2 ⟨(nodup_map_middle_iff.1 h.macNodup).1, hm⟩
  · exact HostsSound.replace h.hostsSound rfl fun _ => rfl

theorem renameLease_eq (l : Lease) (hn : Bytes) (e : Nat) (s : State) :
    renameLease l hn e s =
      { s with
        leases := mapId l.id (fun x => { x with host := hn, exp := e }) s.leases
        hosts :=
          if hn ≠ [] then setFn (if l.host ≠ [] ∧ l.host ≠ hn then setFn s.hosts l.host none else s.hosts) hn (some l.id)
          else (if l.host ≠ [] ∧ l.host ≠ hn then setFn s.hosts l.host none else s.hosts)
        hostKeys := if hn ≠ [] then hn :: s.hostKeys else s.hostKeys } := by
  unfold renameLease State.update State.setHost State.delHost
  by_cases hd : l.host ≠ [] ∧ l.host ≠ hn <;> by_cases hne : hn ≠ []
  · simp only [if_pos hd, if_pos hne]
  · simp only [if_pos hd, if_neg hne]
  · simp only [if_neg hd, if_pos hne]
  · simp only [if_neg hd, if_neg hne]

theorem Inv_rename (hn : Bytes) (e : Nat) (h : Inv c s) (hs : s.leases = A ++ l :: B) :
    Inv c (renameLease l hn e s) := by
  have h0 : Inv c { s with leases := A ++ l :: B } := by rw [← hs]; exact h
  have hsd : HostsSound s.hosts (A ++ l :: B) := h0.hostsSound
  have hnil : s.hosts [] = none := h.hostsNil
  rw [renameLease_eq, hs, mapId_split h0.idNodup]
  -- `renameLease` also records the key; no part of the invariant reads `hostKeys`
  refine Inv_congr (Inv_of_hosts s h0
    (HostsSound.enter (l := { l with host := hn, exp := e }) ?_ (mem_middle.2 (.inl rfl)))
    (enter_nil { l with host := hn, exp := e } ?_)) rfl rfl rfl rfl rfl rfl
  · refine ite_ind (P := (HostsSound · _)) (fun _ => hsd.del.mono fun y hy => mem_middle.2 (.inr hy))
      (fun hd => hsd.replace rfl fun hp => ?_)
    -- the old name has an entry and was not deleted: it is not empty, so it is the new name
    exact Decidable.byContradiction fun hne =>
      hd ⟨fun e0 => (by rw [e0, hnil] at hp; cases hp), fun e1 => hne e1.symm⟩
  · exact ite_ind (P := fun f : Bytes → Option Nat => f [] = none) (fun _ => setFn_none_of_none hnil) (fun _ => hnil)

theorem renameLease_leases (l : Lease) (hn : Bytes) (e : Nat) :
    (renameLease l hn e s).leases = mapId l.id (fun x => { x with host := hn, exp := e }) s.leases := by
  rw [renameLease_eq]

theorem renameLease_mem {e : Nat} (hl : l ∈ s.leases) :
    { l with host := hn, exp := e } ∈ (renameLease l hn e s).leases := by
  rw [renameLease_eq]
  exact List.mem_map.2 ⟨l, hl, if_pos rfl⟩

theorem renameLease_hosts_new (e : Nat) (s : State) (hne : hn ≠ []) : (renameLease l hn e s).hosts hn = some l.id := by
  unfold renameLease
  simp only []
  rw [if_pos hne]
  exact setFn_same _ _ _

theorem renameLease_hosts_other (e : Nat) {k : Bytes} (h1 : k ≠ hn) (h2 : k ≠ l.host) :
    (renameLease l hn e s).hosts k = s.hosts k := by
  unfold renameLease
  simp only []
  have br := @ite_ind State (fun u => u.hosts k = s.hosts k)
  have hdel := br (c := l.host ≠ [] ∧ l.host ≠ hn)
    (a := (s.update l.id fun x => { x with host := hn, exp := e }).delHost l.host)
    (b := s.update l.id fun x => { x with host := hn, exp := e }) (fun _ => setFn_other _ _ _ h2) (fun _ => rfl)
  exact br (fun _ => (setFn_other _ _ _ h1).trans hdel) (fun _ => hdel)

theorem commitName_ind {P : Bytes → Prop}
    (wanted : s.hosts (validHost O hn l.ip) = none → P (validHost O hn l.ip))
    (kept : l.host ≠ [] → P l.host)
    (unnamed : l.host = [] → P [])
    (generated : l.host = [] → (s.hosts (validHost O hn l.ip)).isSome = true →
      (c.fixR3 = true → ∀ id, s.hosts (genHost l.ip) = some id → id = l.id) → P (genHost l.ip)) :
    P (commitName O c l hn s) := by
  unfold commitName
  refine ite_ind (fun htaken => ite_ind (fun hlh => ite_ind (fun _ => unnamed hlh) (fun hb => ?_)) kept)
    (fun hfree => wanted (by simpa using hfree))
  refine generated hlh htaken fun hf id hg => Decidable.byContradiction fun hid => hb ?_
  simp [hf, hg, hid]

theorem allocate_ind {P : State × Option (Option Lease) → Prop}
    (full : nextIP c s = none → findExpired s.now s.leases = none → P (s, some none))
    (recycled : nextIP c s = none → ∀ l ∈ s.leases, l.static = false → l.exp < s.now →
      P (s.update l.id (fun x => { x with mac := mac }), some (some { l with mac := mac })))
    (new : ∀ ip s', c.start ≤ ip → ip ≤ c.stop → nextIP c s = some ip →
      addLease c { id := s.nextId, mac := mac, ip := ip, host := [], static := false, exp := 0 } s.fresh.2 = .ok s' →
      P (s', some (some { id := s.nextId, mac := mac, ip := ip, host := [], static := false, exp := 0 }))) :
    P (allocateLease c mac s) := by
  unfold allocateLease
  cases hn : nextIP c s with
  | none =>
    simp only []
    cases hf : findExpired s.now s.leases with
    | none => exact full hn hf
    | some l =>
      obtain ⟨hl, hst, hexp⟩ := findExpired_some hf
      exact recycled hn l hl hst hexp
  | some ip =>
    simp only []
    obtain ⟨h1, h2, _⟩ := nextIP_pool hn
    -- `addLease` cannot refuse: a clear bit is a pool address and the lease has no name
    have hadd := addLease_accepts (c := c) (s := s.fresh.2)
      (l := { id := s.nextId, mac := mac, ip := ip, host := [], static := false, exp := 0 })
      (fun hs => nomatch hs) (fun _ => ⟨h1, h2⟩) (fun hne => absurd rfl hne)
    rw [hadd]
    exact new ip _ h1 h2 hn hadd

theorem allocate_some {s' : State} (h : allocateLease c mac s = (s', some (some l))) :
    l ∈ s'.leases ∧ l.mac = mac ∧ l.static = false := by
  revert h
  refine allocate_ind (P := fun r => r = (s', some (some l)) → l ∈ s'.leases ∧ l.mac = mac ∧ l.static = false)
    (fun _ _ h => nomatch h) (fun _ l0 hl hst _ h => ?_) (fun ip s2 _ _ _ hadd h => ?_)
  · cases h
    exact ⟨List.mem_map.2 ⟨l0, hl, if_pos rfl⟩, rfl, hst⟩
  · cases h
    rw [(addLease_frame hadd).1]
    exact ⟨List.mem_append_right _ (List.mem_singleton.2 rfl), rfl, rfl⟩

theorem allocate_hosts {s' : State} {a : Option (Option Lease)} (h : allocateLease c mac s = (s', a)) :
    s'.hosts = s.hosts := by
  obtain rfl : (allocateLease c mac s).1 = s' := congrArg Prod.fst h
  exact allocate_ind (P := fun r => r.1.hosts = s.hosts) (fun _ _ => rfl) (fun _ _ _ _ _ => rfl)
    (fun _ _ _ _ _ hadd => by obtain ⟨_, _, _, rfl⟩ := addLease_ok hadd; rfl)

end AGH.C10
