/-
C13 loader acceptance: what `Validate` of the `UniqChecker` model returns, and `validateConfig`,
`parseConfig` written as the duplicate checks on what the model registers (`tcpRegs`, `udpRegs`), which
are the ports of the active listeners (`tcpRegs_eq`, `udpRegs_eq`).
-/
import AGH.Spec.Loader
namespace AGH.C13L

theorem mem_insertSorted (x p : Nat) (l : List Nat) : x ∈ insertSorted p l ↔ x = p ∨ x ∈ l := by
  fun_induction insertSorted p l with
  | case1 => simp
  | case2 q qs _ => exact List.mem_cons
  | case3 qs _ => simp  -- p is the head already
  | case4 q qs _ _ ih => rw [List.mem_cons, ih, List.mem_cons, or_left_comm]

def Below (p : Nat) (l : List Nat) : Prop := ∀ x ∈ l, p < x

theorem sorted_insertSorted (p : Nat) (l : List Nat) (h : l.Pairwise (· < ·)) :
    (insertSorted p l).Pairwise (· < ·) := by
  fun_induction insertSorted p l with
  | case1 => exact List.pairwise_singleton _ _
  | case2 q qs hpq =>
    refine List.pairwise_cons.2 ⟨fun x hx => ?_, h⟩
    rcases List.mem_cons.1 hx with rfl | hx
    · exact hpq
    · exact Nat.lt_trans hpq ((List.pairwise_cons.1 h).1 x hx)
  | case3 => exact h
  | case4 q qs h1 h2 ih =>
    have hq := List.pairwise_cons.1 h
    refine List.pairwise_cons.2 ⟨fun x hx => ?_, ih hq.2⟩
    rcases (mem_insertSorted x p qs).1 hx with rfl | hx
    · omega
    · exact hq.1 x hx

theorem mem_foldr_insertSorted (x : Nat) (l : List Nat) : x ∈ l.foldr insertSorted [] ↔ x ∈ l := by
  induction l with
  | nil => simp
  | cons q qs ih => simp [mem_insertSorted, ih]

theorem sorted_foldr_insertSorted (l : List Nat) : (l.foldr insertSorted []).Pairwise (· < ·) := by
  induction l with
  | nil => simp
  | cons q qs ih => exact sorted_insertSorted q _ ih

theorem mem_ucDups (uc : UniqChecker) (p : Nat) : p ∈ ucDups uc ↔ 1 < uc.count p := by
  unfold ucDups
  rw [mem_foldr_insertSorted, List.mem_filter]
  simp only [decide_eq_true_eq]
  constructor
  · exact fun h => h.2
  · intro h
    exact ⟨List.count_pos_iff.1 (by omega), h⟩

theorem sorted_ucDups (uc : UniqChecker) : (ucDups uc).Pairwise (· < ·) := sorted_foldr_insertSorted _

/-- Two strictly ascending lists with the same elements are equal. -/
theorem ucDups_eq_iff (uc : UniqChecker) (ps : List Nat) :
    ucDups uc = ps ↔ ps.Pairwise (· < ·) ∧ ∀ p, p ∈ ps ↔ 1 < uc.count p := by
  refine ⟨fun h => h ▸ ⟨sorted_ucDups uc, mem_ucDups uc⟩, fun ⟨hsort, hmem⟩ => ?_⟩
  refine List.Perm.eq_of_pairwise (le := (· < ·)) (fun a b _ _ hab hba => absurd hab (Nat.lt_asymm hba))
    (sorted_ucDups uc) hsort ?_
  exact (List.perm_ext_iff_of_nodup ((sorted_ucDups uc).imp Nat.ne_of_lt) (hsort.imp Nat.ne_of_lt)).2
    fun p => by rw [mem_ucDups, hmem]

theorem ucDups_nil_iff (uc : UniqChecker) : ucDups uc = [] ↔ uc.Nodup := by
  rw [List.nodup_iff_count]
  constructor
  · intro h a
    have hn : ¬ 1 < uc.count a := fun hc => by
      have := (mem_ucDups uc a).2 hc
      simp [h] at this
    omega
  · intro h
    apply List.eq_nil_iff_forall_not_mem.2
    intro a ha
    have := (mem_ucDups uc a).1 ha
    have := h a
    omega

theorem addPorts_eq (uc : UniqChecker) (ps : List Nat) : addPorts uc ps = uc ++ ps.filter (· != 0) := by
  induction ps generalizing uc with
  | nil => simp [addPorts]
  | cons p ps ih =>
    unfold addPorts
    by_cases hp : p = 0
    · simp [hp, ih]
    · simp [hp, ih, ucAdd]

/-- The ports `validateConfig` adds to its TCP `UniqChecker`; `udpRegs` is the same for UDP. -/
def tcpRegs (i : LoaderIn) : UniqChecker :=
  if i.tlsEnabled then addPorts (addPorts [] [i.httpPort]) [i.portHTTPS, i.portDoT, i.portDNSCrypt]
  else addPorts [] [i.httpPort]

def udpRegs (i : LoaderIn) : UniqChecker :=
  if i.tlsEnabled then addPorts (addPorts [] [i.dnsPort]) [i.portDoQ] else addPorts [] [i.dnsPort]

theorem activePorts_append (a b : List Listener) : activePorts (a ++ b) = activePorts a ++ activePorts b := by
  simp [activePorts]

theorem activePorts_switch (on : Bool) (ps : List Nat) :
    activePorts (ps.map (Listener.mk on)) = if on then ps.filter (· != 0) else [] := by
  cases on <;> simp [activePorts, List.filter_map, Function.comp_def, Listener.active]

theorem activePorts_sublist (ls : List Listener) : (activePorts ls).Sublist (ls.map (·.port)) :=
  List.filter_sublist.map _

theorem tcpRegs_eq (i : LoaderIn) : tcpRegs i = activePorts (tcpListeners i) := by
  have h : tcpListeners i = [i.httpPort].map (Listener.mk true) ++
      [i.portHTTPS, i.portDoT, i.portDNSCrypt].map (Listener.mk i.tlsEnabled) := rfl
  rw [h, activePorts_append, activePorts_switch, activePorts_switch, tcpRegs, addPorts_eq, addPorts_eq]
  cases i.tlsEnabled <;> simp

theorem udpRegs_eq (i : LoaderIn) : udpRegs i = activePorts (udpListeners i) := by
  have h : udpListeners i = [i.dnsPort].map (Listener.mk true) ++ [i.portDoQ].map (Listener.mk i.tlsEnabled) := rfl
  rw [h, activePorts_append, activePorts_switch, activePorts_switch, udpRegs, addPorts_eq, addPorts_eq]
  cases i.tlsEnabled <;> simp

theorem firstInvalid_none (bs : List Bool) (n : Nat) : firstInvalid bs n = none ↔ bs.all id = true := by
  induction bs generalizing n with
  | nil => simp [firstInvalid]
  | cons b bs ih => cases b <;> simp [firstInvalid, ih]

theorem validateConfig_eq (i : LoaderIn) : validateConfig i =
    (if !i.httpValid then .bindHTTP else
     match firstInvalid i.bindValid 0 with
     | some idx => .bindDNS idx
     | none =>
       if ucDups (tcpRegs i) ≠ [] then .tcpDup (ucDups (tcpRegs i))
       else if ucDups (udpRegs i) ≠ [] then .udpDup (ucDups (udpRegs i))
       else .ok) := by
  unfold validateConfig tcpRegs udpRegs
  cases i.tlsEnabled <;> rfl

/-- The stages before the port check went through. -/
def upToPorts (i : LoaderIn) : Prop :=
  i.migrated = true ∧ i.unmarshalled = true ∧ i.httpValid = true ∧ i.bindValid.all id = true

theorem parseConfig_eq (i : LoaderIn) (h : upToPorts i) : parseConfig i =
    (if ucDups (tcpRegs i) ≠ [] then .tcpDup (ucDups (tcpRegs i))
     else if ucDups (udpRegs i) ≠ [] then .udpDup (ucDups (udpRegs i))
     else if i.ciphersOK then .ok else .ciphers) := by
  obtain ⟨h1, h2, h3, h4⟩ := h
  have hf := (firstInvalid_none i.bindValid 0).2 h4
  unfold parseConfig
  rw [validateConfig_eq]
  simp only [h1, h2, h3, hf, Bool.not_true, Bool.false_eq_true, if_false]
  by_cases ht : ucDups (tcpRegs i) = []
  · by_cases hu : ucDups (udpRegs i) = []
    · cases i.ciphersOK <;> simp [ht, hu]
    · simp [ht, hu]
  · simp [ht]

end AGH.C13L
