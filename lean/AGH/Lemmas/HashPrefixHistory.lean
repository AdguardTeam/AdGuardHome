/-
C19: histories of checks / clock advances / database changes sharing one cache
(`World`, `step`), with the environment assumptions on them (`OpOK`, `Valid`).
What one check sends whatever the cache holds is `privacyOK_check`; what it
answers is the fresh verdict from the empty cache (`checkFresh_sound`) and from
any cache that meets `Inv` (`doCheck_sound`).  `Inv` is kept along a valid history
(`inv_step`), so what it gives for one check holds of every check of the history
(`ForallChecks`, `forallChecks_of_inv`).
-/
import AGH.Lemmas.HashPrefixNames
import AGH.Lemmas.HashPrefixCache
import AGH.Lemmas.HashPrefixCodec
namespace AGH.C19
open AGH AGH.Bytes

/-- One check: the name, the oracle values for it, and the environment's
behaviour (upstream failure, the answer to a question, map iteration order). -/
structure CheckOp where
  host : Bytes
  ps : Bytes
  icann : Bool
  H : Bytes → Hash
  err : Bool
  answer : Bytes → List RR
  ord : List Hash → List (Prefix × List Hash)

inductive Op where
  | check (o : CheckOp)
  | advance (d : Nat)
  | setDb (db : List Hash)

structure World where
  cache : Cache
  now : Nat
  db : List Hash

def CheckOp.exchange (o : CheckOp) : Bytes → Option (List RR) :=
  fun q => if o.err then none else some (o.answer q)

def CheckOp.hashes (o : CheckOp) : List Hash := hostnameToHashes o.H o.ps o.icann o.host

def CheckOp.input (o : CheckOp) (cf : Conf) (w : World) : CheckIn :=
  ⟨cf.suffix, w.db, o.host, o.ps, o.icann, o.H, o.err⟩

def doCheck (cf : Conf) (w : World) (o : CheckOp) : Outcome × World :=
  let r := check cf w.now o.hashes o.exchange o.ord w.cache
  (r.1, { w with cache := r.2 })

def step (cf : Conf) (w : World) : Op → World
  | .check o => (doCheck cf w o).2
  | .advance d => { w with now := w.now + d }
  | .setDb db => { w with db := db }

/-- Environment assumptions for one operation in world `w`. -/
def OpOK (cf : Conf) (w : World) : Op → Prop
  | .check o =>
    -- the public-suffix oracle is sane, hashes are 32 bytes long
    psOK o.ps o.icann o.host = true ∧ (∀ s, (o.H s).length = 32) ∧
    -- the service answers the question actually asked completely and only for
    -- the prefixes asked; the map iteration order is a real one
    (∀ toReq, (findInCache w.now o.hashes w.cache).1 = .ask toReq →
      Honest w.db toReq (receivedHashes (o.answer (getQuestion cf.suffix toReq))) ∧
      validGroups (receivedHashes (o.answer (getQuestion cf.suffix toReq)))
        (o.ord (receivedHashes (o.answer (getQuestion cf.suffix toReq)))) = true)
  | .advance _ => True
  | .setDb db' =>
    -- the database does not change for a prefix while a cache item for it is live
    ∀ it ∈ w.cache.lru, expired w.now it = false → ∀ x, prefix2 x = it.key → (x ∈ db' ↔ x ∈ w.db)

def Valid (cf : Conf) : World → List Op → Prop
  | _, [] => True
  | w, op :: ops => OpOK cf w op ∧ Valid cf (step cf w op) ops

def ForallChecks (cf : Conf) (P : World → CheckOp → Outcome → Prop) : World → List Op → Prop
  | _, [] => True
  | w, op :: ops =>
    (match op with | .check o => P w o (doCheck cf w o).1 | _ => True) ∧
    ForallChecks cf P (step cf w op) ops

theorem privacyOK_check (cf : Conf) (now : Nat) (H : Bytes → Hash) {ps : Bytes} {icann : Bool} {host : Bytes}
    (exch : Bytes → Option (List RR)) (ord : List Hash → List (Prefix × List Hash)) (c : Cache)
    (hps : psOK ps icann host = true) (hlen : ∀ s, (H s).length = 32) :
    privacyOK H cf.suffix ps icann host
      (check cf now (hostnameToHashes H ps icann host) exch ord c).1.question = true := by
  cases hq : (check cf now (hostnameToHashes H ps icann host) exch ord c).1.question with
  | none => rfl
  | some q =>
    obtain ⟨toReq, hsub, rfl⟩ := check_question hq
    have hp : ∀ p ∈ toReq.map prefix2, p.length = 2 ∧
        hexBytes p ∈ (allowedNames ps icann host).map (fun s => hexBytes (prefix2 (H s))) := fun p hp => by
      obtain ⟨h, hh, rfl⟩ := List.mem_map.mp hp
      -- every hash asked about is the hash of an allowed name
      obtain ⟨s, hs, rfl⟩ :=
        List.mem_map.mp (hostnameToHashes_eq_map_allowedNames H hps ▸ hsub.subset hh)
      exact ⟨length_prefix2 (hlen s), List.mem_map.mpr ⟨s, hs, rfl⟩⟩
    refine questionShape_of_prefixes _ ?_ hp
    rw [getQuestion, length_questionOfPrefixes _ _ fun p h => (hp p h).1]
    exact Nat.le_add_right _ _

theorem checkFresh_sound (suffix : Bytes) (H : Bytes → Hash) (psOf : Bytes → Bytes × Bool)
    (db : List Hash) (ans : Bytes → List RR) (name : Bytes)
    (hps : psOK (psOf name).1 (psOf name).2 name = true) (hlen : ∀ s, (H s).length = 32)
    (hhon : ∀ toReq, Honest db toReq (receivedHashes (ans (getQuestion suffix toReq)))) :
    ∃ q, checkFresh suffix H psOf (fun q => some (ans q)) name =
        ⟨.blocked (freshVerdict H db (psOf name).1 (psOf name).2 name), q⟩ ∧
      privacyOK H suffix (psOf name).1 (psOf name).2 name q = true := by
  rw [checkFresh]
  refine ⟨_, ?_, privacyOK_check ⟨suffix, 0⟩ 0 H (fun q => some (ans q)) canonGroups (Cache.new 0) hps hlen⟩
  obtain ⟨_, hb⟩ := check_sound db ⟨suffix, 0⟩ 0 (hostnameToHashes H (psOf name).1 (psOf name).2 name)
    (fun q => some (ans q)) canonGroups (Cache.new 0) (inv_new db 0 0)
    fun toReq answer _ h => Option.some.inj h ▸ ⟨hhon toReq, canonGroups_valid _⟩
  cases hv : (check ⟨suffix, 0⟩ 0 (hostnameToHashes H (psOf name).1 (psOf name).2 name)
      (fun q => some (ans q)) canonGroups (Cache.new 0)).1.verdict with
  | upstreamErr =>
    obtain ⟨q, _, hn⟩ := check_err hv
    cases hn
  | blocked b => rw [← any_hostnameToHashes H db hps, ← hb b hv, ← hv]

theorem doCheck_sound {cf : Conf} {w : World} {o : CheckOp} (hinv : Inv w.db w.now w.cache)
    (hok : OpOK cf w (.check o)) :
    Inv w.db w.now (doCheck cf w o).2.cache ∧
    (∀ b, (doCheck cf w o).1.verdict = .blocked b → b = freshVerdict o.H w.db o.ps o.icann o.host) ∧
    ((doCheck cf w o).1.verdict = .upstreamErr → o.err = true ∧ (doCheck cf w o).1.question.isSome = true) := by
  dsimp only [doCheck]
  obtain ⟨h1, h2⟩ := check_sound w.db cf w.now o.hashes o.exchange o.ord w.cache hinv
    (fun toReq answer hask hex => by
      unfold CheckOp.exchange at hex
      split at hex
      · cases hex
      · cases hex; exact hok.2.2 toReq hask)
  refine ⟨h1, (any_hostnameToHashes o.H w.db hok.1 : o.hashes.any _ = _) ▸ h2, fun he => ?_⟩
  obtain ⟨q, hq, hn⟩ := check_err he
  refine ⟨?_, by rw [hq]; rfl⟩
  unfold CheckOp.exchange at hn
  split at hn
  · assumption
  · cases hn

theorem expired_mono {now d : Nat} {it : Item} (h : expired (now + d) it = false) : expired now it = false := by
  simp only [expired, decide_eq_false_iff_not] at h ⊢
  exact fun h' => h (Nat.lt_of_lt_of_le h' (Nat.le_add_right _ _))

theorem inv_step {cf : Conf} {w : World} {op : Op} (hinv : Inv w.db w.now w.cache) (hok : OpOK cf w op) :
    Inv (step cf w op).db (step cf w op).now (step cf w op).cache := by
  cases op with
  | check o => exact (doCheck_sound hinv hok).1
  | advance d =>
    intro it hit hexp
    exact hinv it hit (expired_mono hexp)
  | setDb db' =>
    exact fun it hit hexp x =>
      (hinv it hit hexp x).trans (and_congr_left fun hk => (hok it hit hexp x hk).symm)

theorem forallChecks_of_inv {cf : Conf} {P : World → CheckOp → Outcome → Prop}
    (hP : ∀ w o, Inv w.db w.now w.cache → OpOK cf w (.check o) → P w o (doCheck cf w o).1)
    (ops : List Op) : ∀ w : World, Inv w.db w.now w.cache → Valid cf w ops → ForallChecks cf P w ops := by
  induction ops with
  | nil => exact fun _ _ _ => trivial
  | cons op ops ih =>
    intro w hinv hv
    refine ⟨?_, ih _ (inv_step hinv hv.1) hv.2⟩
    cases op with
    | check o => exact hP w o hinv hv.1
    | advance d => trivial
    | setDb db => trivial

end AGH.C19
