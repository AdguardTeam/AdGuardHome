/-
Lemmas for C07: what `search` returns — soundness for every validated
request; what was read against the visible sequence (`raw_prefix`, `read_cut`),
whence offset/limit slices and cursor pages.
-/
import AGH.Lemmas.QLogRead
namespace AGH.C07
open AGH

theorem critQuick_of_critMatch (c : Conf) (cr : Criterion) (e : Entry)
    (h : critMatch c cr e = true) : critQuick c cr e = true := by
  cases cr with
  | term v a strict =>
    simp only [critQuick]
    split
    · rfl
    · simpa [critMatch] using h
  | status v => rfl

theorem quickE_of_matchE (c : Conf) (p : Params) (e : Entry)
    (h : matchE c p e = true) : quickE c p e = true := by
  simp only [matchE, Bool.and_eq_true, List.all_eq_true] at h
  simp only [quickE, List.all_eq_true]
  intro cr hcr
  exact critQuick_of_critMatch c cr e (h.2 cr hcr)

theorem keepE_eq_keepMem (c : Conf) (p : Params) (e : Entry) : keepE c p e = keepMem c p e := by
  simp only [keepE, keepMem]
  cases hm : matchE c p e with
  | false => simp
  | true => simp [quickE_of_matchE c p e hm]

theorem keepMem_older (c : Conf) (p : Params) (e : Entry) (t : Int) (hot : p.olderThan = some t)
    (h : keepMem c p e = true) : e.ts < t := by
  simp only [keepMem, matchE, hot, Bool.and_eq_true, decide_eq_true_eq] at h
  exact h.2.1

def logOf (s : State) : List Entry := s.rot ++ s.cur ++ s.mem

/-- The invariant under which `search` is exact, `Asc (logOf s)` written out (`inv_iff`): the clock moved forward
between records. -/
def Inv (s : State) : Prop := Asc (s.rot ++ s.cur ++ s.mem)

theorem inv_iff (s : State) : Inv s ↔ Asc (logOf s) := Iff.rfl

def memRev (s : State) : List Entry := if s.conf.memSize = 0 then [] else s.mem.reverse

/-- Everything the API can see, newest first. -/
def logRev (s : State) : List Entry := memRev s ++ filesRev s.rot s.cur

/-- The sequence a request pages through. -/
def vis (s : State) (p : Params) : List Entry := (logRev s).filter (keepMem s.conf p)

/-- What the parser guarantees of a request with `limit ≠ 0` (`validP_of_parse`): `search` then neither
faults nor wraps. -/
structure ValidP (p : Params) : Prop where
  off : 0 ≤ p.offset
  lim : 1 ≤ p.limit
  sum : p.offset + p.limit ≤ maxInt

theorem logRev_suffix (s : State) : logRev s <:+ (logOf s).reverse := by
  rw [logOf, List.reverse_append, List.reverse_append, logRev, memRev, filesRev]
  split
  · exact List.suffix_append _ _
  · exact List.suffix_refl _

theorem desc_logRev (s : State) (h : Inv s) : Desc (logRev s) :=
  (List.pairwise_reverse.mpr ((inv_iff s).mp h)).sublist (logRev_suffix s).sublist

theorem mem_log_of_logRev (s : State) (x : Entry) (h : x ∈ logRev s) : x ∈ logOf s :=
  List.mem_reverse.mp ((logRev_suffix s).subset h)

theorem searchMemory_eq (s : State) (p : Params) :
    searchMemory s p = (memRev s).filter (keepMem s.conf p) := by
  unfold searchMemory memRev
  split <;> simp

theorem wrap64_id (x : Int) (h0 : 0 ≤ x) (h1 : x ≤ maxInt) : wrap64 x = x := by
  unfold wrap64; unfold maxInt at h1; omega

theorem search_unfold (s : State) (p : Params) :
    search s p =
      if p.limit = 0 then .ok ([], none) else
      let TL := wrap64 (p.offset + p.limit)
      let raw := searchMemory s p ++ (searchFiles s p).1
      if (raw.length : Int) > TL ∧ TL < 0 then .error .sliceBounds else
      let E := sortDesc (if (raw.length : Int) > TL then raw.take TL.toNat else raw)
      let short := p.offset > 0 ∧ ¬ (E.length : Int) > p.offset
      let D := if short then [] else E.drop p.offset.toNat
      .ok (D, match D.getLast? with
              | some e => some e.ts
              | none => if short then none else (searchFiles s p).2) := by
  unfold search
  rcases searchFiles s p with ⟨fileE, o0⟩
  dsimp only
  by_cases hl : p.limit = 0
  · rw [if_pos hl, if_pos hl]
  · rw [if_neg hl, if_neg hl]
    by_cases hf : ((searchMemory s p ++ fileE).length : Int) > wrap64 (p.offset + p.limit) ∧
        wrap64 (p.offset + p.limit) < 0
    · rw [if_pos hf, if_pos hf]
    · rw [if_neg hf, if_neg hf]
      generalize sortDesc (if ((searchMemory s p ++ fileE).length : Int) > wrap64 (p.offset + p.limit)
        then (searchMemory s p ++ fileE).take (wrap64 (p.offset + p.limit)).toNat
        else searchMemory s p ++ fileE) = E
      by_cases ho : p.offset > 0
      · by_cases hlen : (E.length : Int) > p.offset
        · simp only [ho, hlen, if_true, not_true_eq_false, and_false, if_false]
          rfl
        · simp only [ho, hlen, if_true, if_false, not_false_eq_true, and_self]
          rfl
      · have h0 : p.offset.toNat = 0 := by omega
        simp only [ho, if_false, false_and, h0, List.drop_zero]
        rfl

theorem search_limit_zero (s : State) (p : Params) (hl : p.limit = 0) : search s p = .ok ([], none) := by
  rw [search_unfold, if_pos hl]

/-- Go's `if len(l) > n { l = l[:n] }` is `take`. -/
theorem take_of_longer (l : List α) (n : Int) :
    (if (l.length : Int) > n then l.take n.toNat else l) = l.take n.toNat := by
  split
  · rfl
  · rw [List.take_of_length_le]; omega

/-- Go's guarded `l[n:]` (nothing when `n` is past the end) is `drop`. -/
theorem drop_of_short (l : List α) (n : Int) :
    (if n > 0 ∧ ¬ (l.length : Int) > n then [] else l.drop n.toNat) = l.drop n.toNat := by
  split
  · rw [List.drop_eq_nil_of_le]; omega
  · rfl

theorem search_valid (s : State) (p : Params) (hv : ValidP p) :
    search s p = .ok (
      let E := sortDesc ((searchMemory s p ++ (searchFiles s p).1).take (p.offset + p.limit).toNat)
      let D := E.drop p.offset.toNat
      (D, match D.getLast? with
          | some e => some e.ts
          | none => if p.offset > 0 ∧ ¬ ((E.length : Int) > p.offset) then none else (searchFiles s p).2)) := by
  have hoff := hv.off
  have hlim := hv.lim
  have hTL : wrap64 (p.offset + p.limit) = p.offset + p.limit := wrap64_id _ (by omega) hv.sum
  rw [search_unfold, if_neg (by omega), hTL]
  dsimp only
  rw [if_neg (by omega), take_of_longer, drop_of_short]

theorem searchFiles_of_seek (s : State) (p : Params) (hi : Inv s) (hv : ValidP p) (rem : List Entry)
    (hseek : seekRecord s.rot s.cur p.olderThan = some rem) :
    ∃ pre, filesRev s.rot s.cur = pre ++ rem ∧ pre.filter (keepMem s.conf p) = [] ∧
      ∃ n, ReadSpec (keepMem s.conf p) p.scan (p.offset + p.limit) rem [] 0 none (searchFiles s p) n := by
  have hoff := hv.off
  have hlim := hv.lim
  obtain ⟨pre, hsplit, hpre⟩ := seekRecord_some (List.pairwise_append.mp hi).1 hseek
  refine ⟨pre, hsplit, List.filter_eq_nil_iff.mpr fun e he hk => ?_, ?_⟩
  · obtain ⟨t, hot, h1⟩ := hpre e he
    have h2 := keepMem_older s.conf p e t hot hk
    omega
  · have hsf : searchFiles s p =
        readEntries (keepMem s.conf p) p.scan (p.offset + p.limit) rem [] 0 none := by
      unfold searchFiles
      rw [hseek, wrap64_id _ (by omega) hv.sum, funext (keepE_eq_keepMem s.conf p)]
    rw [hsf]
    exact readEntries_spec _ _ _ rem [] 0 none (by simp; omega)
      (Or.inl (by by_cases h : p.scan ≤ 0; exact Or.inr h; left; omega))

theorem searchFiles_prefix (s : State) (p : Params) (hi : Inv s) (hv : ValidP p) :
    (searchFiles s p).1 <+: (filesRev s.rot s.cur).filter (keepMem s.conf p) := by
  cases hseek : seekRecord s.rot s.cur p.olderThan with
  | none =>
    have : searchFiles s p = ([], none) := by unfold searchFiles; rw [hseek]
    rw [this]; exact List.nil_prefix
  | some rem =>
    obtain ⟨pre, hsplit, hpre, n, h⟩ := searchFiles_of_seek s p hi hv rem hseek
    rw [h.kept, hsplit, List.filter_append, hpre]
    exact (List.take_prefix n rem).filter _

theorem desc_vis (s : State) (p : Params) (hi : Inv s) : Desc (vis s p) :=
  List.Pairwise.filter _ (desc_logRev s hi)

theorem raw_prefix (s : State) (p : Params) (hi : Inv s) (hv : ValidP p) :
    (searchMemory s p ++ (searchFiles s p).1) <+: vis s p := by
  rw [vis, logRev, List.filter_append, ← searchMemory_eq]
  exact (List.prefix_append_right_inj _).mpr (searchFiles_prefix s p hi hv)

/-- With increasing times the sort of `search` changes nothing: the page is cut
out of what was read. -/
theorem search_page (s : State) (p : Params) (hi : Inv s) (hv : ValidP p) :
    search s p = .ok (
      let E := (searchMemory s p ++ (searchFiles s p).1).take (p.offset + p.limit).toNat
      let D := E.drop p.offset.toNat
      (D, match D.getLast? with
          | some e => some e.ts
          | none => if p.offset > 0 ∧ ¬ ((E.length : Int) > p.offset) then none else (searchFiles s p).2)) := by
  rw [search_valid s p hv, sortDesc_of_desc _ (List.Pairwise.sublist
    ((List.take_sublist _ _).trans (raw_prefix s p hi hv).sublist) (desc_vis s p hi))]

theorem search_sound (s : State) (p : Params) (hi : Inv s) (hv : ValidP p) :
    ∃ D O, search s p = .ok (D, O) ∧ D.Sublist (vis s p) ∧ (D.length : Int) ≤ p.limit := by
  rw [search_page s p hi hv]
  refine ⟨_, _, rfl,
    (List.drop_sublist _ _).trans ((List.take_sublist _ _).trans (raw_prefix s p hi hv).sublist), ?_⟩
  have hoff := hv.off
  have hlim := hv.lim
  rw [List.length_drop, List.length_take]
  omega

/-- The cursor a request sends back, if any, is the time of a record of the log: the reader can then be
positioned (`seekRecord_cursor`). -/
def CursorOK (s : State) (p : Params) : Prop :=
  match p.olderThan with
  | none => True
  | some t => ∃ e ∈ s.rot ++ s.cur ++ s.mem, e.ts = t

theorem cursorOK_none {s : State} {p : Params} (h : p.olderThan = none) : CursorOK s p := by
  unfold CursorOK
  rw [h]
  trivial

theorem cursorOK_some {s : State} {p : Params} {t : Int} (h : p.olderThan = some t) :
    CursorOK s p ↔ ∃ e ∈ logOf s, e.ts = t := by
  unfold CursorOK
  rw [h]
  rfl

theorem filter_filter_comm (p q : α → Bool) (l : List α) : (l.filter p).filter q = (l.filter q).filter p := by
  rw [List.filter_filter, List.filter_filter]
  congr 1
  funext a
  exact Bool.and_comm _ _

/-- What the file reader brought back, against the visible sequence; with `raw_prefix` it is all that offset
slices, cursor pages and the partition know of the read.  No cursor returned: everything visible was read.
Cursor `c` returned: what was read is exactly the visible records not older than `c`, and `c` is the time of a
record of the log, so it can be sent back.  If the read then stopped short of `offset + limit`, the scan budget
stopped it; the seek lands ON the record of the cursor sent (`seekRecord_cursor`), so a budget of 1 reads that
record again and returns the cursor sent: `c` is older only from a budget of 2 on, whence the `2 ≤ scan` of
`histOK`, `C07_cursor_page` and `C07_cursor_partition`. -/
theorem read_cut (s : State) (p : Params) (hi : Inv s) (hv : ValidP p) (hc : CursorOK s p) :
    ((searchFiles s p).2 = none → searchMemory s p ++ (searchFiles s p).1 = vis s p) ∧
    ∀ c, (searchFiles s p).2 = some c →
      searchMemory s p ++ (searchFiles s p).1 = (vis s p).filter (fun e => decide (e.ts ≥ c)) ∧
      (∃ e ∈ logOf s, e.ts = c) ∧
      (((searchFiles s p).1.length : Int) < p.offset + p.limit →
        0 < p.scan ∧ (2 ≤ p.scan → ∀ t, p.olderThan = some t → c < t)) := by
  obtain ⟨rem, hseek, htail⟩ : ∃ rem, seekRecord s.rot s.cur p.olderThan = some rem ∧
      ∀ t, p.olderThan = some t → ∀ x ∈ rem.tail, x.ts < t := by
    cases hot : p.olderThan with
    | none => exact ⟨_, rfl, nofun⟩
    | some t =>
      obtain ⟨rem, h1, h2⟩ := seekRecord_cursor hi ((cursorOK_some hot).mp hc)
      exact ⟨rem, h1, fun t' ht' => by cases ht'; exact h2⟩
  obtain ⟨pre, hsplit, hpre, n, hread⟩ := searchFiles_of_seek s p hi hv rem hseek
  have hlog : logRev s = (memRev s ++ pre) ++ rem := by rw [logRev, hsplit, List.append_assoc]
  have hkeep : ∀ l, ((memRev s ++ pre) ++ l).filter (keepMem s.conf p) =
      searchMemory s p ++ l.filter (keepMem s.conf p) := fun l => by
    rw [List.filter_append, List.filter_append, hpre, List.append_nil, searchMemory_eq]
  have hF := hread.kept
  rw [List.nil_append] at hF
  constructor
  · intro h
    rw [vis, hlog, hkeep, hF, hread.all_of_none h, List.take_length]
  · intro c h
    obtain ⟨hlast, hbud⟩ := hread.of_some c h
    rcases lastTs_take hread.le hlast with ⟨_, habs⟩ | ⟨e, he, hn1, hts⟩
    · cases habs
    · refine ⟨?_, ⟨e, mem_log_of_logRev s e (hlog ▸ List.mem_append_right _ (List.mem_of_getElem? he)), hts⟩,
        fun hl => ?_⟩
      · have hcut := desc_filter_ge_append (hlog ▸ desc_logRev s hi) he
        rw [hts, show n - 1 + 1 = n by omega] at hcut
        rw [vis, hlog, filter_filter_comm, hcut, hkeep, hF]
      · have hb := hbud hl
        refine ⟨hb.1, fun h2 t hot => ?_⟩
        -- the first record read may be that of the cursor sent; from the second on (`rem.tail`) all are older
        have hmem : e ∈ rem.tail := by
          refine List.mem_of_getElem? (i := n - 2) ?_
          rw [List.getElem?_tail, show n - 2 + 1 = n - 1 by omega]
          exact he
        exact hts ▸ htail t hot e hmem

theorem search_offset (s : State) (p : Params) (hi : Inv s) (hv : ValidP p) (hscan : p.scan ≤ 0)
    (hc : CursorOK s p) {D : List Entry} {O : Option Int} (h : search s p = .ok (D, O)) :
    D = ((vis s p).drop p.offset.toNat).take p.limit.toNat := by
  have hoff := hv.off
  have hlim := hv.lim
  have hE : (searchMemory s p ++ (searchFiles s p).1).take (p.offset + p.limit).toNat =
      (vis s p).take (p.offset + p.limit).toNat := by
    obtain ⟨hall, hcut⟩ := read_cut s p hi hv hc
    cases hO : (searchFiles s p).2 with
    | none => rw [hall hO]
    | some c =>
      -- an unlimited scan stops only at the limit
      obtain ⟨rest, hrest⟩ := raw_prefix s p hi hv
      rw [← hrest]
      refine (List.take_append_of_le_length ?_).symm
      have := (hcut c hO).2.2
      rw [List.length_append]
      omega
  rw [search_page s p hi hv] at h
  dsimp only at h
  rw [hE, List.drop_take, Int.toNat_add hoff (by omega), Nat.add_sub_cancel_left] at h
  exact (Prod.mk.inj (Except.ok.inj h)).1.symm

theorem search_cursor (s : State) (p : Params) (hi : Inv s) (hv : ValidP p) (hoff : p.offset = 0)
    (hc : CursorOK s p) {D : List Entry} {O : Option Int} (hs : search s p = .ok (D, O)) :
    (O = none → D = vis s p) ∧
      ∀ c, O = some c → D = (vis s p).filter (fun e => decide (e.ts ≥ c)) ∧
        (∀ t, p.olderThan = some t → (2 ≤ p.scan ∨ p.scan ≤ 0) → c < t) ∧
        (∃ e ∈ logOf s, e.ts = c) := by
  have hlim := hv.lim
  rw [search_page s p hi hv] at hs
  simp only [hoff, Int.toNat_zero, List.drop_zero, Int.zero_add, gt_iff_lt, Int.lt_irrefl, false_and,
    if_false, Except.ok.injEq, Prod.mk.injEq] at hs
  obtain ⟨hD, hO⟩ := hs
  rw [hD] at hO
  cases hgl : D.getLast? with
  | some x =>
    -- the page ends in `x`: it is a prefix of the visible sequence, which is in descending order
    have hpre : D <+: vis s p := hD ▸ (List.take_prefix _ _).trans (raw_prefix s p hi hv)
    have hx := List.mem_filter.mp (hpre.subset (List.mem_of_getLast? hgl))
    rw [hgl] at hO
    subst hO
    refine ⟨nofun, fun c hc' => ?_⟩
    cases hc'
    exact ⟨desc_prefix_eq_filter (desc_vis s p hi) hpre hgl,
      fun t hot _ => keepMem_older s.conf p x t hot hx.2, x, mem_log_of_logRev s x hx.1, rfl⟩
  | none =>
    rw [hgl] at hO
    subst hO
    have hDnil : D = [] := List.getLast?_eq_none_iff.mp hgl
    have hraw : searchMemory s p ++ (searchFiles s p).1 = [] :=
      (List.take_eq_nil_iff.mp (hD.trans hDnil)).resolve_left (by omega)
    obtain ⟨hall, hcut⟩ := read_cut s p hi hv hc
    rw [hraw] at hall hcut
    refine ⟨fun h => hDnil ▸ hall h, fun c h => ?_⟩
    obtain ⟨hpage, hstamp, hbud⟩ := hcut c h
    refine ⟨hDnil ▸ hpage, fun t hot hsc => ?_, hstamp⟩
    have := hbud (by rw [(List.append_eq_nil_iff.mp hraw).2]; simp; omega)
    rcases hsc with h2 | h0
    · exact this.2 h2 t hot
    · omega

end AGH.C07
