/-
The Layer B pattern matcher: what `||domain^` matches
(`domainPattern_iff`), for names made of ordinary host-name bytes (`plainByte`).
-/
import AGH.Model.FilterRules
import AGH.Lemmas.Bytes
namespace AGH.Filter
open AGH AGH.Bytes

/-- a byte of an ordinary host name: letter, digit, `-`, `.`, `_` -/
def plainByte (b : Nat) : Bool := isAlnumB b || b == dash || b == dot || b == 95

/-- none of `*` (42), `^` (94), `|` (124), the bytes to which `compileBody` gives a meaning -/
theorem plainByte_not_special (b : Nat) (h : plainByte b = true) : b ≠ 42 ∧ b ≠ 94 ∧ b ≠ 124 := by
  unfold plainByte isAlnumB isLowerB isUpperB isDigitB dash dot at h
  refine ⟨?_, ?_, ?_⟩ <;> intro hb <;> subst hb <;> simp at h

theorem plainByte_urlHost (b : Nat) (h : plainByte b = true) : isURLHostByte b = true := by
  unfold plainByte at h; unfold isURLHostByte
  simp only [Bool.or_eq_true] at h ⊢
  rcases h with ((h | h) | h) | h
  · exact Or.inl (Or.inl (Or.inl h))
  · exact Or.inl (Or.inl (Or.inr h))
  · exact Or.inr h
  · exact Or.inl (Or.inr h)

theorem plainByte_not_sep (b : Nat) (h : plainByte b = true) : isSepByte b = false := by
  unfold plainByte at h
  unfold isSepByte
  simp only [Bool.or_eq_true] at h
  rcases h with ((h | h) | h) | h <;> simp [h]

theorem plainByte_lowerB (b : Nat) : plainByte (lowerB b) = plainByte b := by
  rw [plainByte, plainByte, isAlnumB_lowerB, lowerB_beq dash rfl rfl, lowerB_beq dot rfl rfl,
    lowerB_beq 95 rfl rfl]

theorem all_plain_urlHost {s : Bytes} (h : s.all plainByte = true) : s.all isURLHostByte = true := by
  rw [List.all_eq_true] at h ⊢
  exact fun x hx => plainByte_urlHost x (h x hx)

theorem all_plain_lower {s : Bytes} (h : s.all plainByte = true) : (lower s).all plainByte = true := by
  rw [lower, List.all_map, show plainByte ∘ lowerB = plainByte from funext plainByte_lowerB]
  exact h

theorem all_append_cons {p : Nat → Bool} {a b : Bytes} {x : Nat} (h : (a ++ x :: b).all p = true) :
    a.all p = true ∧ p x = true ∧ b.all p = true := by
  simpa only [List.all_append, List.all_cons, Bool.and_eq_true] using h

theorem compileBody_plain (d : Bytes) (hd : d.all plainByte = true) :
    compileBody (d ++ [94]) = d.map Tok.lit ++ [Tok.sep] := by
  induction d with
  | nil => simp [compileBody]
  | cons b rest ih =>
    simp only [List.all_cons, Bool.and_eq_true] at hd
    obtain ⟨h1, h2, h3⟩ := plainByte_not_special b hd.1
    have : (b :: rest) ++ [94] = b :: (rest ++ [94]) := rfl
    rw [this]
    cases hr : rest ++ [94] with
    | nil => simp at hr
    | cons x xs =>
      simp only [compileBody, h1, h2, if_false]
      rw [← hr, ih hd.2]
      simp

theorem foldEq_lower (b : Nat) : foldEq b (lowerB b) = true :=
  beq_iff_eq.2 (lowerB_lowerB b).symm

theorem matchHere_lits (d : Bytes) (ts : List Tok) (s : Bytes) (st : Bool) (hne : d ≠ []) :
    matchHere (d.map Tok.lit ++ ts) (lower d ++ s) st = matchHere ts s false := by
  induction d generalizing st with
  | nil => exact absurd rfl hne
  | cons b rest ih =>
    simp only [List.map_cons, List.cons_append, lower, matchHere, foldEq_lower, Bool.true_and]
    cases rest with
    | nil => simp
    | cons c cs =>
      have := ih false (by simp)
      simpa [lower] using this

theorem searchFrom_of_matchHere (toks : List Tok) (s : Bytes) (h : matchHere toks s true = true) :
    searchFrom toks s true = true := by
  cases s with
  | nil => simpa [searchFrom] using h
  | cons c r => simp [searchFrom, h]

/-- a `||…` pattern can only match at the very start of the URL -/
theorem searchFrom_startURL (ts : List Tok) (s : Bytes) :
    searchFrom (.startURL :: ts) s false = false := by
  induction s with
  | nil => simp [searchFrom, matchHere]
  | cons c r ih => simp [searchFrom, matchHere, ih]

theorem searchFrom_startURL_eq (ts : List Tok) (s : Bytes) :
    searchFrom (.startURL :: ts) s true = matchHere (.startURL :: ts) s true := by
  cases s with
  | nil => rfl
  | cons c r => simp [searchFrom, searchFrom_startURL]

theorem foldEq_iff {a b : Nat} : foldEq a b = true ↔ lowerB a = lowerB b := by
  unfold foldEq; simp

theorem lits_sep_iff (d x : Bytes) (st : Bool) :
    matchHere (d.map Tok.lit ++ [Tok.sep]) x st = true ↔
      ∃ x1 y, x = x1 ++ y ∧ lower x1 = lower d ∧ (y = [] ∨ ∃ c r, y = c :: r ∧ isSepByte c = true) := by
  induction d generalizing x st with
  | nil =>
    cases x with
    | nil => exact ⟨fun _ => ⟨[], [], rfl, rfl, Or.inl rfl⟩, fun _ => rfl⟩
    | cons c r =>
      simp only [List.map_nil, List.nil_append, matchHere, Bool.and_true]
      constructor
      · intro h
        exact ⟨[], c :: r, rfl, rfl, Or.inr ⟨c, r, rfl, h⟩⟩
      · rintro ⟨x1, y, hxy, hl, hy⟩
        obtain rfl : x1 = [] := List.map_eq_nil_iff.mp hl
        obtain rfl : y = c :: r := hxy.symm
        rcases hy with hy | ⟨c', r', hy, hs⟩
        · cases hy
        · cases hy
          exact hs
  | cons b rest ih =>
    cases x with
    | nil =>
      refine ⟨fun h => Bool.noConfusion h, ?_⟩
      rintro ⟨x1, y, hxy, hl, _⟩
      obtain ⟨rfl, -⟩ := List.append_eq_nil_iff.mp hxy.symm
      cases hl
    | cons c r =>
      simp only [List.map_cons, List.cons_append, matchHere, Bool.and_eq_true, ih, foldEq_iff]
      constructor
      · rintro ⟨hf, x1, y, hxy, hl, hy⟩
        exact ⟨c :: x1, y, by rw [hxy]; rfl, by simp only [lower, List.map_cons] at hl ⊢; rw [hl, hf], hy⟩
      · rintro ⟨x1, y, hxy, hl, hy⟩
        cases x1 with
        | nil => simp [lower] at hl
        | cons c' x1' =>
          simp only [List.cons_append, List.cons.injEq] at hxy
          simp only [lower, List.map_cons, List.cons.injEq] at hl
          exact ⟨hxy.1 ▸ hl.1.symm, x1', y, hxy.2, hl.2, hy⟩

/-- for a subject made of host-name bytes the separator can only be the end -/
theorem lits_sep_plain (d x : Bytes) (st : Bool) (hx : x.all plainByte = true) :
    matchHere (d.map Tok.lit ++ [Tok.sep]) x st = true ↔ lower x = lower d := by
  rw [lits_sep_iff]
  constructor
  · rintro ⟨x1, y, hxy, hl, hy⟩
    rcases hy with hy | ⟨c, r, hy, hs⟩
    · subst hy; simp at hxy; rw [hxy]; exact hl
    · exfalso
      subst hy
      rw [hxy] at hx
      rw [plainByte_not_sep c (all_append_cons hx).2.1] at hs
      cases hs
  · intro h; exact ⟨x, [], by simp, h, Or.inl rfl⟩

/-- what `([a-z0-9-_.]+\.)?` can leave over -/
theorem afterHostPrefix_iff (s r : Bytes) (seen : Bool) :
    r ∈ afterHostPrefix s seen ↔
      ∃ p, s = p ++ dot :: r ∧ p.all isURLHostByte = true ∧ (p ≠ [] ∨ seen = true) := by
  fun_induction afterHostPrefix s seen with
  | case1 seen =>
    simp only [List.not_mem_nil, false_iff]
    rintro ⟨p, hp, _⟩
    cases p <;> simp at hp
  | case2 b rest seen hb =>
    simp only [List.not_mem_nil, false_iff]
    rintro ⟨p, hp, hall, hne⟩
    cases p with
    | nil =>
      simp only [List.nil_append, List.cons.injEq] at hp
      rw [hp.1] at hb
      simp [isURLHostByte, dot] at hb
    | cons c p' =>
      simp only [List.cons_append, List.cons.injEq] at hp
      simp only [List.all_cons, Bool.and_eq_true] at hall
      rw [hp.1, hall.1] at hb
      cases hb
  | case3 b rest seen hb ih =>
    simp only [List.mem_append]
    constructor
    · rintro (h | h)
      · by_cases hc : b = dot ∧ seen = true
        · rw [if_pos hc] at h
          simp only [List.mem_singleton] at h
          subst h
          exact ⟨[], by simp [hc.1], rfl, Or.inr hc.2⟩
        · rw [if_neg hc] at h; cases h
      · obtain ⟨p, hp, hall, _⟩ := ih.mp h
        exact ⟨b :: p, by simp [hp], by simpa [hall] using hb, Or.inl (by simp)⟩
    · rintro ⟨p, hp, hall, hne⟩
      cases p with
      | nil =>
        simp only [List.nil_append, List.cons.injEq] at hp
        rcases hne with hne | hne
        · exact absurd rfl hne
        · left
          rw [if_pos ⟨hp.1, hne⟩, hp.2]
          exact List.mem_singleton.mpr rfl
      | cons c p' =>
        simp only [List.cons_append, List.cons.injEq] at hp
        simp only [List.all_cons, Bool.and_eq_true] at hall
        right
        exact ih.mpr ⟨p', hp.2, hall.2, Or.inr rfl⟩

/-- What `||d^` matches among host names: `d` itself and the names `sub.d`, compared
case-insensitively, and nothing else. -/
theorem domainPattern_iff (d h : Bytes) (hd : d.all plainByte = true) (hh : h.all plainByte = true) :
    searchFrom (.startURL :: compileBody (d ++ [94])) (httpScheme ++ h) true = true ↔
      (lower h = lower d ∨ ∃ sub tail, sub ≠ [] ∧ h = sub ++ dot :: tail ∧ lower tail = lower d) := by
  rw [searchFrom_startURL_eq, compileBody_plain d hd]
  have hpre : httpScheme.isPrefixOf (httpScheme ++ h) = true := by simp
  have hdrop : (httpScheme ++ h).drop httpScheme.length = h := by simp
  simp only [matchHere, hpre, hdrop, Bool.true_and, Bool.or_eq_true, lits_sep_plain d h false hh, List.any_eq_true]
  apply or_congr_right
  constructor
  · rintro ⟨r, hr, hm⟩
    obtain ⟨p, hp, _, hne⟩ := (afterHostPrefix_iff h r false).mp hr
    exact ⟨p, r, hne.resolve_right Bool.false_ne_true, hp,
      (lits_sep_plain d r false (all_append_cons (hp ▸ hh)).2.2).mp hm⟩
  · rintro ⟨sub, tail, hsne, hsplit, hl⟩
    have hparts := all_append_cons (hsplit ▸ hh)
    exact ⟨tail, (afterHostPrefix_iff h tail false).mpr ⟨sub, hsplit, all_plain_urlHost hparts.1, Or.inl hsne⟩,
      (lits_sep_plain d tail false hparts.2.2).mpr hl⟩

end AGH.Filter
