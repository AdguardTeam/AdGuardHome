/-
C06: facts about runs of the CNAME loop, for every sorter, by induction over `Chased`:
ghost state, provenance of addresses and of the canonical name (in lower case on a table
with lower-case names); `processRewrites` at a name with and without a covering CNAME
entry (`process_of_cname`, `process_of_no_cname`); and the counting lemma behind
`C06_terminates` (`cname_answers_bound`).
-/
import AGH.Lemmas.RewritesSpec
namespace AGH.C06
open AGH AGH.Bytes

theorem processRun_unmatched (srt : Bytes → Sorter) {tbl : List Entry} {h : Bytes} (q : Nat)
    (hm : tbl.any (matchesHost · h) = false) : processRun srt tbl h q = ⟨Out.empty, h, []⟩ := by
  unfold processRun
  rw [find_matched, if_pos hm]

theorem processRun_matched (srt : Bytes → Sorter) {tbl : List Entry} {h : Bytes} (q : Nat)
    (hm : tbl.any (matchesHost · h) = true) : processRun srt tbl h q = chase srt tbl q h h [] [] := by
  unfold processRun
  rw [find_matched, hm]
  rfl

theorem unvisited_le (tbl : List Entry) (visited : List Bytes) : unvisited tbl visited ≤ tbl.length := by
  unfold unvisited
  exact List.length_filter_le _ _

theorem cname_answers_bound {tbl : List Entry} {vs : List Bytes} (hnd : vs.Nodup)
    (hsrc : ∀ v ∈ vs, ∃ e ∈ tbl, e.typ = .CNAME ∧ e.answer = v) :
    vs.length ≤ (tbl.filter (fun e => e.typ == .CNAME)).length := by
  have := hnd.length_le_of_subset
    (l₂ := (tbl.filter (fun e => e.typ == .CNAME)).map (·.answer)) (by
    intro v hv
    obtain ⟨e, he, hc, ha⟩ := hsrc v hv
    exact List.mem_map.mpr ⟨e, List.mem_filter.mpr ⟨he, by simp [hc]⟩, ha⟩)
  simpa using this

section Runs
variable {srt : Bytes → Sorter} {tbl : List Entry} {qt : Nat} {orig host : Bytes}
  {visited : List Bytes} {canon : Bytes} {r : Run}

theorem Chased.ghost (h : Chased srt tbl qt orig host visited canon r) :
    (visited.Nodup → r.visited.Nodup) ∧
    (∀ v ∈ r.visited, v ∈ visited ∨ ∃ e ∈ tbl, e.typ = .CNAME ∧ e.answer = v) := by
  induction h with
  | @hop host visited canon a r ha _ _ hv _ ih =>
    obtain ⟨hmem, _, hc⟩ := mem_of_mostSpecific_cnames ha
    refine ⟨fun hnd => ih.1 (List.nodup_cons.mpr ⟨by simpa using hv, hnd⟩), fun v hv' => ?_⟩
    rcases ih.2 v hv' with h | h
    · rcases List.mem_cons.mp h with rfl | h
      · exact Or.inr ⟨a, hmem, hc, rfl⟩
      · exact Or.inl h
    · exact Or.inr h
  | _ => exact ⟨id, fun v hv => Or.inl hv⟩

theorem Chased.ips_most_specific (h : Chased srt tbl qt orig host visited canon r) (ip : Bytes) :
    ip ∈ r.out.ips →
      ∃ e ∈ Spec.mostSpecific (specAddrs tbl r.final qt), Spec.value e qt = some ip := by
  induction h with
  | final hno =>
    intro h
    rcases setRewriteResult_ips _ _ qt ip h with h' | ⟨e, he, hv⟩
    · cases h'
    · rw [specAddrs_eq_candidates qt hno]
      exact ⟨e, (find_most_specific _ _ (specCnames_eq_nil_iff.mp hno)).1 e he, hv⟩
  | hop _ _ _ _ _ ih => exact ih
  | _ => intro h; cases h

theorem Chased.canon_src (h : Chased srt tbl qt orig host visited canon r) :
    r.out.canon = canon ∨ r.out.canon = [] ∨ ∃ e ∈ tbl, e.typ = .CNAME ∧ e.answer = r.out.canon := by
  induction h with
  | final _ => exact Or.inl (setRewriteResult_canon _ _ _)
  | pass _ _ => exact Or.inr (Or.inl rfl)
  | self ha _ hself =>
    obtain ⟨hmem, _, hc⟩ := mem_of_mostSpecific_cnames ha
    exact Or.inr (Or.inr ⟨_, hmem, hc, hself⟩)
  | cycle _ _ _ _ => exact Or.inl rfl
  | hop ha _ _ _ _ ih =>
    obtain ⟨hmem, _, hc⟩ := mem_of_mostSpecific_cnames ha
    rcases ih with h | h | h
    · exact Or.inr (Or.inr ⟨_, hmem, hc, h.symm⟩)
    · exact Or.inr (Or.inl h)
    · exact Or.inr (Or.inr h)

end Runs

theorem process_ghost (srt : Bytes → Sorter) (tbl : List Entry) (h : Bytes) (q : Nat) :
    (processRun srt tbl h q).visited.Nodup ∧
    ∀ v ∈ (processRun srt tbl h q).visited, ∃ e ∈ tbl, e.typ = .CNAME ∧ e.answer = v := by
  cases hm : tbl.any (matchesHost · h)
  · rw [processRun_unmatched srt q hm]; simp
  · rw [processRun_matched srt q hm]
    obtain ⟨h2, h3⟩ := (chase_chased srt tbl q h h [] []).ghost
    exact ⟨h2 List.nodup_nil, fun v hv => (h3 v hv).resolve_left (List.not_mem_nil)⟩

theorem process_visited_le (srt : Bytes → Sorter) (tbl : List Entry) (h : Bytes) (q : Nat) :
    (processRun srt tbl h q).visited.length ≤ (tbl.filter (fun e => e.typ == .CNAME)).length :=
  have ⟨hnd, hsrc⟩ := process_ghost srt tbl h q
  cname_answers_bound hnd hsrc

theorem process_ips_most_specific (srt : Bytes → Sorter) (tbl : List Entry) (h : Bytes) (q : Nat)
    (ip : Bytes) (hip : ip ∈ (processRun srt tbl h q).out.ips) :
    ∃ e ∈ Spec.mostSpecific (specAddrs tbl (processRun srt tbl h q).final q),
      Spec.value e q = some ip := by
  cases hm : tbl.any (matchesHost · h)
  · rw [processRun_unmatched srt q hm] at hip; cases hip
  · rw [processRun_matched srt q hm] at hip ⊢
    exact (chase_chased srt tbl q h h [] []).ips_most_specific ip hip

theorem lowerNames_map {tbl : List Entry} (hl : Spec.LowerNames tbl) : tbl.map Spec.foldEntry = tbl := by
  have : tbl.map Spec.foldEntry = tbl.map id := List.map_congr_left (fun e he => hl e he)
  rw [this, List.map_id]

theorem lowerNames_answer {tbl : List Entry} (hl : Spec.LowerNames tbl) {e : Entry} (he : e ∈ tbl)
    (hc : e.typ = .CNAME) : lower e.answer = e.answer := by
  have := congrArg Entry.answer (hl e he)
  simpa [Spec.foldEntry, hc] using this

theorem process_canon_lower (srt : Bytes → Sorter) (tbl : List Entry) (h : Bytes) (q : Nat)
    (hl : Spec.LowerNames tbl) :
    Spec.foldOut (processRewritesWith srt tbl h q) = processRewritesWith srt tbl h q := by
  have hc : lower (processRewritesWith srt tbl h q).canon = (processRewritesWith srt tbl h q).canon := by
    unfold processRewritesWith
    cases hm : tbl.any (matchesHost · h)
    · rw [processRun_unmatched srt q hm]; rfl
    · rw [processRun_matched srt q hm]
      rcases (chase_chased srt tbl q h h [] []).canon_src with h1 | h1 | ⟨e, he, hc, h1⟩
      · rw [h1]; rfl
      · rw [h1]; rfl
      · rw [← h1]; exact lowerNames_answer hl he hc
  unfold Spec.foldOut
  rw [hc]

theorem process_of_no_cname (srt : Bytes → Sorter) (tbl : List Entry) (h : Bytes) (q : Nat)
    (hcov : ∃ e ∈ tbl, matchesHost e h = true)
    (hno : ∀ e ∈ tbl, matchesHost e h = true → e.typ ≠ .CNAME) :
    ((findRewritesWith (srt h) tbl h q).1.any (Spec.passesFamily · q) = true →
      (processRewritesWith srt tbl h q).rewritten = false) ∧
    ((findRewritesWith (srt h) tbl h q).1.any (Spec.passesFamily · q) = false →
      processRewritesWith srt tbl h q =
        ⟨true, [], (findRewritesWith (srt h) tbl h q).1.filterMap (Spec.value · q)⟩) := by
  have heq : processRewritesWith srt tbl h q =
      setRewriteResult ⟨true, [], []⟩ (findRewritesWith (srt h) tbl h q).1 q := by
    unfold processRewritesWith
    rw [processRun_matched srt q (List.any_eq_true.mpr hcov)]
    rcases chase_iter srt tbl q h h [] [] with ⟨_, heq⟩ | ⟨a, ha, _⟩
    · rw [heq]
    · exact absurd (specCnames_eq_nil_iff.mpr hno) (List.ne_nil_of_mem (mostSpecific_subset _ a ha))
  rw [heq]
  exact setRewriteResult_view ⟨true, [], []⟩ _ q
    (fun e he => not_cname_of_candidates hno e (find_mem_candidates he))

theorem process_of_cname (srt : Bytes → Sorter) (tbl : List Entry) (h : Bytes) (q : Nat)
    (hsome : ∃ e ∈ tbl, e.typ = .CNAME ∧ matchesHost e h = true) :
    ∃ a ∈ Spec.mostSpecific (specCnames tbl h), processRun srt tbl h q =
      if a.answer = h ∨ a.answer = a.domain then ⟨Out.empty, h, []⟩
      else chase srt tbl q h a.answer [a.answer] a.answer := by
  obtain ⟨e, he, hc, hm⟩ := hsome
  rw [processRun_matched srt q (List.any_eq_true.mpr ⟨e, he, hm⟩)]
  rcases chase_iter srt tbl q h h [] [] with ⟨hno, _⟩ | ⟨a, ha, heq⟩
  · exact absurd hc (specCnames_eq_nil_iff.mp hno e he hm)
  · refine ⟨a, ha, ?_⟩
    rw [heq]
    by_cases hexc : a.answer = h ∨ a.answer = a.domain
    · rw [if_pos hexc, if_pos hexc]
    · rw [if_neg hexc, if_neg hexc, if_neg (fun hs => hexc (Or.inl hs))]
      rfl

end AGH.C06
