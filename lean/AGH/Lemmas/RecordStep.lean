/-
C08 lemmas: `processQuery` as one record update (`processQuery_eq`, the form
every proof rewrites to); what an operation other than a query does to the
state (`step_frame`); the invariant that every stored address has 4 or 16 bytes
(`Inv`); `client_info` of a reported record (`findFull_flag`: runtime records
and access settings never change the ignore flag; `reportFull_info_masked`);
one step of the model against the monitor (`specStep_model`).
-/
import AGH.Lemmas.RecordAnon
import AGH.Lemmas.RecordOwner
import AGH.Lemmas.RecordMultiset
namespace AGH.C08
open AGH AGH.Bytes

/-- The log condition of `processQueryLogsAndStats`. -/
def logCond (s : State) (q : Query) : Bool :=
  shouldLog s.conf (Ignore.normalize q.name) q.qtype (queryIDs q) && s.conf.qlogOn

/-- Its count condition. -/
def countCond (s : State) (q : Query) : Bool :=
  shouldCount s.conf (Ignore.normalize q.name) (queryIDs q) && s.conf.statsOn &&
    decide (Ignore.normalize q.name ≠ [])

theorem processQuery_eq (s : State) (q : Query) :
    processQuery s q =
      { s with
        mem := if logCond s q then s.mem ++ [logEntry s.conf q] else s.mem,
        sClients := if countCond s q then bump s.sClients (statKey s.conf q) else s.sClients,
        sDomains := if countCond s q then bump s.sDomains (Ignore.normalize q.name) else s.sDomains } := by
  have e1 : processQuery s q =
      (let s1 := if logCond s q then { s with mem := s.mem ++ [logEntry s.conf q] } else s
       if countCond s q then
         { s1 with sClients := bump s1.sClients (statKey s.conf q),
                   sDomains := bump s1.sDomains (Ignore.normalize q.name) }
       else s1) := rfl
  rw [e1]
  cases logCond s q <;> cases countCond s q <;> rfl

theorem logCond_false_of_name {s : State} {q : Query} (h : nameIgnoredLog s.conf q.name = true) :
    logCond s q = false := by
  unfold nameIgnoredLog at h
  simp [logCond, shouldLog, qlogShouldLog, h]

theorem logCond_false_of_client {s : State} {q : Query}
    (h : fromIgnoredLog s.conf q.cid (canon q.addr) q.zone = true) : logCond s q = false := by
  have := fromIgnoredLog_findMultiple h
  simp [logCond, shouldLog, qlogShouldLog, queryIDs_eq, this]

theorem countCond_false_of_name {s : State} {q : Query} (h : nameIgnoredStat s.conf q.name = true) :
    countCond s q = false := by
  unfold nameIgnoredStat at h
  simp [countCond, shouldCount, h]

theorem countCond_false_of_client {s : State} {q : Query} (hz : s.conf.fixZone = true)
    (h : fromIgnoredStat s.conf q.cid (canon q.addr) q.zone = true) : countCond s q = false := by
  have := fromIgnoredStat_shouldCount hz h
  simp [countCond, shouldCount, queryIDs_eq, this]

/-- The hypothesis of `masked_canon_anonymize`, of every stored record: the search needs it.  Statements
about membership list the two stores in the search's order `mem ++ file`, the equations of `step_stores` in
the order of storing, `file ++ mem`. -/
def Inv (s : State) : Prop := ∀ e ∈ s.mem ++ s.file, e.ip.length = 4 ∨ e.ip.length = 16

theorem addr_length_of_valid {q : Query} (hv : (Op.query q).valid = true) :
    q.addr.length = 4 ∨ q.addr.length = 16 :=
  ((Bool.or_eq_true _ _).mp hv).imp eq_of_beq eq_of_beq

theorem canon_ipMut_length (anon : Bool) {a : Bytes} (h : a.length = 4 ∨ a.length = 16) :
    (canon (ipMut anon a)).length = 4 ∨ (canon (ipMut anon a)).length = 16 := by
  unfold ipMut
  cases anon
  · exact canon_length a h
  · apply canon_length
    simp only [if_true]
    rw [anonymize_length]
    exact h

theorem masked_ipMut {anon : Bool} {a : Bytes} (ha : anon = true) (h : a.length = 4 ∨ a.length = 16) :
    masked (canon (ipMut anon a)) = true := by
  rw [ha]
  exact masked_canon_anonymize a h

theorem mem_processQuery {s : State} {q : Query} {e : Entry} :
    e ∈ (processQuery s q).mem ↔ e ∈ s.mem ∨ (logCond s q = true ∧ e = logEntry s.conf q) := by
  have hm : (processQuery s q).mem = if logCond s q then s.mem ++ [logEntry s.conf q] else s.mem := by
    rw [processQuery_eq]
  rw [hm]
  cases logCond s q
  · exact ⟨Or.inl, fun h => h.elim id fun h => nomatch h.1⟩
  · rw [if_pos rfl, List.mem_append, List.mem_singleton]
    exact ⟨fun h => h.imp id fun h => ⟨rfl, h⟩, fun h => h.imp id fun h => h.2⟩

theorem grown_processQuery {s : State} {q : Query} {x : Key}
    (h : x ∈ grown (processQuery s q).sClients s.sClients) : x = statKey s.conf q := by
  have hc : (processQuery s q).sClients =
      if countCond s q then bump s.sClients (statKey s.conf q) else s.sClients := by
    rw [processQuery_eq]
  rw [hc] at h
  cases hc : countCond s q <;> rw [hc] at h
  · rw [if_neg Bool.false_ne_true, grown_self] at h
    cases h
  · exact grown_bump h

theorem logEntry_masked {c : Conf} {q : Query} (ha : c.anon = true) (hq : q.addr.length = 4 ∨ q.addr.length = 16) :
    masked (logEntry c q).ip = true := by
  show masked (canon (ipMut c.anon q.addr)) = true
  exact masked_ipMut ha hq

theorem report_masked {c : Conf} {e : Entry} (ha : c.anon = true) (he : e.ip.length = 4 ∨ e.ip.length = 16) :
    masked (report c e).ip = true := by
  show masked (canon (ipMut c.anon e.ip)) = true
  exact masked_ipMut ha he

theorem statKey_masked {c : Conf} {q : Query} (ha : c.anon = true) (hq : q.addr.length = 4 ∨ q.addr.length = 16) :
    keyMasked (statKey c q) = true := by
  unfold statKey
  split
  · rfl
  · exact masked_ipMut ha hq

theorem step_frame (s : State) (op : Op) (h : ∀ q, op ≠ .query q) :
    (∃ c rt ro, (step s op).1 = { s with conf := c, runtime := rt, rotated := ro } ∧
      c.fixZone = s.conf.fixZone) ∨
    (∃ rt, (step s op).1 = { flush s with runtime := rt }) ∨ (step s op).1 = tick s := by
  cases op with
  | query q => exact absurd rfl (h q)
  | flush => exact Or.inr (Or.inl ⟨_, rfl⟩)
  | restart => exact Or.inr (Or.inl ⟨_, rfl⟩)
  | tick => exact Or.inr (Or.inr rfl)
  | setFlags n lg st =>
    rw [step]
    cases setFlags s.conf.clients n lg st <;> exact Or.inl ⟨_, _, _, rfl, rfl⟩
  | rmClient n =>
    rw [step]
    cases rmClient s.conf.clients n <;> exact Or.inl ⟨_, _, _, rfl, rfl⟩
  | edit n id =>
    rw [step]
    cases editClient s.conf.clients n id with
    | none => exact Or.inl ⟨_, _, _, rfl, rfl⟩
    | some r => cases r <;> exact Or.inl ⟨_, _, _, rfl, rfl⟩
  | rotate =>
    rw [step]
    cases s.rotated
    · cases s.file.isEmpty <;> exact Or.inl ⟨_, _, _, rfl, rfl⟩
    · exact Or.inl ⟨_, _, _, rfl, rfl⟩
  -- the configuration switches, the runtime index, and the reads
  | _ => exact Or.inl ⟨_, _, _, rfl, rfl⟩

theorem step_stores (s : State) (op : Op) (h : ∀ q, op ≠ .query q) :
    (step s op).1.file ++ (step s op).1.mem = s.file ++ s.mem ∧
    (step s op).1.dClients ++ (step s op).1.sClients = s.dClients ++ s.sClients ∧
    (step s op).1.dDomains ++ (step s op).1.sDomains = s.dDomains ++ s.sDomains := by
  rcases step_frame s op h with ⟨c, rt, ro, e, _⟩ | ⟨rt, e⟩ | e <;> rw [e]
  · exact ⟨rfl, rfl, rfl⟩
  · exact ⟨List.append_nil _, rfl, rfl⟩
  · exact ⟨rfl, List.append_nil _, List.append_nil _⟩

theorem mem_step {s : State} {op : Op} {e : Entry} (h : e ∈ (step s op).1.mem ++ (step s op).1.file) :
    e ∈ s.mem ++ s.file ∨ ∃ q, op = .query q ∧ logCond s q = true ∧ e = logEntry s.conf q := by
  by_cases hq : ∃ q, op = .query q
  · obtain ⟨q, rfl⟩ := hq
    have h : e ∈ (processQuery s q).mem ++ (processQuery s q).file := h
    rw [(processQuery_eq s q ▸ rfl : (processQuery s q).file = s.file), List.mem_append, mem_processQuery,
      or_right_comm, ← List.mem_append] at h
    exact h.imp id fun h => ⟨q, rfl, h⟩
  · rcases step_frame s op fun q h => hq ⟨q, h⟩ with ⟨c, rt, ro, e', _⟩ | ⟨rt, e'⟩ | e' <;> rw [e'] at h
    · exact Or.inl h
    · -- a flush leaves the buffer empty and the file `s.file ++ s.mem`
      have h : e ∈ s.file ++ s.mem := h
      exact Or.inl (List.mem_append.mpr (List.mem_append.mp h).symm)
    · exact Or.inl h

theorem step_inv {s : State} (hi : Inv s) (op : Op) (hv : op.valid = true) : Inv (step s op).1 := by
  intro e he
  rcases mem_step he with h | ⟨q, rfl, _, rfl⟩
  · exact hi e h
  · exact canon_ipMut_length _ (addr_length_of_valid hv)

theorem reset_fixZone {a : ResetArgs} {s0 : State} (h0 : reset a = some s0) :
    s0.conf.fixZone = a.fixZone := by
  rw [reset, Option.map_eq_some_iff] at h0
  obtain ⟨cs, _, rfl⟩ := h0
  rfl

theorem reset_inv {a : ResetArgs} {s0 : State} (h0 : reset a = some s0) : Inv s0 := by
  rw [reset, Option.map_eq_some_iff] at h0
  obtain ⟨cs, _, rfl⟩ := h0
  exact fun e he => nomatch he

theorem run_inv {s : State} (hi : Inv s) (ops : List Op) (hv : ∀ op ∈ ops, op.valid = true) :
    Inv (run s ops) := by
  induction ops generalizing s with
  | nil => exact hi
  | cons op rest ih =>
    exact ih (step_inv hi op (hv op List.mem_cons_self)) fun o ho => hv o (List.mem_cons_of_mem _ ho)

theorem fixZone_step (s : State) (op : Op) : (step s op).1.conf.fixZone = s.conf.fixZone := by
  by_cases hq : ∃ q, op = .query q
  · obtain ⟨q, rfl⟩ := hq
    show (processQuery s q).conf.fixZone = _
    rw [processQuery_eq]
  · rcases step_frame s op fun q h => hq ⟨q, h⟩ with ⟨c, rt, ro, e, hc⟩ | ⟨rt, e⟩ | e <;> rw [e]
    · exact hc
    · rfl
    · rfl

theorem not_and_not_of_imp {a b : Bool} (h : a = true → b = true) : ¬ ((a && !b) = true) := by
  cases a <;> cases b <;> simp_all

theorem added_processQuery (s : State) (q : Query) :
    minus (processQuery s q).mem s.mem = if logCond s q then [logEntry s.conf q] else [] := by
  rw [processQuery_eq]
  cases logCond s q
  · exact minus_self _
  · exact minus_append_self _ _

theorem processQuery_not_logged {s : State} {q : Query} (h : logCond s q = false) :
    (processQuery s q).mem = s.mem ∧ (processQuery s q).file = s.file := by
  rw [processQuery_eq, h]
  exact ⟨rfl, rfl⟩

theorem processQuery_not_counted {s : State} {q : Query} (h : countCond s q = false) :
    (processQuery s q).sClients = s.sClients ∧ (processQuery s q).sDomains = s.sDomains := by
  rw [processQuery_eq, h]
  exact ⟨rfl, rfl⟩

theorem specQuery_model (s : State) (q : Query) (hq : q.addr.length = 4 ∨ q.addr.length = 16) (hz : s.conf.fixZone = true) :
    specQuery s.conf s.shadow q (processQuery s q).mem (processQuery s q).sClients
      (processQuery s q).sDomains = none := by
  have noLog : logCond s q = false → (minus (processQuery s q).mem s.mem).isEmpty = true := fun h => by
    rw [added_processQuery, h]
    rfl
  have noCount : countCond s q = false →
      ((grown (processQuery s q).sClients s.sClients).isEmpty &&
        (grown (processQuery s q).sDomains s.sDomains).isEmpty) = true := fun h => by
    rw [(processQuery_not_counted h).1, (processQuery_not_counted h).2, grown_self, grown_self]
    rfl
  simp only [State.shadow]
  simp only [specQuery]
  rw [if_neg, if_neg, if_neg, if_neg, if_neg, if_neg]
  · -- stats-unmasked
    refine not_and_not_of_imp fun ha => List.all_eq_true.mpr fun x hx => ?_
    rw [grown_processQuery hx]
    exact statKey_masked ha hq
  · -- log-unmasked
    refine not_and_not_of_imp fun ha => ?_
    rw [added_processQuery]
    by_cases hc : logCond s q = true
    · rw [if_pos hc, List.all_cons, List.all_nil, Bool.and_true]
      exact logEntry_masked ha hq
    · rw [if_neg hc]
      rfl
  · exact not_and_not_of_imp fun h => noCount (countCond_false_of_client hz h)
  · exact not_and_not_of_imp fun h => noCount (countCond_false_of_name h)
  · exact not_and_not_of_imp fun h => noLog (logCond_false_of_client h)
  · exact not_and_not_of_imp fun h => noLog (logCond_false_of_name h)

theorem specFlush_model (s : State) : specFlush s.shadow (flush s).mem (flush s).file = none := by
  simp [specFlush, State.shadow, flush, minus_append_self, minus_self, minus_nil_left]

theorem firstSome_none {α : Type} {f : α → Option String} {l : List α} (h : ∀ x ∈ l, f x = none) :
    firstSome f l = none := by
  induction l with
  | nil => rfl
  | cons x rest ih =>
    simp only [firstSome, h x (List.mem_cons_self ..)]
    exact ih (fun y hy => h y (List.mem_cons_of_mem _ hy))

theorem mem_map_kept {β : Type} {s : State} {f : Entry → β} {r : β}
    (h : r ∈ (s.mem.reverse.filter (keeps s.conf) ++ s.file.reverse.filter (keeps s.conf)).map f) :
    ∃ e, e ∈ s.mem ++ s.file ∧ keeps s.conf e = true ∧ r = f e := by
  obtain ⟨e, he, rfl⟩ := List.mem_map.mp h
  rcases List.mem_append.mp he with he | he
  · exact ⟨e, List.mem_append_left _ (List.mem_reverse.mp (List.mem_filter.mp he).1),
      (List.mem_filter.mp he).2, rfl⟩
  · exact ⟨e, List.mem_append_right _ (List.mem_reverse.mp (List.mem_filter.mp he).1),
      (List.mem_filter.mp he).2, rfl⟩

theorem keeps_sound {c : Conf} {e : Entry} (h : keeps c e = true) :
    Ignore.has c.ignQ e.name = false ∧ fromIgnoredLog c e.cid e.ip = false := by
  simp only [keeps, Bool.and_eq_true, Bool.not_eq_true'] at h
  refine ⟨h.1, ?_⟩
  cases hf : fromIgnoredLog c e.cid e.ip
  · rfl
  · have := fromIgnoredLog_findMultiple hf
    have h2 : (findMultiple c.clients c.leases (entryIDs e) == some true) = false := h.2
    rw [entryIDs_eq, this] at h2
    exact absurd h2 (by decide)

theorem specFound_model {s : State} (hi : Inv s) {e : Entry} (he : e ∈ s.mem ++ s.file)
    (hk : keeps s.conf e = true) : specFound s.conf s.shadow (report s.conf e) = none := by
  obtain ⟨hn, hc⟩ := keeps_sound hk
  have hin : e ∈ standsFor s.conf s.shadow (report s.conf e) := by
    unfold standsFor
    apply List.mem_filter.mpr
    exact ⟨he, by simp⟩
  unfold specFound
  rw [if_neg, if_neg, if_neg, if_neg]
  · -- search-ignored-client
    intro hall
    have := List.all_eq_true.mp hall e hin
    simp [hc] at this
  · -- search-ignored-name
    simp [report, hn]
  · -- search-foreign-record
    rw [isEmpty_of_mem hin]
    exact Bool.false_ne_true
  · -- search-unmasked
    exact not_and_not_of_imp fun ha => report_masked ha (hi e he)

theorem specReport_model (s : State) :
    (match statsReport s with
     | .report sc sd => specReport s.shadow sc sd
     | _ => none) = none := by
  simp only [statsReport, specReport, State.shadow, grown_filter]
  rfl

/-- Storing units: the database tables are the concatenation of what the
database and the memory unit held. -/
theorem specDisk_model (sh : Shadow) (sc : List (Key × Nat)) (sd : List (Bytes × Nat))
    (hc : ∀ kv ∈ sc, kv ∈ sh.sc) (hd : ∀ kv ∈ sd, kv ∈ sh.sd) :
    specDisk sh (sh.dc ++ sh.sc) (sh.dd ++ sh.sd) sc sd = none := by
  simp only [specDisk, grown_self, grown_of_subset hc, grown_of_subset hd]
  rfl

theorem isBlocked_rule_ip {acc : Access} {id : QID} {a : Bytes} (h : (isBlocked acc id).2 = .ip a) :
    id = .ip a := by
  cases id with
  | cid c => cases h
  | ip b =>
    simp only [isBlocked] at h
    split at h
    · simp at h; rw [h]
    · split at h
      · simp at h
      · simp at h; rw [h]

theorem clientFull_rule (c : Conf) (rt : List RT) (id : QID) :
    (clientFull c rt id).1.rule = (isBlocked c.access id).2 := by
  unfold clientFull
  cases storageFindLoose c.clients c.leases id with
  | some p => rfl
  | none =>
    cases id with
    | cid x => rfl
    | ip a => simp only; cases rtFind rt a <;> rfl

theorem findFull_some {c : Conf} {rt : List RT} {ids : List QID} {i : Info} {g : Bool} :
    findFull c rt ids = some (i, g) → ∃ id ∈ ids, i = (clientFull c rt id).1 := by
  fun_induction findFull c rt ids with
  | case1 => nofun
  -- an artificial record: what the rest of the list finds, or else this record
  | case2 id rest r hart x hf ih =>
    intro h
    obtain ⟨id', hid, e⟩ := ih (hf.trans h)
    exact ⟨id', List.mem_cons_of_mem _ hid, e⟩
  | case3 id rest r hart hf ih =>
    intro h
    cases h
    exact ⟨id, List.mem_cons_self, rfl⟩
  | case4 id rest r hart =>
    intro h
    cases h
    exact ⟨id, List.mem_cons_self, rfl⟩

theorem mem_entryIDs_ip {e : Entry} {a : Bytes} (h : QID.ip a ∈ entryIDs e) : a = e.ip := by
  unfold entryIDs at h
  by_cases hc : e.cid ≠ []
  · simp [hc] at h; exact h
  · simp [hc] at h; exact h

/-- Runtime records and the access settings never change the ignore flag the finder hands to
`ShouldLog` and to the search: the full finder agrees with the reduced one. -/
theorem findFull_flag (c : Conf) (rt : List RT) (cid a : Bytes) :
    ((findFull c rt (idsOf cid a)).map (·.2) == some true) =
      (findMultiple c.clients c.leases (idsOf cid a) == some true) := by
  -- a runtime or artificial record carries the flag `false`, like no record at all
  have hfalse : ((some false : Option Bool) == some true) = ((none : Option Bool) == some true) := by decide
  have last : ((findFull c rt [QID.ip a]).map (·.2) == some true) =
      (findMultiple c.clients c.leases [QID.ip a] == some true) := by
    rw [findFull, findMultiple, clientFull]
    cases storageFindLoose c.clients c.leases (.ip a) with
    | some p => rfl
    | none => cases rtFind rt a <;> exact hfalse
  unfold idsOf
  by_cases hc : cid ≠ []
  · rw [if_pos hc, findFull, findMultiple, clientFull]
    cases storageFindLoose c.clients c.leases (.cid cid) with
    | some p => rfl
    | none =>
      -- an unknown ClientID gives an artificial record: the search goes on with the address
      rw [← last]
      cases findFull c rt [QID.ip a] with
      | some x => rfl
      | none => exact hfalse
  · rw [if_neg hc]
    exact last

theorem reportFull_info_some {s : State} {e : Entry} {i : Info} (h : (reportFull s e).info = some i) :
    canon (ipMut s.conf.anon e.ip) = e.ip ∧ ∃ g, findFull s.conf s.runtime (entryIDs e) = some (i, g) := by
  have h : (if canon (ipMut s.conf.anon e.ip) == e.ip then
      (findFull s.conf s.runtime (entryIDs e)).map (·.1) else none) = some i := h
  by_cases heq : (canon (ipMut s.conf.anon e.ip) == e.ip) = true
  · rw [if_pos heq] at h
    obtain ⟨x, hx, rfl⟩ := Option.map_eq_some_iff.mp h
    exact ⟨eq_of_beq heq, x.2, hx⟩
  · rw [if_neg heq] at h
    cases h

theorem reportFull_info_rule {s : State} {e : Entry} {i : Info} {a : Bytes}
    (h : (reportFull s e).info = some i) (hr : i.rule = .ip a) : a = e.ip := by
  obtain ⟨_, g, hf⟩ := reportFull_info_some h
  obtain ⟨id, hid, rfl⟩ := findFull_some hf
  rw [clientFull_rule] at hr
  rw [isBlocked_rule_ip hr] at hid
  exact mem_entryIDs_ip hid

theorem reportFull_info_masked {s : State} (hi : Inv s) {e : Entry} (he : e ∈ s.mem ++ s.file)
    (ha : s.conf.anon = true) : infoUnmasked (reportFull s e).info = false := by
  cases h : (reportFull s e).info with
  | none => rfl
  | some i =>
    simp only [infoUnmasked]
    cases hr : i.rule with
    | net _ _ => rfl
    | str _ => rfl
    | ip a =>
      -- the address is the stored one, which anonymising does not change: it is masked
      have hm := masked_ipMut ha (hi e he)
      rw [(reportFull_info_some h).1, ← reportFull_info_rule h hr] at hm
      show (!masked a) = false
      rw [hm]
      rfl

theorem specReported_model {s : State} (hi : Inv s) {r : Reported} (h : r ∈ searchFull s) :
    specReported s.conf s.shadow r = none := by
  obtain ⟨e, he, hk, rfl⟩ := mem_map_kept h
  unfold specReported
  rw [show (reportFull s e).entry = report s.conf e from rfl, specFound_model hi he hk]
  simp only
  rw [if_neg, if_neg]
  · intro hh
    simp only [Bool.and_eq_true] at hh
    rw [reportFull_info_masked hi he hh.1] at hh
    exact absurd hh.2 (by simp)
  · simp [reportFull]

theorem specStep_model {s : State} (hi : Inv s) (hz : s.conf.fixZone = true) (op : Op) (hv : op.valid = true) :
    specStep s.conf s.shadow op (step s op).2 = none := by
  cases op with
  | query q => exact specQuery_model s q (addr_length_of_valid hv) hz
  | flush => exact specFlush_model s
  | qlogConf en an ign => rfl
  | statsConf en ign => rfl
  | setFlags n lg st => rfl
  | rmClient n => rfl
  | search => exact firstSome_none fun r hr => specReported_model hi hr
  | stats => exact specReport_model s
  | edit n id => rfl
  | runtime a h o => rfl
  | tick => exact specDisk_model s.shadow [] [] (fun _ h => absurd h List.not_mem_nil) (fun _ h => absurd h List.not_mem_nil)
  | restart =>
    show (match specFlush s.shadow (flush s).mem (flush s).file with
      | some w => some w
      | none => specDisk s.shadow _ _ s.sClients s.sDomains) = none
    rw [specFlush_model s]
    exact specDisk_model s.shadow s.sClients s.sDomains (fun _ h => h) (fun _ h => h)
  | rotate =>
    simp only [step]
    cases s.rotated
    · cases s.file.isEmpty
      · show (if !(minus s.file s.file).isEmpty then some "flush-foreign-record" else none) = none
        rw [minus_self]
        rfl
      · rfl
    · rfl

theorem monitoredRun_of {s : State} (hi : Inv s) (hz : s.conf.fixZone = true) (ops : List Op)
    (hv : ∀ op ∈ ops, op.valid = true) : monitoredRun s ops = true := by
  induction ops generalizing s with
  | nil => rfl
  | cons op rest ih =>
    have hop := hv op List.mem_cons_self
    exact (Bool.and_eq_true _ _).mpr ⟨congrArg Option.isNone (specStep_model hi hz op hop),
      ih (step_inv hi op hop) ((fixZone_step s op).trans hz) fun o ho => hv o (List.mem_cons_of_mem _ ho)⟩

end AGH.C08
