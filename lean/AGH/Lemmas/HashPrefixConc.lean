/-
C19: lookups overlapping on one Checker, each in its two steps.  `ConcInv` (the cache
invariant, `Pending` for a lookup between its steps, the fresh verdict for a finished one)
is kept by every step of every schedule.
-/
import AGH.Lemmas.HashPrefixCache
namespace AGH.C19
open AGH AGH.Bytes

structure ConcInv (db : List Hash) (now : Nat) (hs : Nat → List Hash) (s : ConcC) : Prop where
  inv : Inv db now s.cache
  pending : ∀ i, s.pc i = 1 → Pending db (hs i) (s.pend i)
  done : ∀ i o, s.res i = some o →
    (∀ b, o.verdict = .blocked b → b = (hs i).any (fun h => db.contains h))

theorem concInv_step {db : List Hash} {cf : Conf} {now : Nat} {hs : Nat → List Hash}
    {exch : Bytes → Option (List RR)} {ord : List Hash → List (Prefix × List Hash)} {s : ConcC}
    (h : ConcInv db now hs s)
    (henv : ∀ toReq answer, exch (getQuestion cf.suffix toReq) = some answer →
      Honest db toReq (receivedHashes answer) ∧
      validGroups (receivedHashes answer) (ord (receivedHashes answer)) = true) (i : Nat) :
    ConcInv db now hs (stepC cf now hs exch ord s i) := by
  -- lookup `i` moves on to "finished": no new pending lookup; its answer, if any, is `o'`
  have hpend : ∀ k, (if k = i then 2 else s.pc k) = 1 → Pending db (hs k) (s.pend k) := fun k hk => by
    by_cases e : k = i
    · rw [if_pos e] at hk; cases hk
    · rw [if_neg e] at hk; exact h.pending k hk
  have hdone : ∀ o' : Outcome, (∀ b, o'.verdict = .blocked b → b = (hs i).any (fun h => db.contains h)) →
      ∀ k o, (if k = i then some o' else s.res k) = some o →
        ∀ b, o.verdict = .blocked b → b = (hs k).any (fun h => db.contains h) := fun o' ho' k o ho => by
    by_cases e : k = i
    · rw [if_pos e] at ho; cases ho; exact e ▸ ho'
    · rw [if_neg e] at ho; exact h.done k o ho
  have hfind := findInCache_sound db now (hs i) s.cache h.inv
  -- the exits of `stepC`: served from the cache, a question to ask, the answer checked, finished
  fun_cases stepC cf now hs exch ord s i with
  | case1 _ b c1 hf =>
    rw [hf] at hfind
    exact ⟨hfind.1, hpend, hdone _ fun b' hb' => by cases hb'; exact hfind.2⟩
  | case2 _ toReq c1 hf =>
    rw [hf] at hfind
    refine ⟨hfind.1, fun k hk => ?_, h.done⟩
    by_cases e : k = i
    · subst e; simp only [if_true]; exact hfind.2
    · simp only [e, if_false] at hk ⊢; exact h.pending k hk
  | case3 _ h1 r =>
    obtain ⟨g1, g2⟩ := checkAnswer_sound db cf now (hs i) (s.pend i) exch ord s.cache h.inv
      (h.pending i h1) (fun answer he => henv _ answer he)
    exact ⟨g1, hpend, hdone _ g2⟩
  | case4 => exact h

theorem concInv_sched {db : List Hash} {cf : Conf} {now : Nat} {hs : Nat → List Hash}
    {exch : Bytes → Option (List RR)} {ord : List Hash → List (Prefix × List Hash)}
    (henv : ∀ toReq answer, exch (getQuestion cf.suffix toReq) = some answer →
      Honest db toReq (receivedHashes answer) ∧
      validGroups (receivedHashes answer) (ord (receivedHashes answer)) = true)
    (sched : List Nat) : ∀ s : ConcC,
    ConcInv db now hs s → ConcInv db now hs (sched.foldl (stepC cf now hs exch ord) s) := by
  induction sched with
  | nil => exact fun _ h => h
  | cons i rest ih => exact fun s h => ih _ (concInv_step h henv i)

end AGH.C19
