/-
Lemmas for C07: request parsing (`parseSearchParams` never lets a value
through that could fault; it accepts every well-formed request with the
meaning the spec gives it) and the criteria.
-/
import AGH.Lemmas.QLogSearch
import AGH.Spec.QLog
namespace AGH.C07
open AGH AGH.Bytes

theorem parseParams_some (sd : Int) (r : Req) (p : Params) : parseParams sd r = some p →
    parseLimit r = some p.limit ∧ parseOffset sd r p.limit = some (p.offset, p.scan) := by
  fun_cases parseParams sd r with
  | case5 _ _ _ hl _ _ hf => intro h; cases h; exact ⟨hl, hf⟩
  | case6 _ _ _ hl _ _ hf => intro h; cases h; exact ⟨hl, hf⟩
  -- a part did not parse
  | _ => intro h; cases h

theorem parseLimit_range (r : Req) (l : Int) : parseLimit r = some l → 0 ≤ l ∧ l ≤ maxInt := by
  fun_cases parseLimit r with
  | case1 => intro h; cases h
  | case2 v _ hv => intro h; cases h; omega
  | case3 => intro h; cases h; unfold maxInt; omega

theorem parseOffset_range (sd : Int) (r : Req) (l o sc : Int) : parseOffset sd r l = some (o, sc) →
    0 ≤ o ∧ (o = 0 ∨ o + l ≤ maxInt) := by
  fun_cases parseOffset sd r l with
  | case1 => intro h; cases h
  | case2 v _ hv => intro h; cases h; omega
  | case3 => intro h; cases h; omega

theorem parseParams_range (sd : Int) (r : Req) (p : Params) (h : parseParams sd r = some p) :
    0 ≤ p.limit ∧ 0 ≤ p.offset ∧ p.offset + p.limit ≤ maxInt := by
  obtain ⟨h2, h3⟩ := parseParams_some sd r p h
  have hr := parseLimit_range r p.limit h2
  have ho := parseOffset_range sd r p.limit p.offset p.scan h3
  omega

theorem validP_of_parse (sd : Int) (r : Req) (p : Params) (h : parseParams sd r = some p)
    (hl : p.limit ≠ 0) : ValidP p := by
  obtain ⟨h1, h2, h3⟩ := parseParams_range sd r p h
  exact ⟨h2, by omega, h3⟩

theorem handle_no_fault (sd : Int) (s : State) (r : Req) : ∃ resp, handle sd s r = .ok resp := by
  unfold handle
  cases hp : parseParams sd r with
  | none => exact ⟨_, rfl⟩
  | some p =>
    simp only
    by_cases hl : p.limit = 0
    · rw [search_limit_zero s p hl]
      exact ⟨_, rfl⟩
    · rw [search_valid s p (validP_of_parse sd r p hp hl)]
      exact ⟨_, rfl⟩

theorem parseInt64_of_decimal_none (s : Bytes) (h : decimal? s = none) : parseInt64 s = none := by
  fun_cases parseInt64 s with
  -- the two cases with a number: `decimal?` made the same two tests
  | case3 _ h1 h2 | case5 _ h1 h2 => rw [decimal?, if_neg (not_or.2 ⟨h1, h2⟩)] at h; cases h
  | _ => rfl

theorem parseInt64_of_decimal_some (s : Bytes) (v : Int) (h : decimal? s = some v) (h0 : 0 ≤ v)
    (h1 : v ≤ maxInt) : parseInt64 s = some v := by
  rw [decimal?] at h
  fun_cases parseInt64 s with
  -- no number: `decimal?` made the same two tests
  | case1 _ he => rw [if_pos (Or.inl he)] at h; cases h
  | case2 _ _ hd => rw [if_pos (Or.inr hd)] at h; cases h
  | case3 _ he hd _ hneg =>
    rw [if_neg (not_or.2 ⟨he, hd⟩)] at h
    dsimp only at h
    rwa [if_pos hneg] at h
  | case4 _ he hd v' hneg hle =>
    -- a minus sign and `0 ≤ v`: the digits are 0 ("-0"), within the bound
    rw [if_neg (not_or.2 ⟨he, hd⟩)] at h
    dsimp only at h
    rw [if_pos hneg] at h
    have hv : -v' = v := Option.some.inj h
    have : 0 ≤ v' := Int.natCast_nonneg _
    omega
  | case5 _ he hd _ hneg =>
    rw [if_neg (not_or.2 ⟨he, hd⟩)] at h
    dsimp only at h
    rwa [if_neg hneg] at h
  | case6 _ he hd v' hneg hle =>
    rw [if_neg (not_or.2 ⟨he, hd⟩)] at h
    dsimp only at h
    rw [if_neg hneg] at h
    have hv : v' = v := Option.some.inj h
    exact absurd (hv ▸ h1) hle

theorem parseLimit_of_ask (r : Req) (n : Nat) : askLimit r = some n → parseLimit r = some (n : Int) := by
  fun_cases askLimit r with
  | case1 hd => intro h; cases h; rw [parseLimit, parseInt64_of_decimal_none _ hd]; rfl
  | case2 v hd hr =>
    intro h
    cases h
    rw [parseLimit, parseInt64_of_decimal_some _ v hd hr.1 hr.2]
    dsimp only
    rw [if_neg (by omega), Int.toNat_of_nonneg hr.1]
  | case3 => intro h; cases h

/-- `offset` absent or not a number: cursor paging with the default scan budget;
a number in range: offset paging with an unlimited scan. -/
theorem parseOffset_of_ask (sd : Int) (r : Req) (n : Nat) (off : Option Nat) : askOffset r n = some off →
    ∃ x : Int × Int, parseOffset sd r n = some x ∧
      match off with
      | some o => x.1 = o ∧ x.2 = 0
      | none => x.1 = 0 ∧ x.2 = sd := by
  fun_cases askOffset r n with
  | case1 hd => intro h; cases h; exact ⟨_, by rw [parseOffset, parseInt64_of_decimal_none _ hd], rfl, rfl⟩
  | case2 v hd hr =>
    intro h
    cases h
    rw [parseOffset, parseInt64_of_decimal_some _ v hd hr.1 (by omega)]
    dsimp only
    rw [if_neg (by omega)]
    exact ⟨_, rfl, (Int.toNat_of_nonneg hr.1).symm, rfl⟩
  | case3 => intro h; cases h

theorem parseOlder_eq_ask (r : Req) : parseOlder r = askOlder r := by
  unfold parseOlder askOlder; cases r.older <;> rfl

theorem parseStatus_of_ask (r : Req) (st : Option Status) : askStatus r = some st →
    parseStatus r = st.map (fun v => some (.status v)) := by
  fun_cases askStatus r with
  | case1 h0 => intro h; cases h; rw [parseStatus, if_pos h0]; rfl
  | case2 h0 v hn => intro h; cases h; rw [parseStatus, if_neg h0]; dsimp only; rw [hn]; rfl
  | case3 => intro h; cases h

theorem parseTerm_of_ask (r : Req) (t : Option (Bytes × Bytes × Bool)) : askTerm r = some t →
    parseTerm r = t.map (fun x => .term x.1 x.2.1 x.2.2) := by
  fun_cases askTerm r with
  | case1 h0 => intro h; cases h; rw [parseTerm, if_pos h0]; rfl
  | case2 => intro h; cases h
  | case3 h0 he => intro h; cases h; rw [parseTerm, if_neg h0]; dsimp only; rw [if_neg he]; rfl

theorem hasPrefixFoldR_iff : ∀ (rs ts : List Nat), hasPrefixFoldR rs ts = true ↔ ts <+: rs
  | _, [] => by simp [hasPrefixFoldR]
  | [], b :: t => by simp [hasPrefixFoldR]
  | a :: s, b :: t => by
    rw [hasPrefixFoldR, Bool.and_eq_true, beq_iff_eq, hasPrefixFoldR_iff s t, List.cons_prefix_cons, eq_comm]

theorem containsRunes_iff (ts : List Nat) (hts : ts ≠ []) : ∀ rs, containsRunes ts rs = true ↔ ts <:+: rs
  | [] => by simp [containsRunes, hts]
  | a :: rs => by
    rw [containsRunes, Bool.or_eq_true, hasPrefixFoldR_iff, containsRunes_iff ts hts rs, List.infix_cons_iff]

theorem foldRunes_ne_nil (s : Bytes) (h : s ≠ []) : foldRunes s ≠ [] := by
  cases s with
  | nil => exact absurd rfl h
  | cons b r => simp [foldRunes, decodeRunes, decodeRunesN]

theorem containsFold_iff (s sub : Bytes) : containsFold s sub = true ↔ foldRunes sub <:+: foldRunes s := by
  unfold containsFold
  by_cases h : sub.length = 0
  · rw [if_pos h, List.eq_nil_of_length_eq_zero h]
    exact iff_of_true rfl List.nil_infix
  · rw [if_neg h]
    exact containsRunes_iff _ (foldRunes_ne_nil sub (fun hh => h (by simp [hh]))) _

theorem containsSpec_iff (s sub : Bytes) : containsSpec s sub = true ↔ foldRunes sub <:+: foldRunes s := by
  unfold containsSpec
  generalize foldRunes s = rs
  generalize foldRunes sub = ts
  simp only [List.any_eq_true, List.mem_range, Bool.and_eq_true, beq_iff_eq, decide_eq_true_eq]
  constructor
  · rintro ⟨i, _, h1, h2⟩
    refine ⟨rs.take i, (rs.drop i).drop ts.length, ?_⟩
    have := List.take_append_drop ts.length (rs.drop i)
    rw [h1] at this
    rw [List.append_assoc, this, List.take_append_drop]
  · rintro ⟨pre, post, h⟩
    refine ⟨pre.length, by rw [← h]; simp; omega, ?_, by rw [← h]; simp⟩
    rw [← h]
    simp

theorem containsFold_eq_spec (s sub : Bytes) : containsFold s sub = containsSpec s sub :=
  Bool.eq_iff_iff.mpr ((containsFold_iff s sub).trans (containsSpec_iff s sub).symm)

theorem termMatch_eq_sat (c : Conf) (strict : Bool) (term ascii : Bytes) (e : Entry) :
    termMatch strict term ascii e.cid (clientName c e.cid e.ip) e.host e.ip = termSat c strict term ascii e := by
  unfold termMatch termSat
  cases strict with
  | true =>
    simp only [if_true, termStrict, List.any_cons, List.any_nil, Bool.or_false]
    ac_rfl
  | false =>
    simp only [Bool.false_eq_true, if_false, termNonStrict, List.any_cons, List.any_nil, Bool.or_false,
      containsFold_eq_spec]
    ac_rfl

theorem statusMatch_eq_sat (v : Status) (reason : Nat) (isF : Bool) :
    statusMatch v reason isF = statusSat v reason isF := by
  cases v <;>
    simp only [statusMatch, statusSat, isFilteredWithReason, reasonIn, List.contains_cons, List.contains_nil,
      Bool.or_false, rAllowList, rRewritten, rRewrittenAutoHosts, rRewrittenRule, rBlockList, rBlockedService,
      rParental, rSafeBrowsing, rSafeSearch, Bool.decide_or, Bool.beq_eq_decide_eq]

/-- Only the twelve codes of `filtering.Reason` enter `statusMatch`: a larger number is in none of its lists and
equal to none of the codes, like 12; a statement about `statusMatch` for all reasons is thereby a finite check. -/
theorem statusMatch_bounded (reason : Nat) (isF : Bool) :
    ∃ r < 13, (∀ v, statusMatch v reason isF = statusMatch v r isF) ∧
      ∀ k < 12, (reason == k) = (r == k) := by
  by_cases h : reason < 12
  · exact ⟨reason, by omega, fun _ => rfl, fun _ _ => rfl⟩
  · have hk : ∀ k < 12, (reason == k) = (12 == k) := fun k hk => by
      rw [beq_false_of_ne (by omega), beq_false_of_ne (by omega)]
    refine ⟨12, by decide, fun v => ?_, hk⟩
    cases v <;>
      simp (disch := decide) only [statusMatch, isFilteredWithReason, reasonIn, List.contains_cons, List.contains_nil, rAllowList,
        rRewritten, rRewrittenAutoHosts, rRewrittenRule, rBlockList, rBlockedService, rParental, rSafeBrowsing,
        rSafeSearch, hk]

theorem parse_of_ask (sd : Int) (r : Req) (a : Ask) : ask r = some a →
    ∃ p, parseParams sd r = some p ∧ p.olderThan = a.olderThan ∧ p.limit = a.limit ∧
      (match a.offset with
       | some o => p.offset = o ∧ p.scan = 0
       | none => p.offset = 0 ∧ p.scan = sd) ∧
      ∀ c e, matchE c p e = satisfies c a e := by
  fun_cases ask r with
  | case6 ot ho limit hl off hf st hs tm ht =>
    intro h
    cases h
    have hpo : parseOlder r = some ot := by rw [parseOlder_eq_ask, ho]
    have hpl := parseLimit_of_ask r limit hl
    have hps := parseStatus_of_ask r st hs
    have hpt := parseTerm_of_ask r tm ht
    have hcrit : ∀ (po ps : Int) c e,
        matchE c { olderThan := ot,
                   criteria := critList (tm.map (fun x => .term x.1 x.2.1 x.2.2)) (st.map .status),
                   offset := po, limit := limit, scan := ps } e =
        satisfies c { olderThan := ot, offset := off, limit := limit, term := tm, status := st } e := by
      intro po ps c e
      unfold matchE satisfies critList
      cases ot <;> cases tm with
      | none =>
        cases st with
        | none => simp
        | some v => simp [critMatch, statusMatch_eq_sat]
      | some x =>
        obtain ⟨v, asc, strict⟩ := x
        cases st with
        | none => simp [critMatch, termMatch_eq_sat]
        | some w => simp [critMatch, termMatch_eq_sat, statusMatch_eq_sat, Bool.and_assoc]
    obtain ⟨⟨po, ps⟩, hpf, hxy⟩ := parseOffset_of_ask sd r limit off hf
    refine ⟨{ olderThan := ot,
              criteria := critList (tm.map (fun x => .term x.1 x.2.1 x.2.2)) (st.map .status),
              offset := po, limit := limit, scan := ps }, ?_, rfl, rfl, ?_, hcrit po ps⟩
    · simp only [parseParams, hpo, hpl, hpf, hps, hpt]
      cases st <;> rfl
    · cases off <;> exact hxy
  -- a part of the request is not well formed
  | _ => intro h; cases h

end AGH.C07
