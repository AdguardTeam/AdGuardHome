/-
C20: the monitor's Bool functions in terms of the lemma modules' propositions, and the
simulation: every model step keeps `Sim` between the spec promise and the reader state, and its
observation passes the monitor.
-/
import AGH.Lemmas.QLogReader
namespace AGH.C20
open AGH

theorem getD_noPromise (n k : Nat) : (noPromise n).getD k none = none := by
  simp only [noPromise, List.getD_eq_getElem?_getD, List.getElem?_replicate]
  split <;> rfl

theorem slice_succ (f : File) (a n : Nat) :
    f.slice a (a + (n + 1)) = f.byte a :: f.slice (a + 1) (a + 1 + n) := by
  unfold File.slice
  rw [Nat.add_sub_cancel_left, Nat.add_sub_cancel_left, List.range_succ_eq_map]
  simp only [List.map_cons, List.map_map, Nat.add_zero]
  congr 1
  apply List.map_congr_left
  intro i _
  simp only [Function.comp, Nat.add_assoc, Nat.add_comm 1]

theorem hashRange_eq (f : File) : ∀ (n : Nat) (h : UInt64) (a : Nat),
    hashRange f h a n = (f.slice a (a + n)).foldl fnvByte h := by
  intro n
  induction n with
  | zero => intro h a; simp [hashRange, File.slice]
  | succ n ih =>
    intro h a
    rw [hashRange, ih, slice_succ]
    rfl

theorem slice_norm (f : File) (a b : Nat) : f.slice a (a + (b - a)) = f.slice a b := by
  unfold File.slice
  rw [Nat.add_sub_cancel_left]

theorem hashRanges_eq_hashLines (fs : List File) (rs : List (Nat × Nat × Nat)) :
    hashRanges fs rs = hashLines (rs.map (fun x => (fs.getD x.1 noFile).slice x.2.1 x.2.2)) := by
  unfold hashRanges hashLines
  generalize fnvInit = h0
  induction rs generalizing h0 with
  | nil => rfl
  | cons x rs ih =>
    simp only [List.foldl_cons, List.map_cons]
    rw [ih, hashRange_eq, slice_norm]

theorem checkNext_ok (fs : List File) (rem : List Bytes) (n : Nat) (xs : List (Nat × Nat × Nat))
    (h : xs.map (fun x => (fs.getD x.1 noFile).slice x.2.1 x.2.2) = rem.take n) :
    checkNext rem n xs.length (if n > rem.length then some Err.eof else none) (hashRanges fs xs) = none := by
  unfold checkNext
  have h1 : xs.length = (rem.take n).length := by rw [← h]; simp
  rw [hashRanges_eq_hashLines, h]
  simp [h1]

theorem increasing_pairwise : ∀ st : List Int, increasing st = true → st.Pairwise (· < ·)
  | [], _ => List.Pairwise.nil
  | [a], _ => by simp
  | a :: b :: rest, h => by
    simp only [increasing, Bool.and_eq_true, decide_eq_true_eq] at h
    have ih := increasing_pairwise (b :: rest) h.2
    rw [List.pairwise_cons]
    refine ⟨?_, ih⟩
    rw [List.pairwise_cons] at ih
    intro x hx
    rcases List.mem_cons.1 hx with h1 | h1
    · subst h1; exact h.1
    · have := ih.1 x h1; omega

theorem stampsOK_map (tsOf : Bytes → Int) (lines : List Bytes)
    (hst : stampsOK (lines.map tsOf) = true) :
    (∀ l ∈ lines, tsOf l ≠ 0) ∧ lines.Pairwise (fun a b => tsOf a < tsOf b) := by
  simp only [stampsOK, Bool.and_eq_true, List.all_eq_true, List.mem_map, bne_iff_ne, ne_eq,
    forall_exists_index, and_imp, forall_apply_eq_imp_iff₂] at hst
  exact ⟨hst.1, List.pairwise_map.1 (increasing_pairwise _ hst.2)⟩

section
variable (tsOf : Bytes → Int) (ds : List FileDesc)

theorem mkCtx_ds : (mkCtx tsOf ds).ds = ds := rfl

theorem mkCtx_readableF (k : Nat) (h : (mkCtx tsOf ds).readableF.getD k false = true) :
    ∃ d, ds[k]? = some d ∧ readable d = true := by
  simp only [mkCtx, List.getD_eq_getElem?_getD, List.getElem?_map] at h
  cases hd : ds[k]? with
  | none => simp [hd] at h
  | some d => exact ⟨d, rfl, by simpa [hd] using h⟩

theorem mkCtx_seekableF (k : Nat) (h : (mkCtx tsOf ds).seekableF.getD k false = true) :
    ∃ d, ds[k]? = some d ∧ readable d = true ∧ SeekCtx tsOf d.lines := by
  simp only [mkCtx, List.getD_eq_getElem?_getD, List.getElem?_map] at h
  cases hd : ds[k]? with
  | none => simp [hd] at h
  | some d =>
    have hs : readable d = true ∧ stampsOK (d.lines.map tsOf) = true := by
      simpa [hd, seekable, stampsOf] using h
    obtain ⟨hnz, hsorted⟩ := stampsOK_map tsOf d.lines hs.2
    exact ⟨d, rfl, hs.1, ((readable_iff d).1 hs.1).2, hnz, hsorted⟩

theorem mkCtx_stamps (k : Nat) (d : FileDesc) (hd : ds[k]? = some d) :
    (mkCtx tsOf ds).stamps.getD k [] = d.lines.map tsOf := by
  simp [mkCtx, List.getD_eq_getElem?_getD, hd, stampsOf]

theorem mkCtx_allReadable : (mkCtx tsOf ds).allReadable = true ↔ ∀ d ∈ ds, readable d = true := by
  simp [mkCtx, List.all_eq_true]

theorem mkCtx_allSeekable (hsmall : ∀ d ∈ ds, (render d.lines).length < 2 ^ 63)
    (h : (mkCtx tsOf ds).allSeekable = true) : GlobalCtx tsOf ds := by
  simp only [mkCtx, Bool.and_eq_true, List.all_eq_true, List.mem_map, id, forall_exists_index,
    and_imp, forall_apply_eq_imp_iff₂] at h
  obtain ⟨hrd, hst⟩ := h
  have hfl : (ds.map (stampsOf tsOf)).flatten = (ds.flatMap (fun d => d.lines)).map tsOf := by
    rw [List.map_flatMap, List.flatMap_def]; rfl
  obtain ⟨hnz, hsorted⟩ := stampsOK_map tsOf _ (hfl ▸ hst)
  exact ⟨hrd, fun d hd l hl => hnz l (List.mem_flatMap.2 ⟨d, hd, hl⟩), hsorted, hsmall⟩

end

theorem findStampFilesIdx_spec (st : List (List Int)) (ts : Int) (n : Nat) :
    match findStampFilesIdx st ts n with
      | some (j, k) => j < n ∧ findStampIdx (st.getD j []) ts = some k
      | none => ∀ j, j < n → findStampIdx (st.getD j []) ts = none := by
  fun_induction findStampFilesIdx with
  | case1 => exact fun j hj => absurd hj (Nat.not_lt_zero j)
  | case2 n k hf => exact ⟨Nat.lt_succ_self _, hf⟩
  | case3 n hf ih =>
    cases hr : findStampFilesIdx st ts n with
    | some jk =>
      rw [hr] at ih
      exact ⟨Nat.lt_succ_of_lt ih.1, ih.2⟩
    | none =>
      rw [hr] at ih
      intro j hj
      rcases Nat.lt_or_eq_of_le (Nat.le_of_lt_succ hj) with h | rfl
      · exact ih j h
      · exact hf

theorem getLastD_max_of_sorted : ∀ (rest : List Int) (x : Int), (x :: rest).Pairwise (· < ·) →
    (x :: rest).getLastD x ∈ x :: rest ∧ ∀ y ∈ x :: rest, y ≤ (x :: rest).getLastD x := by
  intro rest
  induction rest with
  | nil => intro x _; simp [List.getLastD]
  | cons y r ih =>
    intro x h
    rw [List.pairwise_cons] at h
    obtain ⟨h1, h2⟩ := ih y h.2
    have hxy : x < y := h.1 y (by simp)
    have heq : (x :: y :: r).getLastD x = (y :: r).getLastD y := by simp [List.getLastD]
    rw [heq]
    refine ⟨List.mem_cons_of_mem _ h1, ?_⟩
    intro z hz
    rcases List.mem_cons.1 hz with hz | hz
    · subst hz
      exact Int.le_trans (Int.le_of_lt hxy) (h2 y (List.mem_cons_self ..))
    · exact h2 z hz

theorem absentClassOK_cons (first : Int) (rest : List Int) (ts : Int) (e : Err) :
    absentClassOK (first :: rest) ts e =
      (if ts < first then decide ((if e = .depth then Err.notFound else e) = .tooEarly)
       else if (first :: rest).getLastD first < ts then
         decide ((if e = .depth then Err.notFound else e) = .tooLate)
       else decide ((if e = .depth then Err.notFound else e) = .notFound)) := rfl

theorem absentClassOK_absentErr (tsOf : Bytes → Int) (ts : Int) (lines : List Bytes)
    (hs : lines.Pairwise (fun a b => tsOf a < tsOf b)) :
    absentClassOK (lines.map tsOf) ts (absentErr tsOf ts lines) = true := by
  cases lines with
  | nil => simp [absentErr, absentClassOK]
  | cons a t =>
    obtain ⟨hL1, hL2⟩ := getLastD_max_of_sorted (t.map tsOf) (tsOf a) (by
      rw [← List.map_cons, List.pairwise_map]; exact hs)
    rw [List.pairwise_cons] at hs
    -- the first stamp is the least, the last one the greatest
    have hmin : (∀ l ∈ a :: t, ts < tsOf l) ↔ ts < tsOf a :=
      ⟨fun h => h a (List.mem_cons_self ..), fun h1 l hl =>
        (List.mem_cons.1 hl).elim (fun e => e ▸ h1) (fun h => Int.lt_trans h1 (hs.1 l h))⟩
    have hmax : (∀ l ∈ a :: t, tsOf l < ts) ↔ (tsOf a :: t.map tsOf).getLastD (tsOf a) < ts := by
      constructor
      · intro h
        obtain ⟨l, hl, he⟩ := List.mem_map.1 (List.map_cons ▸ hL1)
        exact he ▸ h l hl
      · exact fun h2 l hl =>
          Int.lt_of_le_of_lt (hL2 _ (List.map_cons ▸ List.mem_map_of_mem hl)) h2
    rw [List.map_cons, absentClassOK_cons]
    fun_cases absentErr with
    | case1 h1 => rw [if_pos (hmin.1 h1)]; rfl
    | case2 h1 h2 => rw [if_neg (mt hmin.2 h1), if_pos (hmax.1 h2)]; rfl
    | case3 h1 h2 => rw [if_neg (mt hmin.2 h1), if_neg (mt hmax.2 h2)]; rfl

theorem modelStep_length (P : Params) (fs : List File) (tsOf : Bytes → Int) (r : RState) (op : Op) :
    (modelStep P fs tsOf r op).1.files.length = r.files.length := by
  fun_cases modelStep P fs tsOf r op with
  | case1 => exact rSeekStart_length fs r
  | case2 n r' ls e heq => rw [← rReadMany_length P fs n r [], heq]
  | case3 ts r' _ heq | case4 ts r' _ heq => rw [← rSeekLoop_length P fs tsOf ts fs.length r, ← rSeekTS, heq]
  -- the file operations put one file state back in its place
  | _ => exact List.length_set

/-- Every promise of the spec state is backed by the reader state. -/
structure Sim (P : Params) (ds : List FileDesc) (sp : SpecState) (r : RState) : Prop where
  flen : r.files.length = ds.length
  fcur : ∀ k rem, sp.fcur.getD k none = some rem →
    ∃ d c, ds[k]? = some d ∧ readable d = true ∧ FilePos P d.lines c (r.files.getD k {}) ∧
      rem = (d.lines.take c).reverse
  rcur : ∀ rem, sp.rcur = some rem → (∀ d ∈ ds, readable d = true) ∧ RPos P ds r rem

section
variable (P : Params) (tsOf : Bytes → Int) (ds : List FileDesc)

theorem sim_file (sp : SpecState) (r : RState) (h : Sim P ds sp r) (k : Nat) (q : QState)
    (fc' : List (Option (List Bytes)))
    (hother : ∀ k', k' ≠ k → fc'.getD k' none = sp.fcur.getD k' none)
    (hk : ∀ rem, fc'.getD k none = some rem →
      ∃ d, ds[k]? = some d ∧ readable d = true ∧ FileRem P d.lines q rem) :
    Sim P ds ⟨fc', none⟩ { r with files := r.files.set k q } := by
  refine ⟨by simp [h.flen], ?_, by intro rem hr; cases hr⟩
  intro k' rem hr
  by_cases hkk : k' = k
  · subst hkk
    obtain ⟨d, hd, hrd, c, hq, hrem⟩ := hk rem hr
    refine ⟨d, c, hd, hrd, ?_, hrem⟩
    show FilePos P d.lines c ((r.files.set k' q).getD k' {})
    rw [getD_set_eq (by rw [h.flen]; exact (List.getElem?_eq_some_iff.1 hd).1)]
    exact hq
  · rw [hother k' hkk] at hr
    obtain ⟨d, c, hd, hrd, hq, hrem⟩ := h.fcur k' rem hr
    refine ⟨d, c, hd, hrd, ?_, hrem⟩
    show FilePos P d.lines c ((r.files.set k q).getD k' {})
    rw [getD_set_ne (fun h => hkk h.symm)]
    exact hq

theorem sim_file_some (sp : SpecState) (r : RState) (h : Sim P ds sp r) (k : Nat) (q : QState)
    (d : FileDesc) (rem : List Bytes) (hd : ds[k]? = some d) (hrd : readable d = true)
    (hq : FileRem P d.lines q rem) :
    Sim P ds ⟨sp.fcur.set k (some rem), none⟩ { r with files := r.files.set k q } :=
  sim_file P ds sp r h k q _ (fun _ hk' => getD_set_ne (Ne.symm hk'))
    fun _ hr => ⟨d, hd, hrd, Option.some.inj (getD_set_some hr) ▸ hq⟩

theorem sim_file_none (sp : SpecState) (r : RState) (h : Sim P ds sp r) (k : Nat) (q : QState) :
    Sim P ds ⟨sp.fcur.set k none, none⟩ { r with files := r.files.set k q } :=
  sim_file P ds sp r h k q _ (fun _ hk' => getD_set_ne (Ne.symm hk'))
    fun _ hr => nomatch getD_set_some hr

theorem sim_none (r : RState) (hlen : r.files.length = ds.length) :
    Sim P ds ⟨noPromise ds.length, none⟩ r :=
  ⟨hlen, (by intro k rem h; rw [getD_noPromise] at h; cases h), (by intro rem h; cases h)⟩

theorem sim_reader (r : RState) (rem : List Bytes) (hrd : ∀ d ∈ ds, readable d = true)
    (hpos : RRem P ds r rem) : Sim P ds ⟨noPromise ds.length, some rem⟩ r :=
  ⟨hpos.2, (by intro k rem h; rw [getD_noPromise] at h; cases h),
   (by intro rem' h; cases h; exact ⟨hrd, hpos.1⟩)⟩

/-- The model's step `op` from `r` passes the monitor in state `sp` and keeps the simulation. -/
def StepOK (sp : SpecState) (r : RState) (op : Op) : Prop :=
  (specStep (mkCtx tsOf ds) sp op
    (obsOf (ds.map fileOfDesc) (modelStep P (ds.map fileOfDesc) tsOf r op).2)).1 = none ∧
  Sim P ds (specStep (mkCtx tsOf ds) sp op
    (obsOf (ds.map fileOfDesc) (modelStep P (ds.map fileOfDesc) tsOf r op).2)).2
    (modelStep P (ds.map fileOfDesc) tsOf r op).1

theorem step_fstart (sp : SpecState) (r : RState) (h : Sim P ds sp r) (k : Nat) :
    StepOK P tsOf ds sp r (.fstart k) := by
  unfold StepOK
  simp only [modelStep, obsOf]
  unfold specStep
  simp only [mkCtx_ds]
  by_cases hr : (mkCtx tsOf ds).readableF.getD k false = true
  · obtain ⟨d, hd, hrd⟩ := mkCtx_readableF tsOf ds k hr
    rw [if_pos hr, descs_getD ds k d hd, files_getD_readable ds k d hd hrd]
    exact ⟨rfl, sim_file_some P ds sp r h k _ d _ hd hrd (fileRem_seekStart P d.lines _)⟩
  · rw [if_neg hr]
    exact ⟨rfl, sim_file_none P ds sp r h k _⟩

theorem step_start (sp : SpecState) (r : RState) (h : Sim P ds sp r) (h0 : ds = [] → r.curN = 0) :
    StepOK P tsOf ds sp r .start := by
  unfold StepOK
  simp only [modelStep, obsOf]
  unfold specStep
  simp only [mkCtx_ds]
  by_cases hr : (mkCtx tsOf ds).allReadable = true
  · have hrd := (mkCtx_allReadable tsOf ds).1 hr
    rw [if_pos hr]
    exact ⟨rfl, sim_reader P ds _ _ hrd (rSeekStart_rrem P ds r h.flen hrd h0)⟩
  · rw [if_neg hr]
    exact ⟨rfl, sim_none P ds _ ((rSeekStart_length _ r).trans h.flen)⟩

theorem step_fnext (hP1 : entryLimit ≤ P.maxEntry) (hP2 : P.maxEntry ≤ P.bufSize)
    (sp : SpecState) (r : RState) (h : Sim P ds sp r) (k n : Nat) :
    StepOK P tsOf ds sp r (.fnext k n) := by
  unfold StepOK
  simp only [modelStep, obsOf]
  unfold specStep
  simp only
  cases hf : sp.fcur.getD k none with
  | none =>
    exact ⟨rfl, sim_file P ds sp r h k _ _ (fun k' _ => rfl) fun rem hrem => nomatch hf ▸ hrem⟩
  | some rem =>
    obtain ⟨d, c, hd, hrd, hq, hrem⟩ := h.fcur k rem hf
    obtain ⟨q', rs, h1, h2, h3⟩ :=
      fReadMany_spec P d.lines hP1 hP2 ((readable_iff d).1 hrd).2 n _ rem ⟨c, hq, hrem⟩
    have hfs := files_getD_readable ds k d hd hrd
    rw [hfs, h1]
    have hchk := checkNext_ok (ds.map fileOfDesc) rem n (rs.map (fun x => (k, x.1, x.2))) (by
      rw [List.map_map, ← h2]
      exact List.map_congr_left fun x _ => by simp only [Function.comp, hfs])
    rw [List.length_map] at hchk
    simp only [List.length_map, hchk, Option.isNone_none, if_true]
    exact ⟨trivial, sim_file_some P ds sp r h k q' d _ hd hrd h3⟩

theorem step_next (hP1 : entryLimit ≤ P.maxEntry) (hP2 : P.maxEntry ≤ P.bufSize)
    (sp : SpecState) (r : RState) (h : Sim P ds sp r) (n : Nat) :
    StepOK P tsOf ds sp r (.next n) := by
  unfold StepOK
  simp only [modelStep, obsOf]
  unfold specStep
  simp only [mkCtx_ds]
  cases hf : sp.rcur with
  | none => exact ⟨rfl, sim_none P ds _ ((rReadMany_length P _ n r []).trans h.flen)⟩
  | some rem =>
    obtain ⟨hrd, hpos⟩ := h.rcur rem hf
    obtain ⟨r', xs, h1, h2, h3⟩ := rReadMany_spec P ds hP1 hP2 hrd n r rem ⟨hpos, h.flen⟩
    rw [h1]
    simp only [checkNext_ok (ds.map fileOfDesc) rem n xs h2, Option.isNone_none, if_true]
    exact ⟨trivial, sim_reader P ds _ _ hrd h3⟩

def resOf {α : Type} : Except Err α → Option Err
  | .ok _ => none
  | .error e => some e

theorem modelStep_fseek (fs : List File) (r : RState) (k : Nat) (ts : Int) :
    (modelStep P fs tsOf r (.fseek k ts)).1 =
        { r with files := r.files.set k (seekTS P (fs.getD k noFile) tsOf (r.files.getD k {}) ts).1 } ∧
      obsOf fs (modelStep P fs tsOf r (.fseek k ts)).2 =
        .seek (resOf (seekTS P (fs.getD k noFile) tsOf (r.files.getD k {}) ts).2) := by
  simp only [modelStep]
  rcases seekTS P (fs.getD k noFile) tsOf (r.files.getD k {}) ts with ⟨q, e | pd⟩ <;>
    exact ⟨rfl, rfl⟩

theorem modelStep_seek (fs : List File) (r : RState) (ts : Int) :
    (modelStep P fs tsOf r (.seek ts)).1 = (rSeekTS P fs tsOf r ts).1 ∧
      obsOf fs (modelStep P fs tsOf r (.seek ts)).2 = .seek (resOf (rSeekTS P fs tsOf r ts).2) := by
  simp only [modelStep]
  rcases rSeekTS P fs tsOf r ts with ⟨q, e | pd⟩ <;> exact ⟨rfl, rfl⟩

theorem step_fseek (hP1 : entryLimit ≤ P.maxEntry)
    (hsmall : ∀ d ∈ ds, (render d.lines).length < 2 ^ 63)
    (sp : SpecState) (r : RState) (h : Sim P ds sp r) (k : Nat) (ts : Int) :
    StepOK P tsOf ds sp r (.fseek k ts) := by
  unfold StepOK
  obtain ⟨hm1, hm2⟩ := modelStep_fseek P tsOf (ds.map fileOfDesc) r k ts
  rw [hm1, hm2]
  unfold specStep
  simp only [mkCtx_ds]
  by_cases hs : (mkCtx tsOf ds).seekableF.getD k false = true
  · obtain ⟨d, hd, hrd, ctx⟩ := mkCtx_seekableF tsOf ds k hs
    have hdm : d ∈ ds := List.mem_of_getElem? hd
    simp only [hs, if_true, mkCtx_stamps tsOf ds k d hd, descs_getD ds k d hd]
    rw [files_getD_readable ds k d hd hrd]
    cases hf : findStampIdx (d.lines.map tsOf) ts with
    | some i =>
      obtain ⟨hi, hts⟩ := findStampIdx_some tsOf d.lines ts i hf
      obtain ⟨dd, _, hseek⟩ :=
        seekTS_found P tsOf ts d.lines hP1 ctx (hsmall d hdm) i hi hts (r.files.getD k {})
      rw [hseek]
      exact ⟨rfl, sim_file_some P ds sp r h k _ d _ hd hrd (fileRem_seek P d.lines i hi _)⟩
    | none =>
      have habs := (findStampIdx_eq_none_iff tsOf d.lines ts).1 hf
      rw [seekTS_absent P tsOf ts d.lines hP1 ctx.le (hsmall d hdm) habs (r.files.getD k {})]
      simp only [resOf, absentClassOK_absentErr tsOf ts d.lines ctx.sorted, if_true]
      refine ⟨trivial, sim_file P ds sp r h k _ _ (fun k' _ => rfl) fun rem hrem => ?_⟩
      obtain ⟨d', c, hd', hrd', hq, hr⟩ := h.fcur k rem hrem
      exact ⟨d', hd', hrd', c, filePos_sameBuf P hq rfl (Or.inr rfl), hr⟩
  · rw [if_neg hs]
    exact ⟨rfl, sim_file_none P ds sp r h k _⟩

theorem step_seek (hP1 : entryLimit ≤ P.maxEntry)
    (hsmall : ∀ d ∈ ds, (render d.lines).length < 2 ^ 63)
    (sp : SpecState) (r : RState) (h : Sim P ds sp r) (h0 : ds = [] → r.curN = 0) (ts : Int) :
    StepOK P tsOf ds sp r (.seek ts) := by
  unfold StepOK
  obtain ⟨hm1, hm2⟩ := modelStep_seek P tsOf (ds.map fileOfDesc) r ts
  rw [hm1, hm2]
  unfold specStep
  simp only [mkCtx_ds]
  by_cases hs : (mkCtx tsOf ds).allSeekable = true
  · have g := mkCtx_allSeekable tsOf ds hsmall hs
    -- the reader does what `lineSeek` says
    have hseek := rSeekTS_seeksTo P tsOf ts ds hP1 g.filesCtx r h.flen h0
    rw [if_pos hs]
    have hidx := findStampFilesIdx_spec (mkCtx tsOf ds).stamps ts ds.length
    cases hf : findStampFilesIdx (mkCtx tsOf ds).stamps ts ds.length with
    | some jk =>
      obtain ⟨j, k⟩ := jk
      rw [hf] at hidx
      obtain ⟨hj, hfk⟩ := hidx
      have hd : ds[j]? = some ds[j] := List.getElem?_eq_getElem hj
      rw [mkCtx_stamps tsOf ds j ds[j] hd] at hfk
      obtain ⟨hk, hts⟩ := findStampIdx_some tsOf ds[j].lines ts k hfk
      rw [lineSeek_found tsOf ts ds g j k ds[j] hd hk hts ds.length hj (Nat.le_refl _)] at hseek
      obtain ⟨r', h1, h2⟩ := hseek
      rw [h1]
      exact ⟨rfl, sim_reader P ds r' _ g.rd h2⟩
    | none =>
      rw [hf] at hidx
      have habs : ∀ d ∈ ds, ∀ l ∈ d.lines, tsOf l ≠ ts := by
        intro d hd
        obtain ⟨j, hj, rfl⟩ := List.getElem_of_mem hd
        have := hidx j hj
        rw [mkCtx_stamps tsOf ds j ds[j] (List.getElem?_eq_getElem hj)] at this
        exact (findStampIdx_eq_none_iff tsOf ds[j].lines ts).1 this
      rcases lineSeek_absent tsOf ts ds habs ds.length (Nat.le_refl _) with hn | ⟨hsome, hw⟩
      · rw [hn] at hseek
        obtain ⟨r', h1, h2⟩ := hseek
        rw [h1]
        simp only [resOf]
        rw [if_pos (by decide)]
        refine ⟨rfl, h2.2.1.trans h.flen, fun k rem hk => ?_, fun rem hrem => ?_⟩
        · rw [getD_noPromise] at hk; cases hk
        · obtain ⟨hrd, hpos⟩ := h.rcur rem hrem
          exact ⟨hrd, rpos_sameBuf P ds r r' rem hpos h2⟩
      · rw [hsome] at hseek
        obtain ⟨r', h1, h2⟩ := hseek
        rw [h1]
        have hany : (ds.isEmpty || (mkCtx tsOf ds).stamps.any (fun s => !s.isEmpty && s.all (· < ts))) = true := by
          rcases hw with rfl | ⟨d, hdm, hdne, hdlt⟩
          · rfl
          · rw [Bool.or_eq_true, List.any_eq_true]
            refine Or.inr ⟨d.lines.map tsOf, List.mem_map_of_mem hdm, ?_⟩
            simp only [Bool.and_eq_true, Bool.not_eq_true', List.isEmpty_eq_false_iff, ne_eq,
              List.map_eq_nil_iff, List.all_eq_true, List.mem_map, decide_eq_true_eq,
              forall_exists_index, and_imp, forall_apply_eq_imp_iff₂]
            exact ⟨hdne, hdlt⟩
        simp only [resOf, hany, if_true]
        exact ⟨trivial, sim_reader P ds r' _ g.rd h2⟩
  · rw [if_neg hs]
    exact ⟨rfl, sim_none P ds _
      ((rSeekLoop_length P (ds.map fileOfDesc) tsOf ts _ r).trans h.flen)⟩

theorem step_sim (hP1 : entryLimit ≤ P.maxEntry) (hP2 : P.maxEntry ≤ P.bufSize)
    (hsmall : ∀ d ∈ ds, (render d.lines).length < 2 ^ 63)
    (sp : SpecState) (r : RState) (h : Sim P ds sp r) (h0 : ds = [] → r.curN = 0) (op : Op) :
    StepOK P tsOf ds sp r op := by
  cases op with
  | start => exact step_start P tsOf ds sp r h h0
  | next n => exact step_next P tsOf ds hP1 hP2 sp r h n
  | seek ts => exact step_seek P tsOf ds hP1 hsmall sp r h h0 ts
  | fstart k => exact step_fstart P tsOf ds sp r h k
  | fnext k n => exact step_fnext P tsOf ds hP1 hP2 sp r h k n
  | fseek k ts => exact step_fseek P tsOf ds hP1 hsmall sp r h k ts

theorem sim_init : Sim P ds (specInit ds.length) (rInit ds.length) :=
  sim_none P ds (rInit ds.length) (List.length_replicate ..)

theorem modelStep_curN_nofiles (r : RState) (op : Op) :
    (modelStep P [] tsOf r op).1.curN = r.curN := by
  cases op with
  | start => rfl
  | next n => cases n <;> rfl
  | seek ts => rfl
  | fstart k => rfl
  | fnext k n => rfl
  | fseek k ts =>
    have := congrArg RState.curN (modelStep_fseek P tsOf [] r k ts).1
    exact this

theorem monitorRun_of_sim (hP1 : entryLimit ≤ P.maxEntry) (hP2 : P.maxEntry ≤ P.bufSize)
    (hsmall : ∀ d ∈ ds, (render d.lines).length < 2 ^ 63) :
    ∀ (ops : List Op) (r : RState) (sp : SpecState), Sim P ds sp r → (ds = [] → r.curN = 0) →
      monitorRun P (ds.map fileOfDesc) tsOf (mkCtx tsOf ds) r sp ops = true := by
  intro ops
  induction ops with
  | nil => intro r sp _ _; rfl
  | cons op ops ih =>
    intro r sp hsim h0
    obtain ⟨h1, h2⟩ := step_sim P tsOf ds hP1 hP2 hsmall sp r hsim h0 op
    -- `h0` is carried beside `Sim`: with no file no step moves `curN`, and `RPos P [] r rem`
    -- holds only of `curN = 0` (`rSeekStart_rrem`)
    rw [monitorRun, h1, ih _ _ h2 fun he => by
      subst he
      exact (modelStep_curN_nofiles P tsOf r op).trans (h0 rfl)]
    rfl

end
end AGH.C20
