/-
C12: runs and traces of the model alone, and what a run of failed logins
does to the throttle — the bridge from histories to `mustReject`.  The definitions in front
(`runM` … `cleanAfter`) are the terms in which the history theorems of Props/C12 are stated.
-/
import AGH.Lemmas.AuthSim
namespace AGH.C12

def runM : St → Nat → List Ev → St × Nat
  | st, now, [] => (st, now)
  | st, now, .advance d :: evs => runM st (now + d) evs
  | st, now, .op o :: evs => runM (step st now o).2 now evs

def traceM : St → Nat → List Ev → List (Nat × Op × Obs)
  | _, _, [] => []
  | st, now, .advance d :: evs => traceM st (now + d) evs
  | st, now, .op o :: evs => (now, o, (step st now o).1) :: traceM (step st now o).2 now evs

def loginOf (a : Nat) (e : Nat × Op × Obs) : Option LoginRes :=
  match e.2.1, e.2.2 with
  | .login req _ _, .login r => if attemptAddr req = a then some r else none
  | .basic req _, .login r => if attemptAddr req = a then some r else none
  | _, _ => none

def isRestart (e : Nat × Op × Obs) : Bool :=
  match e.2.1 with
  | .restart => true
  | _ => false

/-- the times at which an attempt from `a`, of either form, was answered 403 (a blocked attempt,
answered 429, is not among them) -/
def failTimes (a : Nat) (tr : List (Nat × Op × Obs)) : List Nat :=
  tr.filterMap (fun e => match loginOf a e with | some .forbidden => some e.1 | _ => none)

/-- nothing in the trace resets the count for `a`: no restart, and no attempt from `a` of either
form that was accepted -/
def noClear (a : Nat) (tr : List (Nat × Op × Obs)) : Bool :=
  tr.all (fun e => !isRestart e &&
    (match loginOf a e with | some (.ok _) => false | some .passed => false | _ => true))

/-- After the trace nothing is being counted for `a`: its last relevant event, if any, is a restart
or a successful login from `a`; the `Bool` is the answer for the events scanned so far. -/
def cleanAfter (a : Nat) : Bool → List (Nat × Op × Obs) → Bool
  | c, [] => c
  | c, e :: tr =>
    if isRestart e then cleanAfter a true tr
    else match loginOf a e with
      | some (.ok _) => cleanAfter a true tr
      | some .passed => cleanAfter a true tr
      | some .forbidden => cleanAfter a false tr
      | _ => cleanAfter a c tr

theorem failTimes_cons (a : Nat) (e : Nat × Op × Obs) (tr : List (Nat × Op × Obs)) :
    failTimes a (e :: tr) =
      match loginOf a e with
      | some .forbidden => e.1 :: failTimes a tr
      | _ => failTimes a tr := by
  simp only [failTimes, List.filterMap_cons]
  cases loginOf a e with
  | none => rfl
  | some r => cases r <;> rfl

theorem runLock_model (evs : List Ev) (st : St) (sp : Spec) (now : Nat) :
    (runLock st sp now evs).1 = (runM st now evs).1 ∧ (runLock st sp now evs).2.2 = (runM st now evs).2 := by
  fun_induction runLock st sp now evs with
  | case1 => exact ⟨rfl, rfl⟩
  | case2 st sp now d evs ih => exact ih
  | case3 st sp now o evs ih => exact ih

theorem simThr_run (evs : List Ev) (st : St) (sp : Spec) (now : Nat) (h : SimThr st sp now) :
    SimThr (runM st now evs).1 (runLock st sp now evs).2.1 (runM st now evs).2 := by
  fun_induction runLock st sp now evs with
  | case1 => exact h
  | case2 st sp now d evs ih => exact ih (simThr_advance d h)
  | case3 st sp now o evs ih => exact ih (simThr_step h o)

/-- `h` is what `specStep` does to `fails` after a login attempt of either form. -/
theorem failsOf_attempt (sp : Spec) (now : Nat) (req : Req) (r : LoginRes) (a : Nat) (sp' : Spec)
    (h : sp'.fails = match r with
      | .tooMany _ => sp.fails
      | .forbidden => sp.fails.set (attemptAddr req) (counted sp (attemptAddr req) now ++ [now])
      | _ => sp.fails.set (attemptAddr req) []) :
    failsOf sp' a =
      match (if attemptAddr req = a then some r else none) with
      | some (.ok _) => []
      | some .passed => []
      | some .forbidden => counted sp a now ++ [now]
      | _ => failsOf sp a := by
  unfold failsOf
  rw [h]
  by_cases ha : attemptAddr req = a
  · rw [if_pos ha, ← ha]
    cases r with
    | tooMany x => rfl
    | forbidden => exact congrArg (Option.getD · []) (FMap.set_self _ _ _)
    | ok t => exact congrArg (Option.getD · []) (FMap.set_self _ _ _)
    | passed => exact congrArg (Option.getD · []) (FMap.set_self _ _ _)
  · rw [if_neg ha]
    cases r with
    | tooMany x => rfl
    | forbidden => exact congrArg (Option.getD · []) (FMap.set_ne _ _ (Ne.symm ha))
    | ok t => exact congrArg (Option.getD · []) (FMap.set_ne _ _ (Ne.symm ha))
    | passed => exact congrArg (Option.getD · []) (FMap.set_ne _ _ (Ne.symm ha))

theorem failsOf_specStep (sp : Spec) (now : Nat) (o : Op) (obs : Obs) (a : Nat) :
    failsOf (specStep sp now o obs).2 a =
      if isRestart (now, o, obs) then (match obs with | .done => [] | _ => failsOf sp a)
      else match loginOf a (now, o, obs) with
        | some (.ok _) => []
        | some .passed => []
        | some .forbidden => counted sp a now ++ [now]
        | _ => failsOf sp a := by
  cases o with
  | login req good user =>
    cases obs with
    | login r => exact failsOf_attempt sp now req r a _ (by cases r <;> rfl)
    | auth b => rfl
    | done => rfl
  | basic req good =>
    cases obs with
    | login r => exact failsOf_attempt sp now req r a _ (by cases r <;> rfl)
    | auth b => rfl
    | done => rfl
  | request tok =>
    obtain ⟨t, e⟩ := specStep_request sp now tok obs
    rw [e]
    rfl
  | logout tok =>
    obtain ⟨t, e⟩ := specStep_logout sp now tok obs
    rw [e]
    rfl
  | restart => cases obs <;> rfl

theorem isRestart_eq {e : Nat × Op × Obs} (h : isRestart e = true) : e.2.1 = .restart := by
  obtain ⟨t, o, obs⟩ := e
  cases o <;> first | rfl | cases h

/-- `c` is `cleanAfter`'s own accumulator, left general so that the induction over the events
goes through. -/
theorem failsOf_clean (a : Nat) (evs : List Ev) (st : St) (sp : Spec) (now : Nat) (c : Bool)
    (hc : c = true → failsOf sp a = []) (h : cleanAfter a c (traceM st now evs) = true) :
    failsOf (runLock st sp now evs).2.1 a = [] := by
  fun_induction traceM st now evs generalizing sp c with
  | case1 => exact hc h
  | case2 st now d evs ih => exact ih sp c hc h
  | case3 st now o evs ih =>
    rw [cleanAfter] at h
    have hf := failsOf_specStep sp now o (step st now o).1 a
    by_cases hr : isRestart (now, o, (step st now o).1) = true
    · rw [if_pos hr] at h hf
      cases isRestart_eq hr
      exact ih _ true (fun _ => hf) h
    · rw [if_neg hr] at h hf
      cases hl : loginOf a (now, o, (step st now o).1) with
      | none =>
        rw [hl] at h hf
        exact ih _ c (fun hc' => hf.trans (hc hc')) h
      | some r =>
        rw [hl] at h hf
        cases r with
        | tooMany x => exact ih _ c (fun hc' => hf.trans (hc hc')) h
        | forbidden => exact ih _ false (fun hc' => nomatch hc') h
        | ok t => exact ih _ true (fun _ => hf) h
        | passed => exact ih _ true (fun _ => hf) h

/-- A failure at `now` that, appended to those listed in `p`, neither overfills the list nor leaves the
window of its first entry finds all of `p` still counted. -/
theorem counted_of_window {sp : Spec} {a now : Nat} {p q : List Nat} (hp : failsOf sp a = p)
    (hl : (p ++ now :: q).length ≤ sp.max)
    (hw : ∀ t ∈ p ++ now :: q, t ≤ (p ++ now :: q).headD 0 + failedAuthTTL) : counted sp a now = p := by
  rw [counted_eq, hp]
  cases p with
  | nil => exact ite_self _
  | cons f rest =>
    rw [List.length_append] at hl
    have hlen := Nat.lt_of_lt_of_le (Nat.lt_add_of_pos_right (Nat.succ_pos _)) hl
    exact if_pos ((stillCounts_iff sp _ now).mpr ⟨List.cons_ne_nil _ _,
      untilOf_of_lt hlen ▸ hw now (List.mem_append_right _ (List.mem_cons_self ..))⟩)

/-- `p`, the failures listed already, is left general for the induction; length and window are
stated of `p ++ failTimes …`, the list at the end, so that they pass to the tail of the history as
they are. -/
theorem failsOf_run (a : Nat) (evs : List Ev) (st : St) (sp : Spec) (now : Nat) (p : List Nat)
    (hp : failsOf sp a = p) (hn : noClear a (traceM st now evs) = true)
    (hl : (p ++ failTimes a (traceM st now evs)).length ≤ sp.max)
    (hw : ∀ t ∈ p ++ failTimes a (traceM st now evs),
      t ≤ (p ++ failTimes a (traceM st now evs)).headD 0 + failedAuthTTL) :
    failsOf (runLock st sp now evs).2.1 a = p ++ failTimes a (traceM st now evs) := by
  fun_induction traceM st now evs generalizing sp p with
  | case1 => exact hp.trans (List.append_nil p).symm
  | case2 st now d evs ih => exact ih sp p hp hn hl hw
  | case3 st now o evs ih =>
    simp only [noClear, List.all_cons, Bool.and_eq_true, Bool.not_eq_true'] at hn
    obtain ⟨⟨hr, hok⟩, hn'⟩ := hn
    have hf := failsOf_specStep sp now o (step st now o).1 a
    rw [if_neg (Bool.eq_false_iff.mp hr)] at hf
    have hmax := (specStep_conf sp now o (step st now o).1).2.1
    simp only [failTimes_cons] at hl hw ⊢
    cases hlo : loginOf a (now, o, (step st now o).1) with
    | none =>
      rw [hlo] at hf hl hw
      exact ih _ p (hf.trans hp) hn' (hmax ▸ hl) hw
    | some r =>
      rw [hlo] at hf hl hw hok
      cases r with
      | ok t => cases hok
      | passed => cases hok
      | tooMany x => exact ih _ p (hf.trans hp) hn' (hmax ▸ hl) hw
      | forbidden =>
        -- the failures counted so far are still counted: the new one is appended
        dsimp only at hf hl hw ⊢
        rw [counted_of_window hp hl hw] at hf
        rw [List.append_cons] at hl hw ⊢
        exact ih _ (p ++ [now]) hf hn' (hmax ▸ hl) hw

theorem mustReject_of_full {sp : Spec} {a now : Nat} (hen : sp.enabled = true) (hpos : 0 < sp.max)
    (hlen : sp.max ≤ (failsOf sp a).length) (hblk : now < (failsOf sp a).getLastD 0 + sp.blockDur) :
    mustReject sp a now = true := by
  have hun := untilOf_of_ge hlen
  have hne : failsOf sp a ≠ [] := fun e => by
    rw [e] at hlen
    exact absurd hlen (Nat.not_le.mpr hpos)
  have hst := (stillCounts_iff sp (failsOf sp a) now).mpr ⟨hne, hun ▸ Nat.le_of_lt hblk⟩
  rw [mustReject_iff]
  exact ⟨hen, _, specRec_of_counts hst, hlen, hun ▸ hblk⟩

/-- The general statement behind `C12_threshold_run`, on the monitor's side: from any pair of states
related by `SimThr` with nothing counted for `a` (`mustReject_from_init`, which the theorem calls,
supplies the one reached from start-up), after the run of failures `mustReject` holds, and `SimThr`
is still there to turn it into the 429 (`blocked_of_mustReject`). -/
theorem mustReject_after_failures {st : St} {sp : Spec} {now : Nat} (hthr : SimThr st sp now)
    (hen : sp.enabled = true) (a : Nat) (hclean : failsOf sp a = []) (evs : List Ev)
    (hnc : noClear a (traceM st now evs) = true) (fs : List Nat)
    (hfs : failTimes a (traceM st now evs) = fs) (hlen : fs.length = sp.max) (hpos : 0 < sp.max)
    (hwin : ∀ t ∈ fs, t ≤ fs.headD 0 + failedAuthTTL) (d : Nat)
    (hblk : (runM st now evs).2 + d < fs.getLastD 0 + sp.blockDur) :
    SimThr (runM st now evs).1 (runLock st sp now evs).2.1 ((runM st now evs).2 + d) ∧
    mustReject (runLock st sp now evs).2.1 a ((runM st now evs).2 + d) = true := by
  obtain ⟨c1, c2, c3, _⟩ := runLock_conf evs st sp now
  have hf : failsOf (runLock st sp now evs).2.1 a = fs := by
    have := failsOf_run a evs st sp now [] hclean hnc
      (by rw [hfs]; exact Nat.le_of_eq hlen) (by rw [hfs]; exact hwin)
    rw [this, hfs]
    rfl
  exact ⟨simThr_advance d (simThr_run evs st sp now hthr),
    mustReject_of_full (c1.trans hen) (c2 ▸ hpos) (by rw [hf, c2, hlen]; exact Nat.le_refl _)
      (by rw [hf, c3]; exact hblk)⟩

theorem mustReject_from_init (ma bm ttl t0 : Nat) (evs0 evs1 : List Ev) (a : Nat) (hen : ma > 0 ∧ bm > 0)
    (hclean : cleanAfter a true (traceM (St.init ma bm ttl) t0 evs0) = true) :
    let s0 := runM (St.init ma bm ttl) t0 evs0
    let s1 := runM s0.1 s0.2 evs1
    noClear a (traceM s0.1 s0.2 evs1) = true → ∀ fs : List Nat, failTimes a (traceM s0.1 s0.2 evs1) = fs →
    fs.length = ma → (∀ t ∈ fs, t ≤ fs.headD 0 + failedAuthTTL) → ∀ d : Nat,
    s1.2 + d < fs.getLastD 0 + bm * 60 * nsPerSec →
    ∃ sp, SimThr s1.1 sp (s1.2 + d) ∧ mustReject sp a (s1.2 + d) = true := by
  intro s0 s1 hnc fs hfs hlen hwin d hblk
  -- run the monitor alongside, only as a proof device
  obtain ⟨c1, c2, c3, _⟩ := runLock_conf evs0 (St.init ma bm ttl) (Spec.init ma bm ttl) t0
  have hthr : SimThr s0.1 _ s0.2 := simThr_run evs0 _ (Spec.init ma bm ttl) t0 (sim_init ma bm ttl t0).1
  have hcl := failsOf_clean a evs0 _ (Spec.init ma bm ttl) t0 true (fun _ => rfl) hclean
  exact ⟨_, mustReject_after_failures hthr (c1.trans (decide_eq_true hen)) a hcl evs1 hnc fs hfs
    (hlen.trans c2.symm) (c2 ▸ hen.1) hwin d (c3 ▸ hblk)⟩

/-- The rejecting half of `C12_threshold`, from the throttle relation alone. -/
theorem blocked_of_mustReject {st : St} {sp : Spec} {now : Nat} (hthr : SimThr st sp now)
    (req : Req) (good : Bool) (user : Nat) (hrej : mustReject sp (attemptAddr req) now = true) :
    (∃ r, (handleLogin st now req good user).1 = .tooMany r) ∧
    (handleLogin st now req good user).2.evals = st.evals ∧
    (handleLogin st now req good user).2.mem = st.mem ∧ (handleLogin st now req good user).2.db = st.db := by
  rw [handleLogin_eq, if_pos ((timeLeft_pos hthr req.peer).mpr hrej)]
  exact ⟨⟨_, rfl⟩, rfl, rfl, rfl⟩

theorem blocked_of_mustReject_basic {st : St} {sp : Spec} {now : Nat} (hthr : SimThr st sp now)
    (req : Req) (good : Bool) (hrej : mustReject sp (attemptAddr req) now = true) :
    (∃ r, (basicAuthX true st now req good).1 = .tooMany r) ∧
    (basicAuthX true st now req good).2.evals = st.evals := by
  rw [basic_eq, if_pos ((timeLeft_pos hthr req.peer).mpr hrej)]
  exact ⟨⟨_, rfl⟩, rfl⟩

end AGH.C12
