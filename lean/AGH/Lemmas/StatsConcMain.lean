/-
C09: the setup that instantiates the interleaving theorem with the programs of
the statistics context.  Under lock facts that satisfy `okFor` every program is
well-formed and, run alone, is one step of the sequential model.
-/
import AGH.Lemmas.StatsConcInst
import AGH.Spec.StatsLocks
namespace AGH.C09

/-- The critical section of an operation under the facts (`none`: rejected
before locking, or — outside `okFor` — no `confMu` at all). -/
def progOf (F : LockFacts) (op : COp) : Option (CProg Loc) :=
  if rejected op then none else (confOf F op).map fun m => ⟨m, bodyOf F op⟩

def setupOf (F : LockFacts) (ops : Nat → Option COp) (s0 : State) : Setup Loc :=
  { progs := fun t => (ops t).bind (progOf F), loc0 := fun _ => Loc.init, init := s0 }

/-- A thread without an operation counts as `.read`.  Harmless twice over: only threads with an accepted operation
enter a history (`setupOf_progs_iff`), and `.read` leaves the state alone, as `Setup.effect` does for a thread
without a program (`step_opOf_eq_effect` rests on that). -/
def opOf (ops : Nat → Option COp) (t : Nat) : Op :=
  match ops t with
  | some op => op.toOp
  | none => .read

theorem okFor_conf {F : LockFacts} {op : COp} (h : okFor F op = true) (hr : rejected op = false) :
    ∃ m, confOf F op = some m ∧ (op.writes = true → m = .W) := by
  simp only [okFor, hr, Bool.false_or] at h
  cases hw : op.writes with
  | true =>
    simp only [hw, if_true, beq_iff_eq] at h
    exact ⟨.W, h, fun _ => rfl⟩
  | false =>
    simp only [hw, Bool.false_eq_true, if_false, Option.isSome_iff_exists] at h
    obtain ⟨m, hm⟩ := h
    exact ⟨m, hm, fun h => by cases h⟩

theorem concInit_eq (F : LockFacts) (ops : Nat → Option COp) (s0 : State)
    (hok : ∀ t op, ops t = some op → okFor F op = true) :
    concInit F ops s0 = (setupOf F ops s0).initSys := by
  simp only [concInit, Setup.initSys, setupOf]
  congr 1
  funext t
  simp only [Setup.code]
  cases hop : ops t with
  | none => rfl
  | some op =>
    simp only [Option.bind_some, progOf, codeOf]
    cases hr : rejected op with
    | true => simp
    | false =>
      obtain ⟨m, hm, _⟩ := okFor_conf (hok t op hop) hr
      simp [hm, optLock, optUnlock, CProg.code]

theorem noConf_optLock (m : Option Mode) (g : Loc → Bool) :
    (optLock .curr m g).all (fun i => !i.isConf) = true := by
  cases m <;> rfl

theorem noConf_optUnlock (m : Option Mode) (g : Loc → Bool) :
    (optUnlock .curr m g).all (fun i => !i.isConf) = true := by
  cases m <;> rfl

theorem clearSteps_noConf (F : LockFacts) : (clearSteps F).all (fun i => !i.isConf) = true := by
  simp only [clearSteps, List.all_append, noConf_optLock, noConf_optUnlock]
  rfl

theorem bodyOf_noConf (F : LockFacts) (op : COp) : ∀ i ∈ bodyOf F op, i.isConf = false := by
  have key : (bodyOf F op).all (fun i => !i.isConf) = true := by
    cases op with
    | upd e =>
      simp only [bodyOf, updBody, List.all_append, noConf_optLock, noConf_optUnlock]
      rfl
    | flush id =>
      simp only [bodyOf, flushBody, List.all_append, noConf_optLock, noConf_optUnlock]
      rfl
    | read =>
      simp only [bodyOf, readBody, List.all_append, noConf_optLock, noConf_optUnlock]
      rfl
    | setDays d =>
      simp only [bodyOf, setDaysBody]
      split
      · rfl
      · exact clearSteps_noConf F
    | putConf ms en => rfl
    | reset => exact clearSteps_noConf F
  intro i hi
  have := List.all_eq_true.mp key i hi
  simpa using this

theorem readOnly_optLock (l : Lk) (m : Option Mode) (g : Loc → Bool) : ∀ i ∈ optLock l m g, i.readOnly := by
  cases m with
  | none => exact fun _ h => nomatch h
  | some m => exact fun i h => List.mem_singleton.mp h ▸ trivial

theorem readOnly_optUnlock (l : Lk) (m : Option Mode) (g : Loc → Bool) : ∀ i ∈ optUnlock l m g, i.readOnly := by
  cases m with
  | none => exact fun _ h => nomatch h
  | some m => exact fun i h => List.mem_singleton.mp h ▸ trivial

theorem readBody_ro (F : LockFacts) : ∀ i ∈ readBody F, i.readOnly := by
  simp only [readBody, List.forall_mem_append, List.forall_mem_cons]
  refine ⟨⟨⟨⟨⟨fun _ _ => rfl, trivial, nofun⟩, readOnly_optLock _ _ _⟩, ?_, ?_, trivial, ?_, nofun⟩,
    readOnly_optUnlock _ _ _⟩, ?_, nofun⟩
  all_goals (intro s l; dsimp only; split <;> rfl)

theorem setupOf_progs_iff (F : LockFacts) (ops : Nat → Option COp) (s0 : State)
    (hok : ∀ t op, ops t = some op → okFor F op = true) (t : Nat) :
    (∃ p, (setupOf F ops s0).progs t = some p) ↔ ∃ op, ops t = some op ∧ rejected op = false := by
  simp only [setupOf]
  cases hop : ops t with
  | none => simp
  | some op =>
    cases hr : rejected op with
    | true => simp [progOf, hr]
    | false =>
      obtain ⟨m, hm, _⟩ := okFor_conf (hok t op hop) hr
      simp [progOf, hr, hm]

theorem progOf_wf (F : LockFacts) (op : COp) (p : CProg Loc) (hp : progOf F op = some p)
    (hok : okFor F op = true) : p.WF := by
  simp only [progOf] at hp
  cases hr : rejected op with
  | true => simp [hr] at hp
  | false =>
    obtain ⟨m, hm, hw⟩ := okFor_conf hok hr
    simp only [hr, Bool.false_eq_true, if_false, hm, Option.map_some, Option.some.injEq] at hp
    subst hp
    refine ⟨bodyOf_noConf F op, fun hmode => ?_⟩
    -- only the read takes `confMu` shared
    cases op with
    | read => exact readBody_ro F
    | _ => cases (hw rfl).symm.trans hmode

theorem setupOf_wf (F : LockFacts) (ops : Nat → Option COp) (s0 : State)
    (hok : ∀ t op, ops t = some op → okFor F op = true) :
    ∀ t p, (setupOf F ops s0).progs t = some p → p.WF := by
  intro t p hp
  simp only [setupOf] at hp
  cases hop : ops t with
  | none => simp [hop] at hp
  | some op =>
    simp only [hop, Option.bind_some] at hp
    exact progOf_wf F op p hp (hok t op hop)

theorem step_opOf_eq_effect (F : LockFacts) (ops : Nat → Option COp) (s0 : State)
    (hok : ∀ t op, ops t = some op → okFor F op = true) (t : Nat) (s : State) :
    step s (opOf ops t) = some ((setupOf F ops s0).effect t s).1 := by
  simp only [opOf, Setup.effect, setupOf]
  cases hop : ops t with
  | none => simp [step]
  | some op =>
    simp only [Option.bind_some, progOf]
    cases hr : rejected op with
    | true => simp [rejected_step op s hr]
    | false =>
      obtain ⟨m, hm, _⟩ := okFor_conf (hok t op hop) hr
      simp [hm, bodyOf_effect F op s hr]

theorem runOps_seq (F : LockFacts) (ops : Nat → Option COp) (s0 : State)
    (hok : ∀ t op, ops t = some op → okFor F op = true) (hist : List Nat) (s : State) :
    runOps s (hist.map (opOf ops)) = some (hist.foldl (fun s t => ((setupOf F ops s0).effect t s).1) s) := by
  induction hist generalizing s with
  | nil => rfl
  | cons t hist ih =>
    simp only [List.map_cons, runOps, step_opOf_eq_effect F ops s0 hok t s, List.foldl_cons]
    exact ih _

theorem read_effect (F : LockFacts) (ops : Nat → Option COp) (s0 : State)
    (hok : ∀ t op, ops t = some op → okFor F op = true) (t : Nat) (hop : ops t = some .read) (s : State) :
    ((setupOf F ops s0).effect t s).2.result = some (getData s) := by
  have hr : rejected COp.read = false := rfl
  obtain ⟨m, hm, _⟩ := okFor_conf (hok t _ hop) hr
  simp only [Setup.effect, setupOf, hop, Option.bind_some, progOf, hr, Bool.false_eq_true, if_false, hm,
    Option.map_some, bodyOf]
  exact (readBody_effect F s).2

/-- What the driver checks on the extracted facts gives the hypothesis of the interleaving theorem for every operation. -/
theorem okAll_okFor {F : LockFacts} (h : F.okAll = true) (op : COp) : okFor F op = true := by
  simp only [LockFacts.okAll, LockFacts.ok, Bool.and_eq_true, beq_iff_eq] at h
  obtain ⟨⟨⟨⟨⟨h1, h2⟩, h3⟩, h4⟩, h5⟩, h6⟩ := h
  cases op <;> simp [okFor, COp.writes, confOf, h1, h2, h3, h4, h5, h6]

end AGH.C09
