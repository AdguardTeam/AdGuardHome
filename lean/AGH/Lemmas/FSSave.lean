/-
The programs of the savers.  Their syscalls do not name `dest`, except the last one of a
committed save, the rename; when that is reached the staging part has run to its end
and has left the temporary file complete, synced and closed (`stage_complete`, put
together from its parts as a `Triple`).  So what a save performs is a `GoodTrace`
(`save_good`), and every instant of it shows the old or the new version (`save_prefix`).
-/
import AGH.Lemmas.FS
namespace AGH.C14

/-! That a program does not name `dest` is a Boolean scan over its syscalls: the
literal parts compute, given that the invented names differ from `dest`. -/

theorem probe_safe {pr : Probe} {dest : Path} (h1 : pr.src ≠ dest) (h2 : pr.dst ≠ dest) :
    (probeOps pr).all (Sys.safeFor dest) = true := by
  have hs : (pr.src != dest) = true := bne_iff_ne.2 h1
  have hd : (pr.dst != dest) = true := bne_iff_ne.2 h2
  unfold probeOps
  cases pr.outcome <;> simp only [List.all_cons, List.all_nil, Sys.safeFor, hs, hd, Bool.and_self]

theorem startFail_safe {pr : Probe} {dest : Path} (h1 : pr.src ≠ dest) :
    (startFail pr).all (Sys.safeFor dest) = true := by
  have hs : (pr.src != dest) = true := bne_iff_ne.2 h1
  simp only [startFail, List.all_cons, List.all_nil, Sys.safeFor, hs, Bool.and_self]

theorem writes_safe (dest : Path) (fd : Nat) (chunks : List Content) :
    (chunks.map (Sys.write fd)).all (Sys.safeFor dest) = true :=
  List.all_eq_true.2 fun e he => by
    obtain ⟨d, _, rfl⟩ := List.mem_map.1 he
    rfl

theorem stage_safe {pr : Probe} {tmp dest : Path} (hn : TempNames pr tmp dest) (fd : Nat)
    (chunks : List Content) : (stageOps pr tmp fd chunks).all (Sys.safeFor dest) = true := by
  have ht : (tmp != dest) = true := bne_iff_ne.2 hn.2.2
  simp only [stageOps, List.all_append, probe_safe hn.1 hn.2.1, writes_safe, List.all_cons,
    List.all_nil, Sys.safeFor, ht, Bool.and_self]

theorem abort_safe {pr : Probe} {tmp dest : Path} (hn : TempNames pr tmp dest) (fd : Nat)
    (chunks : List Content) : (pendingAbort pr tmp fd chunks).all (Sys.safeFor dest) = true := by
  have ht : (tmp != dest) = true := bne_iff_ne.2 hn.2.2
  simp only [pendingAbort, List.all_append, probe_safe hn.1 hn.2.1, writes_safe, List.all_cons,
    List.all_nil, Sys.safeFor, ht, Bool.and_self]

theorem prog_no_openWr (sv : Save) (dest : Path) : ∀ e ∈ sv.prog dest, e.isOpenWr = false := by
  have hp : (probeOps sv.pr).all (fun e => !e.isOpenWr) = true := by
    unfold probeOps; cases sv.pr.outcome <;> rfl
  have hw : (sv.chunks.map (Sys.write sv.fd)).all (fun e => !e.isOpenWr) = true :=
    List.all_eq_true.2 fun e he => by
      obtain ⟨d, _, rfl⟩ := List.mem_map.1 he
      rfl
  have hall : (sv.prog dest).all (fun e => !e.isOpenWr) = true := by
    unfold Save.prog
    cases sv.started
    · rfl
    · cases sv.commit
      · simp only [Bool.not_true, Bool.false_eq_true, if_false, pendingAbort, List.all_append, hp, hw]
        rfl
      · simp only [Bool.not_true, Bool.false_eq_true, if_false, if_true, atomicWrite, stageOps,
          List.all_append, hp, hw]
        rfl
  intro e he
  exact Bool.not_eq_true' _ ▸ List.all_eq_true.1 hall e he

/-- Partial correctness; the parts of a save are judged one by one and put together with
`Triple.append`. -/
def Triple (P : FS → Prop) (es : List Sys) (Q : FS → Prop) : Prop :=
  ∀ s s', P s → runAbort s es = (s', true) → Q s'

theorem Triple.step {P Q : FS → Prop} {e : Sys} (h : ∀ s s', P s → step s e = .ok s' → Q s') :
    Triple P [e] Q := fun s s' hp hr => by
  obtain ⟨s₁, hs, hnil⟩ := runAbort_cons_ok_iff.1 hr
  cases hnil
  exact h s s' hp hs

theorem Triple.append {P Q R : FS → Prop} {a b : List Sys} (ha : Triple P a Q)
    (hb : Triple Q b R) : Triple P (a ++ b) R := fun s s' hp hr =>
  let ⟨s₁, h₁, h₂⟩ := runAbort_append_ok.1 hr
  hb s₁ s' (ha s s₁ hp h₁) h₂

theorem Triple.wf (es : List Sys) : Triple WF es WF := fun s s' hwf hr => by
  have := runAbort_wf hwf es
  rwa [hr] at this

/-- The temporary file while it is being written: `fd` is the only descriptor on its inode (so
that `sync_close_ready` may conclude "closed" after the one `close`), its offset is the end of
`c`, and the cache holds `c`.  The last conjunct serves the negative witness `nosync_complete`
only; `sync_close_ready` drops it. -/
def TmpOpen (s : FS) (tmp : Path) (fd : Nat) (c : Content) : Prop :=
  ∃ i, s.names tmp = some i ∧ s.fds fd = some (i, c.length) ∧ s.cache i = c ∧
    (∀ fd' off, s.fds fd' = some (i, off) → fd' = fd) ∧ (c ≠ [] → s.dirty i = true)

theorem creat_open {s s' : FS} {tmp : Path} {fd : Nat} (hwf : WF s)
    (hs : step s (.creat tmp fd) = .ok s') : TmpOpen s' tmp fd [] := by
  simp only [step] at hs
  split at hs
  · cases hs
  · split at hs <;> cases hs
    refine ⟨s.next, upd_same _ _ _, upd_same _ _ _, upd_same _ _ _, fun fd' off hq => ?_,
      fun h => absurd rfl h⟩
    rcases upd_some_cases hq with ⟨hf, _⟩ | ⟨_, hq⟩
    · exact hf
    · exact absurd (hwf.fds_lt fd' s.next off hq) (Nat.lt_irrefl _)

theorem writeAt_end (c d : Content) : writeAt c c.length d = c ++ d := by
  simp [writeAt]

theorem write_open {s s' : FS} {tmp : Path} {fd : Nat} {c d : Content} (h : TmpOpen s tmp fd c)
    (hs : step s (.write fd d) = .ok s') : TmpOpen s' tmp fd (c ++ d) := by
  obtain ⟨i, hn, hfd, hc, huniq, hdirty⟩ := h
  simp only [step, hfd] at hs
  split at hs <;> cases hs
  · rename_i hd
    rw [List.isEmpty_iff.1 hd, List.append_nil]
    exact ⟨i, hn, hfd, hc, huniq, hdirty⟩
  · refine ⟨i, hn, (upd_same _ _ _).trans (by rw [List.length_append]),
      (upd_same _ _ _).trans (by rw [hc, writeAt_end]), fun fd' off hq => ?_,
      fun _ => upd_same _ _ _⟩
    rcases upd_some_cases hq with ⟨hf, _⟩ | ⟨_, hq⟩
    · exact hf
    · exact huniq fd' off hq

theorem writes_open {tmp : Path} {fd : Nat} (chunks : List Content) : ∀ c,
    Triple (TmpOpen · tmp fd c) (chunks.map (Sys.write fd))
      (TmpOpen · tmp fd (c ++ chunks.flatten)) := by
  induction chunks with
  | nil => exact fun c s s' h hr => by cases hr; simpa using h
  | cons d ds ih =>
    intro c
    rw [List.flatten_cons, ← List.append_assoc]
    exact Triple.append (.step fun _ _ h hs => write_open h hs) (ih (c ++ d))

theorem sync_close_ready {s s' : FS} {tmp : Path} {fd : Nat} {c : Content}
    (h : TmpOpen s tmp fd c) (hr : runAbort s [.fsync fd, .close fd] = (s', true)) :
    TmpReady s' tmp c := by
  obtain ⟨i, hn, hfd, hc, huniq, _⟩ := h
  simp only [runAbort, step, hfd] at hr
  cases hr
  refine tmpReady_iff.2 ⟨i, hn, hc, (upd_same _ _ _).trans hc, upd_same _ _ _, fun fd' off hq => ?_⟩
  rcases upd_some_cases hq with ⟨_, hq⟩ | ⟨hne, hq⟩
  · cases hq
  · exact hne (huniq fd' off hq)

theorem stage_open {pr : Probe} {tmp : Path} {fd : Nat} {chunks : List Content} :
    Triple WF (probeOps pr ++ [.creat tmp fd] ++ chunks.map (.write fd))
      (TmpOpen · tmp fd chunks.flatten) :=
  ((Triple.wf _).append (.step fun _ _ hwf hs => creat_open hwf hs)).append (writes_open chunks [])

theorem stage_complete {pr : Probe} {tmp : Path} {fd : Nat} {chunks : List Content} :
    Triple WF (stageOps pr tmp fd chunks) (TmpReady · tmp chunks.flatten) :=
  stage_open.append fun _ _ => sync_close_ready

theorem atomic_complete {pr : Probe} {dest tmp : Path} {fd : Nat} {chunks : List Content}
    (hne : tmp ≠ dest) :
    Triple WF (atomicWrite pr dest tmp fd chunks) (Settled · dest (some chunks.flatten)) :=
  stage_complete.append (.step fun _ _ h hs => rename_settles h hne hs)

theorem nosync_complete {pr : Probe} {dest tmp : Path} {fd : Nat} {chunks : List Content}
    (hne : tmp ≠ dest) :
    Triple WF (atomicNoSync pr dest tmp fd chunks) fun s =>
      ∃ i, s.names dest = some i ∧ s.cache i = chunks.flatten ∧
        (chunks.flatten ≠ [] → s.dirty i = true) :=
  stage_open.append fun s s' h hr => by
    obtain ⟨i, hn, hfd, hcache, _, hdirty⟩ := h
    simp only [runAbort, step, hfd, hn, hne, if_false] at hr
    cases hr
    exact ⟨i, (upd_ne _ _ (Ne.symm hne)).trans (upd_same _ _ _), hcache, hdirty⟩

theorem save_good {s : FS} {dest : Path} {V : List Content} (sv : Save) (hwf : WF s)
    (hn : TempNames sv.pr sv.tmp dest) (hV : sv.new ∈ V) :
    GoodTrace dest V s (performed s (sv.prog dest)) := by
  have safe : ∀ {es : List Sys}, es.all (Sys.safeFor dest) = true →
      GoodTrace dest V s (performed s es) := fun {es} hes =>
    List.append_nil es ▸ goodTrace_performed_append (List.all_eq_true.1 hes) s fun _ _ => trivial
  unfold Save.prog
  cases sv.started with
  | false => exact safe (startFail_safe hn.1)
  | true =>
    cases sv.commit with
    | false => exact safe (abort_safe hn sv.fd sv.chunks)
    | true =>
      refine goodTrace_performed_append (List.all_eq_true.1 (stage_safe hn sv.fd sv.chunks)) s
        fun s₁ hr => ?_
      unfold performed
      cases step s₁ (.rename sv.tmp dest) with
      | error er => exact trivial
      | ok s₂ => exact ⟨Or.inr ⟨sv.tmp, sv.new, rfl, hn.2.2, stage_complete s s₁ hwf hr, hV⟩, trivial⟩

theorem save_prefix {s₀ : FS} {dest : Path} {old : Option Content} (sv : Save) (hwf : WF s₀)
    (h0 : Settled s₀ dest old) (hn : TempNames sv.pr sv.tmp dest) (k : Nat) :
    OKAt (runAbort s₀ ((sv.prog dest).take k)).1 dest old sv.new := by
  obtain ⟨w, hw, hs⟩ := goodTrace_settled dest [sv.new] _ s₀ old hwf h0
    (save_good sv hwf hn List.mem_cons_self) k
  rw [run_performed_take] at hs
  rcases hw with rfl | ⟨c, hc, rfl⟩
  · exact settled_old_ok _ hs
  · cases List.mem_singleton.1 hc
    exact settled_new_ok _ hs

theorem writesOf_append (a b : List Sys) : writesOf (a ++ b) = writesOf a ++ writesOf b := by
  simp [writesOf, List.filterMap_append]

theorem writesOf_map (fd : Nat) (l : List Content) : writesOf (l.map (Sys.write fd)) = l := by
  induction l with
  | nil => rfl
  | cons d ds ih => simp only [writesOf] at ih ⊢; simp [ih]

theorem writesOf_probe (pr : Probe) : writesOf (probeOps pr) = [] := by
  unfold probeOps
  cases pr.outcome <;> rfl

end AGH.C14
