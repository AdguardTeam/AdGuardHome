/-
C06: `normalize` by cases, whence every configured table has lower-case names; the live
table over a history of configuration operations is `prepare` of the edited configured
list; `replaceFirst` as a split of the list at the first hit (for the update theorems).
-/
import AGH.Spec.Rewrites
import AGH.Lemmas.Bytes
namespace AGH.C06
open AGH AGH.Bytes

theorem normalize_cases (r : Raw) :
    (r.answer = strAAAA ∧ normalize r = ⟨lower r.domain, r.answer, .AAAA, none⟩) ∨
    (r.answer ≠ strAAAA ∧ r.answer = strA ∧ normalize r = ⟨lower r.domain, r.answer, .A, none⟩) ∨
    (r.answer ≠ strAAAA ∧ r.answer ≠ strA ∧ r.parsed = none ∧
      normalize r = ⟨lower r.domain, lower r.answer, .CNAME, none⟩) ∨
    (∃ is4 ip, r.answer ≠ strAAAA ∧ r.answer ≠ strA ∧ r.parsed = some (is4, ip) ∧
      normalize r = ⟨lower r.domain, r.answer, if is4 then .A else .AAAA, some ip⟩) := by
  fun_cases normalize r with
  | case1 d h4 => exact Or.inl ⟨h4, rfl⟩
  | case2 d h4 h1 => exact Or.inr (Or.inl ⟨h4, h1, rfl⟩)
  | case3 d h4 h1 hp => exact Or.inr (Or.inr (Or.inl ⟨h4, h1, hp, rfl⟩))
  | case4 d h4 h1 is4 ip hp => exact Or.inr (Or.inr (Or.inr ⟨is4, ip, h4, h1, hp, rfl⟩))

theorem normalize_domain (r : Raw) : (normalize r).domain = lower r.domain := by
  rcases normalize_cases r with ⟨_, h⟩ | ⟨_, _, h⟩ | ⟨_, _, _, h⟩ | ⟨_, _, _, _, _, h⟩ <;> rw [h]

theorem foldEntry_normalize (r : Raw) : Spec.foldEntry (normalize r) = normalize r := by
  rcases normalize_cases r with ⟨_, h⟩ | ⟨_, _, h⟩ | ⟨_, _, _, h⟩ | ⟨is4, _, _, _, _, h⟩ <;> rw [h]
  · simp [Spec.foldEntry, lower_idem]
  · simp [Spec.foldEntry, lower_idem]
  · simp [Spec.foldEntry, lower_idem]
  · cases is4 <;> simp [Spec.foldEntry, lower_idem]

theorem prepare_lowerNames (rs : List Raw) : Spec.LowerNames (prepare rs) := by
  intro e he
  unfold prepare at he
  obtain ⟨r, _, rfl⟩ := List.mem_map.mp he
  exact foldEntry_normalize r

theorem replaceFirst_prepare (p : Entry → Bool) (u : Raw) (rs : List Raw) :
    replaceFirst p (normalize u) (prepare rs) =
      (Spec.replaceFirstRaw (fun r => p (normalize r)) u rs).map prepare := by
  fun_induction Spec.replaceFirstRaw (fun r => p (normalize r)) u rs with
  | case1 => rfl
  | case2 r rs hp => exact if_pos hp
  | case3 r rs hp ih =>
    refine (if_neg hp).trans ((congrArg (Option.map _) ih).trans ?_)
    rw [Option.map_map, Option.map_map]
    rfl

theorem lower_ne_strA_strAAAA (s : Bytes) : lower s ≠ strA ∧ lower s ≠ strAAAA := by
  -- `A` is an upper-case letter, and `lower` leaves none
  have h65 : ∀ t : Bytes, lower s ≠ 65 :: t := fun t h => by
    obtain ⟨c, _, _, hc, _⟩ := List.map_eq_cons_iff.1 h
    exact absurd (hc ▸ isUpperB_lowerB c) (by decide)
  exact ⟨h65 _, h65 _⟩

theorem normalize_reraw (r : Raw) : normalize (reraw (normalize r)) = normalize r := by
  rcases normalize_cases r with ⟨h4, e⟩ | ⟨h4, h1, e⟩ | ⟨_, _, _, e⟩ | ⟨is4, ip, h4, h1, _, e⟩ <;> rw [e]
  · simp [normalize, reraw, h4, lower_idem]
  · simp [normalize, reraw, h1, lower_idem, strA, strAAAA]
  · have := lower_ne_strA_strAAAA r.answer
    simp [normalize, reraw, this.1, this.2, lower_idem]
  · cases is4 <;> simp [normalize, reraw, h4, h1, lower_idem]

theorem reload_prepare (rs : List Raw) : prepare ((prepare rs).map reraw) = prepare rs := by
  unfold prepare
  rw [List.map_map, List.map_map]
  apply List.map_congr_left
  intro r _
  exact normalize_reraw r

theorem stepTable_prepare (rs : List Raw) (op : TableOp) :
    (stepTable (prepare rs) op).1 = prepare (Spec.editRaws rs op) := by
  cases op with
  | write => rfl
  | add r => simp [stepTable, Spec.editRaws, prepare]
  | del d a =>
    simp only [stepTable, Spec.editRaws, prepare, List.filter_map]
    rfl
  | upd td ta u =>
    simp only [stepTable, Spec.editRaws]
    rw [replaceFirst_prepare]
    cases Spec.replaceFirstRaw (fun r => sameKey td ta (normalize r)) u rs <;> simp
  | reload => exact reload_prepare rs
  | bad => rfl

theorem runTable_prepare (rs : List Raw) (ops : List TableOp) :
    runTable (prepare rs) ops = prepare (ops.foldl Spec.editRaws rs) := by
  unfold runTable
  induction ops generalizing rs with
  | nil => rfl
  | cons op ops ih =>
    simp only [List.foldl_cons]
    rw [stepTable_prepare, ih]

theorem replaceFirst_cases (p : Entry → Bool) (n : Entry) (l : List Entry) :
    (∃ pre e post, l = pre ++ e :: post ∧ p e = true ∧ (∀ x ∈ pre, p x = false) ∧
        replaceFirst p n l = some (pre ++ n :: post)) ∨
    ((∀ x ∈ l, p x = false) ∧ replaceFirst p n l = none) := by
  fun_induction replaceFirst p n l with
  | case1 => exact Or.inr ⟨fun _ h => (nomatch h), rfl⟩
  | case2 x xs hx => exact Or.inl ⟨[], x, xs, rfl, hx, fun _ h => (nomatch h), rfl⟩
  | case3 x xs hx ih =>
    have hx := Bool.eq_false_iff.mpr hx
    rcases ih with ⟨pre, e, post, h1, h2, h3, h4⟩ | ⟨h1, h2⟩
    · exact Or.inl ⟨x :: pre, e, post, congrArg (x :: ·) h1, h2, List.forall_mem_cons.mpr ⟨hx, h3⟩,
        congrArg (Option.map (x :: ·)) h4⟩
    · exact Or.inr ⟨List.forall_mem_cons.mpr ⟨hx, h1⟩, congrArg (Option.map (x :: ·)) h2⟩

theorem replaceFirst_append (p : Entry → Bool) (n e : Entry) (pre post : List Entry)
    (hpre : ∀ x ∈ pre, p x = false) (he : p e = true) :
    replaceFirst p n (pre ++ e :: post) = some (pre ++ n :: post) := by
  induction pre with
  | nil => simp [replaceFirst, he]
  | cons x xs ih =>
    simp [replaceFirst, hpre x (by simp), ih (fun y hy => hpre y (List.mem_cons_of_mem _ hy))]

end AGH.C06
