/-
C09: the invariant tying the model state to the ghost record; every operation
inside the domain preserves it, a fresh start establishes it.
-/
import AGH.Lemmas.StatsBasic
namespace AGH.C09

def Sel.val : Sel → UnitDB → Nat
  | .total, u => u.nTotal
  | .cat c, u => u.nResult c

def optVal (sel : Sel) : Option UnitDB → Nat
  | none => 0
  | some u => sel.val u

theorem validIvl_ne_zero {ms : Nat} (h : validIvl ms = true) : ms ≠ 0 :=
  Nat.ne_of_gt (Nat.lt_of_lt_of_le (by decide) ((validIvl_iff ms).1 h).1)

theorem inWindow_iff {now limit h : Nat} : inWindow now limit h = true ↔ h ≤ now ∧ now < h + limit := by
  rw [inWindow, Bool.and_eq_true, decide_eq_true_eq, decide_eq_true_eq]

theorem inWindow_self {now limit : Nat} (h : 1 ≤ limit) : inWindow now limit now = true :=
  inWindow_iff.2 ⟨Nat.le_refl _, Nat.lt_add_of_pos_right h⟩

/-- What ties a model state to the ghost record inside the domain.  The content is `dbUp`/`curUp`/`curLo`/`dbLo`:
hour by hour what is stored lies between `lowerAt` and `upperAt` (read it through `Inv.hour_between`); the rest is
bookkeeping, of which a step reads `evHour` and `evKept` only to hand them on (`inv_move` gets `evKept` of the new
ghost from `rekeep`; `Inv.lowerAt_zero` is what it offers), and `hi` is `nowClock` with `chi`.  `dbUp` also says that
no bucket is of a future hour, which is why a rollover finds the new hour empty (`inv_tick`). -/
structure Inv (g : Ghost) (s : State) : Prop where
  clock : s.clock = g.clock
  nowClock : g.now ≤ g.clock
  chi : g.clock < U32
  cur : s.curr.id = g.now
  lim : s.limitHours = g.limit
  ivl : validIvl s.limit = true
  en : s.enabled = g.enabled
  lo : minHour ≤ g.now
  hi : g.now < U32
  evHour : ∀ e ∈ g.evs, e.hour ≤ g.now
  evKept : ∀ e ∈ g.evs, e.kept = true → inWindow g.now g.limit e.hour = true
  dbUp : ∀ k v, (k, v) ∈ s.db → k ≤ g.now ∧ ∀ sel : Sel, sel.val v ≤ upperAt g k sel
  curUp : ∀ sel : Sel, sel.val s.curr.serialize ≤ upperAt g g.now sel
  curLo : ∀ sel : Sel, lowerAt g g.now sel ≤ sel.val s.curr.serialize
  dbLo : ∀ h, h ≠ g.now → ∀ sel : Sel, lowerAt g h sel ≤ optVal sel (s.db.get h)

theorem Inv.limit_range {g : Ghost} {s : State} (h : Inv g s) : 1 ≤ g.limit ∧ g.limit ≤ 8760 :=
  h.lim ▸ validIvl_range h.ivl

theorem Inv.nowLimit {g : Ghost} {s : State} (hi : Inv g s) : g.limit + 1 ≤ g.now := by
  have := hi.limit_range
  have := hi.lo
  simp only [minHour] at this
  omega

theorem optVal_le_upperAt {g : Ghost} {s : State} (hi : Inv g s) (h : Nat) (sel : Sel) :
    optVal sel (s.db.get h) ≤ upperAt g h sel := by
  cases hg : s.db.get h with
  | none => exact Nat.zero_le _
  | some v => exact (hi.dbUp h v (DB.mem_of_get_some hg)).2 sel

theorem val_getD (sel : Sel) (o : Option UnitDB) : sel.val (o.getD UnitDB.empty) = optVal sel o := by
  cases o <;> cases sel <;> rfl

theorem Inv.hour_between {g : Ghost} {s : State} (hi : Inv g s) (sel : Sel) (h : Nat) :
    lowerAt g h sel ≤ sel.val (s.unitAt h) ∧ sel.val (s.unitAt h) ≤ upperAt g h sel := by
  rw [State.unitAt, hi.cur]
  split
  · next e => exact e ▸ ⟨hi.curLo sel, hi.curUp sel⟩
  · next ne => exact val_getD sel _ ▸ ⟨hi.dbLo h ne sel, optVal_le_upperAt hi h sel⟩

/-- From the field `evKept` alone, so that `inv_move` can use it of the ghost it is establishing `Inv` for. -/
theorem lowerAt_zero_of_kept {g : Ghost} (hk : ∀ e ∈ g.evs, e.kept = true → inWindow g.now g.limit e.hour = true)
    {h : Nat} (sel : Sel) (hw : inWindow g.now g.limit h = false) : lowerAt g h sel = 0 := by
  refine lowerAt_eq_zero sel fun e he hke hh => ?_
  have := hk e he hke
  rw [hh, hw] at this
  cases this

theorem Inv.lowerAt_zero {g : Ghost} {s : State} (hi : Inv g s) (h : Nat) (sel : Sel)
    (hw : inWindow g.now g.limit h = false) : lowerAt g h sel = 0 :=
  lowerAt_zero_of_kept hi.evKept sel hw

theorem inv_advance {g : Ghost} {s : State} (hi : Inv g s) (h : Nat) (d : Bool) (h1 : g.clock ≤ h) (h2 : h < U32) :
    Inv { g with clock := h, dom := d } (advance s h) :=
  { hi with clock := rfl, nowClock := Nat.le_trans hi.nowClock h1, chi := h2 }

theorem inv_clear {g : Ghost} {s : State} (hi : Inv g s) (en : Bool) :
    Inv { g with enabled := en, evs := [], now := g.clock } (clear { s with enabled := en }) :=
  { clock := hi.clock, nowClock := Nat.le_refl _, chi := hi.chi, cur := hi.clock, lim := hi.lim, ivl := hi.ivl
    en := rfl, lo := Nat.le_trans hi.lo hi.nowClock, hi := hi.chi
    evHour := fun _ he => nomatch he
    evKept := fun _ he => nomatch he
    dbUp := fun _ _ hkv => nomatch hkv
    curUp := fun sel => by cases sel <;> exact Nat.zero_le _
    curLo := fun _ => Nat.zero_le _
    dbLo := fun _ _ _ => Nat.zero_le _ }

theorem upperAt_cons (g : Ghost) (e : Ev) (h : Nat) (sel : Sel) :
    upperAt { g with evs := e :: g.evs } h sel =
      (if (e.hour == h && sel.sees e) = true then e.n else 0) + upperAt g h sel := rfl

theorem lowerAt_cons (g : Ghost) (e : Ev) (h : Nat) (sel : Sel) :
    lowerAt { g with evs := e :: g.evs } h sel =
      (if (e.kept && e.hour == h && sel.sees e) = true then e.n else 0) + lowerAt g h sel := rfl

theorem Sel.val_count (sel : Sel) (u : MemUnit) (c n hour : Nat) :
    sel.val (u.count c n).serialize = sel.val u.serialize + (if sel.sees ⟨hour, c, n, true⟩ = true then n else 0) := by
  cases sel with
  | total => rfl
  | cat c' =>
    simp only [Sel.val, MemUnit.serialize, MemUnit.count, Sel.sees, beq_iff_eq]
    by_cases h : c' = c
    · rw [if_pos h, if_pos h.symm]
    · rw [if_neg h, if_neg (fun h' => h h'.symm)]; rfl

theorem inv_counted {g : Ghost} {s : State} (hi : Inv g s) (e : Entry) (n : Nat) (hc : counted g e = true) :
    Inv { g with evs := ⟨g.now, e.result.toNat, n, true⟩ :: g.evs } (updateN s e n).1 := by
  rw [updateN_counted s e n (validIvl_ne_zero hi.ivl) (hi.en ▸ counted_eq g e ▸ hc)]
  have hlim := hi.limit_range
  refine { hi with evHour := ?_, evKept := ?_, dbUp := ?_, curUp := ?_, curLo := ?_, dbLo := ?_ }
  · intro e' he'
    rcases List.mem_cons.mp he' with rfl | he'
    · exact Nat.le_refl _
    · exact hi.evHour e' he'
  · intro e' he' hk
    rcases List.mem_cons.mp he' with rfl | he'
    · exact inWindow_self hlim.1
    · exact hi.evKept e' he' hk
  · intro k v hkv
    refine ⟨(hi.dbUp k v hkv).1, fun sel => ?_⟩
    rw [upperAt_cons]
    exact Nat.le_trans ((hi.dbUp k v hkv).2 sel) (Nat.le_add_left ..)
  · intro sel
    rw [upperAt_cons, Sel.val_count sel s.curr _ n g.now, beq_self_eq_true, Bool.true_and, Nat.add_comm]
    exact Nat.add_le_add_left (hi.curUp sel) _
  · intro sel
    rw [lowerAt_cons, Sel.val_count sel s.curr _ n g.now, beq_self_eq_true, Bool.true_and, Bool.true_and,
      Nat.add_comm]
    exact Nat.add_le_add_right (hi.curLo sel) _
  · intro h hh sel
    have hne : (g.now == h) = false := beq_false_of_ne (fun h' => hh h'.symm)
    rw [lowerAt_cons, hne, Bool.and_false, Bool.false_and, if_neg Bool.false_ne_true, Nat.zero_add]
    exact hi.dbLo h hh sel

/-- `Ghost.refresh` with the window as a parameter (`refresh_eq`), so that `inv_move` and `ak_rekeep` can speak
of the window of the ghost AFTER the move. -/
def rekeep (w : Nat → Bool) (evs : List Ev) : List Ev :=
  evs.map fun e => { e with kept := e.kept && w e.hour }

theorem refresh_eq (g : Ghost) :
    g.refresh = { g with evs := rekeep (inWindow g.now g.limit) g.evs } := rfl

theorem sees_kept (sel : Sel) (e : Ev) (b : Bool) : sel.sees { e with kept := b } = sel.sees e := by
  cases sel <;> rfl

theorem mem_rekeep {w : Nat → Bool} {evs : List Ev} {e' : Ev} (h : e' ∈ rekeep w evs) :
    ∃ e ∈ evs, e'.hour = e.hour ∧ e'.kept = (e.kept && w e.hour) := by
  obtain ⟨e, he, rfl⟩ := List.mem_map.mp h
  exact ⟨e, he, rfl, rfl⟩

theorem upperAt_rekeep {g g' : Ghost} {w : Nat → Bool} (hg : g'.evs = rekeep w g.evs) (h : Nat) (sel : Sel) :
    upperAt g' h sel = upperAt g h sel := by
  rw [upperAt, hg, rekeep, cnt_map (fun e => { e with kept := e.kept && w e.hour }) _ (fun _ => rfl)]
  exact cnt_congr _ (fun e _ => by rw [sees_kept])

theorem lowerAt_rekeep_le {g g' : Ghost} {w : Nat → Bool} (hg : g'.evs = rekeep w g.evs) (h : Nat) (sel : Sel) :
    lowerAt g' h sel ≤ lowerAt g h sel := by
  rw [lowerAt, hg, rekeep, cnt_map (fun e => { e with kept := e.kept && w e.hour }) _ (fun _ => rfl)]
  apply cnt_le_of_imp
  intro e _ hp
  simp only [sees_kept, Bool.and_eq_true] at hp ⊢
  exact ⟨⟨hp.1.1.1, hp.1.2⟩, hp.2⟩

/-- Common part of rollover, restart and limit change: `kept` is re-evaluated against the window in force at the
hour moved to, the file holds nothing but old buckets and the old current unit (`hM`), and every hour of that
window reads as it did (`hU`). -/
theorem inv_move {g g' : Ghost} {s s' : State} (hi : Inv g s)
    (hevs : g'.evs = rekeep (inWindow g'.now g'.limit) g.evs)
    (hid : g.now ≤ g'.now) (hnc : g'.now ≤ g'.clock) (hc2 : g'.clock < U32)
    (hclock : s'.clock = g'.clock) (hcur : s'.curr.id = g'.now) (hlim : s'.limitHours = g'.limit)
    (hv : validIvl s'.limit = true) (hen : s'.enabled = g'.enabled)
    (hM : ∀ x ∈ s'.db, x = (g.now, s.curr.serialize) ∨ x ∈ s.db)
    (hU : ∀ h, inWindow g'.now g'.limit h = true → s'.unitAt h = s.unitAt h) :
    Inv g' s' := by
  have hup := fun h sel => upperAt_rekeep hevs h sel
  have hlo := fun h sel => Nat.le_trans (lowerAt_rekeep_le hevs h sel) (hi.hour_between sel h).1
  have hnow : s'.curr.serialize = s.unitAt g'.now := by
    rw [← hU _ (inWindow_self (hlim ▸ (validIvl_range hv).1)), State.unitAt, if_pos hcur.symm]
  have hkept : ∀ e' ∈ g'.evs, e'.kept = true → inWindow g'.now g'.limit e'.hour = true := by
    intro e' he' hk
    obtain ⟨e, he, h1, h2⟩ := mem_rekeep (hevs ▸ he')
    rw [h2, Bool.and_eq_true] at hk
    rw [h1]; exact hk.2
  refine { clock := hclock, nowClock := hnc, chi := hc2, cur := hcur, lim := hlim, ivl := hv, en := hen
           lo := Nat.le_trans hi.lo hid, hi := Nat.lt_of_le_of_lt hnc hc2
           evHour := ?_, evKept := hkept, dbUp := ?_
           curUp := fun sel => by rw [hup, hnow]; exact (hi.hour_between sel _).2
           curLo := fun sel => hnow ▸ hlo _ sel
           dbLo := ?_ }
  · intro e' he'
    obtain ⟨e, he, h1, _⟩ := mem_rekeep (hevs ▸ he')
    rw [h1]; exact Nat.le_trans (hi.evHour e he) hid
  · intro k v hkv
    rcases hM _ hkv with hm | hm
    · obtain ⟨rfl, rfl⟩ := Prod.mk.inj hm
      exact ⟨hid, fun sel => (hup _ sel).symm ▸ hi.curUp sel⟩
    · exact ⟨Nat.le_trans (hi.dbUp k v hm).1 hid, fun sel => (hup _ sel).symm ▸ (hi.dbUp k v hm).2 sel⟩
  · intro h hh sel
    cases hw : inWindow g'.now g'.limit h with
    | true =>
      have := hU h hw
      rw [State.unitAt, if_neg (hcur ▸ hh)] at this
      rw [← val_getD, this]
      exact hlo h sel
    | false =>
      rw [lowerAt_zero_of_kept hkept sel hw]
      exact Nat.zero_le _

theorem inv_reconf {g : Ghost} {s : State} (hi : Inv g s) {ms L : Nat} (en : Bool) (hv : validIvl ms = true)
    (hL : ms / msPerHour = L) :
    Inv ({ g with limit := L, enabled := en } : Ghost).refresh { s with limit := ms, enabled := en } :=
  inv_move hi rfl (Nat.le_refl _) hi.nowClock hi.chi hi.clock hi.cur hL hv rfl (fun _ hx => Or.inr hx)
    (fun _ _ => rfl)

theorem inv_tick {g : Ghost} {s : State} (hi : Inv g s) (id : Nat) (hidc : g.clock ≤ id) (hid2 : id < U32) :
    Inv (ghostStep g (.tick id)) (tick s id) := by
  have hid : g.now ≤ id := Nat.le_trans hi.nowClock hidc
  have hr := hi.limit_range
  have hnl := hi.nowLimit
  simp only [ghostStep, Ghost.advance, refresh_eq]
  by_cases hsame : s.curr.id = id
  · rw [tick_same s id (Or.inr hsame)]
    exact inv_move hi rfl hid (Nat.le_refl _) hid2 rfl hsame hi.lim hi.ivl hi.en (fun _ hx => Or.inr hx)
      (fun _ _ => rfl)
  · rw [tick_rotate s id fun h => h.elim (by rw [hi.lim]; omega) hsame]
    refine inv_move hi rfl hid (Nat.le_refl _) hid2 rfl rfl hi.lim hi.ivl hi.en
      (fun x hx => hi.cur ▸ DB.mem_of_mem_put (DB.mem_of_mem_del hx)) fun h hw => ?_
    simp only [inWindow_iff] at hw
    -- the new hour is not the unit's and has no bucket yet, so the new unit is what bucket `id` holds
    have hlt : g.now < id := Nat.lt_of_le_of_ne hid fun e' => hsame (hi.cur.trans e')
    have hnew : ((close s).del (sub32 id s.limitHours)).get id = none := by
      rw [DB.get_del, close, DB.get_put, if_neg hsame,
        DB.get_none_of_keys fun x hx => Nat.ne_of_lt (Nat.lt_of_le_of_lt (hi.dbUp x.1 x.2 hx).1 hlt), ite_self]
    rw [State.unitAt_of_curr id (hnew ▸ rfl), s.unitAt_close, DB.get_del, hi.lim, sub32_eq (by omega) hid2,
      if_neg (by omega)]
    rfl

theorem inv_restart {g : Ghost} {s s' : State} (hi : Inv g s) (id ms : Nat) (en : Bool)
    (hidc : g.clock ≤ id) (hid2 : id < U32) (hs : restart s id ms en = some s') :
    Inv (ghostStep g (.restart id ms en)) s' := by
  have hid : g.now ≤ id := Nat.le_trans hi.nowClock hidc
  have hr := restart_spec (Nat.le_trans hi.lo hid) hid2 hs
  simp only [ghostStep, Ghost.advance, refresh_eq]
  refine inv_move hi rfl hid (Nat.le_refl _) hid2 hr.clock ?_ (by rw [State.limitHours, hr.limit])
    (hr.limit ▸ hr.ivl) hr.enabled (hi.cur ▸ hr.mem) fun h hw => hr.unitAt ?_
  · exact hr.curr_id
  · simp only [inWindow_iff] at hw
    omega

/-- Inside the domain a clock operation (rollover, unnoticed advance, restart) moves the clock
forward to an hour below 2^32. -/
theorem dom_clock {g : Ghost} {id : Nat} (h : (g.dom && decide (g.clock ≤ id) && decide (id < U32)) = true) :
    g.dom = true ∧ g.clock ≤ id ∧ id < U32 := by
  rw [Bool.and_eq_true, Bool.and_eq_true, decide_eq_true_eq, decide_eq_true_eq] at h
  exact ⟨h.1.1, h.1.2, h.2⟩

/-- The exits of `ghostStep` in the order of its text, here and in `inv_step` and `ak_step`: a counted and an uncounted
update; rollover, unnoticed advance, restart; `setDays` accepted, disabling (0 days), rejected; `putConf` accepted,
rejected; clear; read.  Only the three clock operations touch `dom`. -/
theorem dom_step {g : Ghost} {op : Op} : (ghostStep g op).dom = true → g.dom = true := by
  fun_cases ghostStep g op with
  | case3 | case4 | case5 => exact fun h => (dom_clock h).1
  | _ => exact id

theorem inv_step {g : Ghost} {s s' : State} (hi : Inv g s) (op : Op) (hs : step s op = some s')
    (hd : (ghostStep g op).dom = true) : Inv (ghostStep g op) s' := by
  fun_cases ghostStep g op with
  | case1 e n hc => cases hs; exact inv_counted hi e n hc
  | case2 e n hc =>
    cases hs
    rw [updateN_not_counted s e n (hi.en ▸ counted_eq g e ▸ Bool.eq_false_iff.2 hc)]
    exact hi
  | case3 id => cases hs; exact inv_tick hi id (dom_clock hd).2.1 (dom_clock hd).2.2
  | case4 h => cases hs; exact inv_advance hi h _ (dom_clock hd).2.1 (dom_clock hd).2.2
  | case5 id l en => exact inv_restart hi id l en (dom_clock hd).2.1 (dom_clock hd).2.2 hs
  | case6 d h1 =>
    cases hs
    -- `d` days are `d * 24` whole hours, at most 2160
    have hv : validIvl (d * 24 * msPerHour) = true := validIvl_hours (by omega) (by omega)
    rw [setLimitDays_ok s ((checkInterval_iff d).2 (Or.inr h1)), if_pos (validIvl_ne_zero hv)]
    exact inv_reconf hi true hv (Nat.mul_div_cancel _ (by decide))
  | case7 => cases hs; exact inv_clear hi false
  | case8 d h1 h0 =>
    cases hs
    rw [setLimitDays_rejected s (Bool.eq_false_iff.2 fun h => ((checkInterval_iff d).1 h).elim h0 h1)]
    exact hi
  | case9 ms en hv =>
    cases hs
    rw [okIvl_eq] at hv
    rw [putConf_ok s en hv]
    exact inv_reconf hi en hv rfl
  | case10 ms en hv =>
    cases hs
    rw [okIvl_eq, Bool.not_eq_true] at hv
    rw [putConf_rejected s en hv]
    exact hi
  | case11 =>
    cases hs
    have := inv_clear hi g.enabled
    rw [show ({ s with enabled := g.enabled } : State) = s by rw [← hi.en]] at this
    exact this
  | case12 => cases hs; exact hi

theorem inv_init {clock ms : Nat} {en : Bool} {s0 : State} (hs : new [] clock ms en = some s0)
    (hd : (Ghost.init clock ms en).dom = true) : Inv (Ghost.init clock ms en) s0 := by
  obtain ⟨hv, rfl⟩ := new_spec hs
  simp only [Ghost.init, Bool.and_eq_true, decide_eq_true_eq] at hd
  exact
    { clock := rfl, nowClock := Nat.le_refl _, chi := hd.2, cur := rfl, lim := rfl, ivl := hv, en := rfl
      lo := hd.1, hi := hd.2
      evHour := fun _ he => nomatch he
      evKept := fun _ he => nomatch he
      dbUp := fun _ _ hkv => nomatch hkv
      curUp := fun sel => by cases sel <;> exact Nat.zero_le _
      curLo := fun _ => Nat.zero_le _
      dbLo := fun _ _ _ => Nat.zero_le _ }

theorem dom_run {g : Ghost} {ops : List Op} (h : (ghostRun g ops).dom = true) : g.dom = true := by
  induction ops generalizing g with
  | nil => exact h
  | cons op ops ih => exact dom_step (ih h)

theorem inv_run {g : Ghost} {s s' : State} (ops : List Op) (hi : Inv g s) (hs : runOps s ops = some s')
    (hd : (ghostRun g ops).dom = true) : Inv (ghostRun g ops) s' := by
  induction ops generalizing g s with
  | nil => cases hs; exact hi
  | cons op ops ih =>
    obtain ⟨s1, h1, hs⟩ := runOps_cons hs
    exact ih (inv_step hi op h1 (dom_run hd)) hs hd

end AGH.C09
