/-
Lemmas for C07: the log under the primitives; what an operation can do
(`step_ind`), whence nothing in flight and room in the ring after each; the time
invariant of reachable states; the spec monitor accepts the model's dump after
every operation and every answer of the model, hence the model on every
history.
-/
import AGH.Lemmas.QLogParse
import AGH.Lemmas.QLogSpec
namespace AGH.C07

theorem logOf_flush (s : State) : logOf (flush s) = logOf s := by
  unfold flush logOf
  split <;> simp_all

theorem flush_mem (s : State) : (flush s).mem = [] := by
  unfold flush
  split
  · assumption
  · rfl

theorem logOf_shutdown (s : State) : logOf (shutdown s) = logOf s := by
  unfold shutdown
  split
  · exact logOf_flush s
  · rfl

theorem logOf_restart (s : State) (m : Nat) (f en : Bool) (hf : s.conf.fileEnabled = true) :
    logOf (restart s m f en) = logOf s := by
  rw [← logOf_flush s]
  simp only [restart, shutdown, hf, if_true, logOf, flush_mem]

theorem logOf_addEntry (s : State) (e : Entry) (hen : s.conf.enabled = true)
    (hcap : s.mem.length < ringCap s.conf) : logOf (addEntry s e) = logOf s ++ [e] := by
  simp only [addEntry, hen, Bool.not_true, Bool.false_eq_true, if_false, push_of_room _ _ _ hcap]
  split
  · rw [logOf_flush]; simp only [logOf, List.append_assoc]
  · simp only [logOf, List.append_assoc]

theorem logOf_rotate (s : State) : logOf (rotate s) = if s.cur = [] then logOf s else s.cur ++ s.mem := by
  unfold rotate
  split <;> simp [logOf]

theorem logOf_runTasksN (n : Nat) (s : State) : logOf (runTasksN n s) = logOf s := by
  fun_induction runTasksN n s with
  | case1 => rfl
  -- `runTask` is `flush` but for the count of tasks, which `logOf` does not look at
  | case2 n s ih => exact ih.trans (logOf_flush s)

theorem logOf_runTasks (s : State) : logOf (runTasks s) = logOf s := logOf_runTasksN _ s

theorem conf_flush (s : State) : (flush s).conf = s.conf := by
  unfold flush
  split <;> rfl

theorem conf_addEntry (s : State) (e : Entry) : (addEntry s e).conf = s.conf :=
  addEntry_cases (P := fun s' => s'.conf = s.conf) s e rfl (conf_flush _) (fun _ => rfl)

def opEntry : Op → Option Entry
  | .add e => some e
  | .addThen e _ => some e
  | _ => none

/-- What an operation can do when nothing is in flight; the invariants of a history (`quiet_step`,
`ringFree_step`, `sublist_step`, `suffix_step`) are instances.  `refines_step` enumerates `Op` on its own:
a simulation against `gStep`, which has a test of its own per operation, has no motive `State → Prop`. -/
theorem step_ind {P : State → Prop} (s : State) (op : Op) (hq : Quiet s)
    (base : P s) (add : ∀ e, opEntry op = some e → P (addEntry s e))
    (andThen : ∀ s1 t, P s1 → s1.conf = s.conf → P (applyThen s1 t))
    (rot : s.cur ≠ [] → P { s with rot := s.cur, cur := [] })
    (conf : ∀ c : Conf, c.memSize = s.conf.memSize → c.fileEnabled = s.conf.fileEnabled →
      P { s with conf := c }) : P (step s op) := by
  have hrot : P (rotate s) := by
    unfold rotate
    split
    · exact base
    · exact rot ‹_›
  cases op with
  | add e => rw [step, runTasks_addRaw s e hq]; exact add e rfl
  | addThen e t => rw [step, addThen_confluent s e t hq]; exact andThen _ t (add e rfl) (conf_addEntry s e)
  | shutdown => exact andThen s .shutdown base rfl
  | rotate => exact hrot
  | rotCheck now =>
    show P (rotCheck s now)
    rcases rotCheck_cases s now with h | h <;> rw [h]
    · exact base
    · exact hrot
  | clear => exact andThen s .clear base rfl
  | restart m f en => exact andThen s (.restart m f en) base rfl
  | putConf en an ivl ign =>
    show P (putConf s en an ivl ign)
    unfold putConf
    split
    · exact base
    · exact conf _ rfl rfl
  | setClients tbl => exact conf _ rfl rfl

theorem quiet_step (s : State) (op : Op) (hq : Quiet s) : Quiet (step s op) :=
  step_ind s op hq hq (fun e _ => quiet_addEntry s e hq) (fun _ t h _ => quiet_applyThen _ t h)
    (fun _ => hq) (fun _ _ _ => hq)

/-- Room in the ring while file logging is on: the `hcap` of `logOf_addEntry`, kept by every operation. -/
def RingFree (s : State) : Prop := s.conf.fileEnabled = true → s.mem.length < ringCap s.conf

theorem ringFree_nil (s : State) (h : s.mem = []) : RingFree s := fun _ => by
  rw [h]
  exact ringCap_pos _

/-- A record that fills the ring is flushed at once. -/
theorem ringFree_addEntry (s : State) (e : Entry) (h : RingFree s) : RingFree (addEntry s e) := by
  refine addEntry_cases s e h (ringFree_nil _ (flush_mem _))
    (fun hroom hfe => Nat.lt_of_lt_of_le (hroom hfe) ?_)
  show s.conf.memSize ≤ ringCap s.conf
  unfold ringCap
  split <;> omega

theorem ringFree_step (s : State) (o : Op) (hq : Quiet s) (h : RingFree s) : RingFree (step s o) := by
  refine step_ind s o hq h (fun e _ => ringFree_addEntry s e h) (fun s1 t h1 _ => ?_) (fun _ => h)
    (fun c hm hf hfe => ?_)
  · cases t with
    | clear => exact ringFree_nil _ rfl
    | shutdown =>
      show RingFree (shutdown s1)
      unfold shutdown
      split
      · exact ringFree_nil _ (flush_mem _)
      · exact h1
    | restart m f en => exact ringFree_nil _ rfl
  · have := h (hf ▸ hfe)
    simpa only [ringCap, hm] using this

theorem sublist_addEntry (s : State) (e : Entry) : (logOf (addEntry s e)).Sublist (logOf s ++ [e]) := by
  have hp : (logOf { s with mem := push (ringCap s.conf) s.mem e }).Sublist (logOf s ++ [e]) := by
    simp only [logOf, List.append_assoc, push_eq_drop]
    exact List.Sublist.append_left (List.Sublist.append_left (List.drop_sublist _ _) _) _
  exact addEntry_cases (P := fun s' => (logOf s').Sublist (logOf s ++ [e])) s e
    (List.sublist_append_left _ _) ((logOf_flush _).symm ▸ hp) (fun _ => hp)

theorem sublist_applyThen (s : State) (t : Then) : (logOf (applyThen s t)).Sublist (logOf s) := by
  have hsh : (logOf (shutdown s)).Sublist (logOf s) := (logOf_shutdown s).symm ▸ List.Sublist.refl _
  cases t with
  | clear => simp [applyThen, clear, logOf]
  | shutdown => exact hsh
  | restart m f en =>
    -- a restart is a shutdown that then forgets what is in memory
    refine List.Sublist.trans ?_ hsh
    simp only [applyThen, restart, logOf, List.append_nil]
    exact List.sublist_append_left _ _

theorem sublist_step (s : State) (op : Op) (hq : Quiet s) :
    (logOf (step s op)).Sublist (logOf s ++ (opEntry op).toList) := by
  refine step_ind (P := fun s' => (logOf s').Sublist (logOf s ++ (opEntry op).toList)) s op hq
    (List.sublist_append_left _ _) (fun e he => ?_) (fun s1 t h1 _ => (sublist_applyThen s1 t).trans h1)
    (fun _ => ?_) (fun _ _ _ => List.sublist_append_left _ _)
  · rw [he]
    exact sublist_addEntry s e
  · -- rotation drops the rotated file
    refine List.Sublist.trans ?_ (List.sublist_append_left _ _)
    simp only [logOf, List.append_nil]
    exact List.Sublist.append_right (List.sublist_append_right _ _) _

/-- `last` is the time of the latest record submitted. -/
def InvT (s : State) (last : Int) : Prop := Inv s ∧ ∀ e ∈ logOf s, e.ts ≤ last

theorem invT_init (c : Conf) (last : Int) : InvT (init c) last := by
  refine ⟨?_, by simp [logOf, init]⟩
  simp [Inv, init, Asc]

theorem invT_step (s : State) (last last' : Int) (op : Op) (hq : Quiet s) (h : InvT s last) (hle : last ≤ last')
    (hclock : ∀ e, opEntry op = some e → last < e.ts ∧ e.ts ≤ last') : InvT (step s op) last' := by
  obtain ⟨hi, hb⟩ := h
  have hsub := sublist_step s op hq
  have hasc : Asc (logOf s ++ (opEntry op).toList) := by
    apply List.pairwise_append.mpr
    refine ⟨(inv_iff s).mp hi, by cases opEntry op <;> simp, fun a ha b hb' => ?_⟩
    have := hb a ha
    have := (hclock b (Option.mem_toList.mp hb')).1
    omega
  refine ⟨List.Pairwise.sublist hsub hasc, fun x hx => ?_⟩
  rcases List.mem_append.mp (hsub.subset hx) with h1 | h1
  · have := hb x h1
    omega
  · exact (hclock x (Option.mem_toList.mp h1)).2

theorem histOK_op (last : Int) (o : Op) (rest : List Event) :
    histOK last (.op o :: rest) =
      match opEntry o with
      | some e => last < e.ts ∧ histOK e.ts rest
      | none => histOK last rest := by
  cases o <;> rfl

/-- What every state reached by a history with a forward-moving clock has, `g` being the spec's state after the
same history and `last` the time of the latest record submitted. -/
structure HistInv (g : Ghost) (s : State) (last : Int) : Prop where
  refines : Refines g s
  quiet : Quiet s
  room : RingFree s
  time : InvT s last

theorem histInv_init (c : Conf) (last : Int) : HistInv (gInit c) (init c) last :=
  ⟨refines_init c, ⟨rfl, rfl⟩, ringFree_nil _ rfl, invT_init c last⟩

theorem histInv_step (g : Ghost) (s : State) (last : Int) (o : Op) (rest : List Event)
    (h : HistInv g s last) (hh : histOK last (.op o :: rest)) :
    ∃ last', last ≤ last' ∧ HistInv (gStep g o) (step s o) last' ∧ histOK last' rest := by
  have keep : ∀ last', last ≤ last' → (∀ e, opEntry o = some e → last < e.ts ∧ e.ts ≤ last') →
      HistInv (gStep g o) (step s o) last' := fun last' hle hclock =>
    ⟨refines_step g s o h.refines h.quiet, quiet_step s o h.quiet, ringFree_step s o h.quiet h.room,
      invT_step s last last' o h.quiet h.time hle hclock⟩
  rw [histOK_op] at hh
  cases hop : opEntry o with
  | none =>
    rw [hop] at hh
    exact ⟨last, Int.le_refl _, keep last (Int.le_refl _) (fun e he => by rw [hop] at he; cases he), hh⟩
  | some e =>
    rw [hop] at hh
    refine ⟨e.ts, Int.le_of_lt hh.1, keep e.ts (Int.le_of_lt hh.1) (fun e' he' => ?_), hh.2⟩
    rw [hop] at he'
    cases he'
    exact ⟨hh.1, Int.le_refl _⟩

theorem specDump_ok (g : Ghost) (s : State) (h : Refines g s) :
    specDump g (s.mem.map (·.id)) (s.cur.map (·.id)) (s.rot.map (·.id)) = none := by
  unfold specDump
  have hl := h.1
  have h1 : g.log.map (fun x => x.1.id) = s.rot.map (·.id) ++ s.cur.map (·.id) ++ s.mem.map (·.id) := by
    rw [hl, tagged]; simp [tag_map_id]
  have hw : ∀ loc, (g.log.filter (fun x => decide (x.2 = loc))).map (fun x => x.1.id) =
      (match loc with | .rot => s.rot | .cur => s.cur | .mem => s.mem).map (fun e : Entry => e.id) := by
    intro loc; rw [hl, filter_loc_tagged, tag_map_id]; cases loc <;> rfl
  simp only [h1, hw]
  simp

theorem visibleLog_reverse (g : Ghost) (s : State) (h : Refines g s) :
    g.visibleLog.reverse = logRev s := by
  unfold Ghost.visibleLog logRev memRev filesRev
  rw [h.1, h.2, filter_tagged (fun l => decide (l ≠ .mem ∨ s.conf.memSize ≠ 0))]
  by_cases hm : s.conf.memSize = 0 <;> simp [hm]

theorem cursorOK_of_known (g : Ghost) (s : State) (p : Params) (ot : Option Int) (h : Refines g s)
    (hot : p.olderThan = ot) (hk : cursorKnown g ot = true) : CursorOK s p := by
  cases ot with
  | none => exact cursorOK_none hot
  | some t =>
    simp only [cursorKnown, List.any_eq_true, beq_iff_eq] at hk
    obtain ⟨e, he, hts⟩ := hk
    exact (cursorOK_some hot).mpr
      ⟨e, mem_log_of_logRev s e (visibleLog_reverse g s h ▸ List.mem_reverse.mpr he), hts⟩

theorem visible_eq_vis (g : Ghost) (s : State) (a : Ask) (p : Params) (h : Refines g s)
    (hm : ∀ c e, matchE c p e = satisfies c a e) : visible g a = vis s p := by
  unfold visible vis
  rw [visibleLog_reverse g s h, h.2]
  congr 1
  funext e
  simp only [keepMem, ignoredNow, hm]
  cases isIgnored s.conf e.host <;> cases clientIgnored s.conf e.cid e.ip <;> simp

theorem items_ids (c : Conf) (es : List Entry) :
    (es.map (fun e => (⟨e.id, true, shownClient c e⟩ : Item))).map (·.id) = es.map (·.id) := by
  simp [Function.comp_def]

theorem items_pairs (c : Conf) (es : List Entry) :
    (es.map (fun e => (⟨e.id, true, shownClient c e⟩ : Item))).map (fun it => (it.id, it.client)) =
      es.map (fun e => (e.id, reportedClient c e)) := by
  simp [Function.comp_def, shownClient, reportedClient]

theorem items_all (c : Conf) (es : List Entry) :
    (es.map (fun e : Entry => (⟨e.id, true, shownClient c e⟩ : Item))).all (·.payloadOK) = true := by
  simp

/-- The clauses of `specSearch` in the order of its text: `unsound`, `client`, `payload`, `limit` from `search_sound`
and the three `items_*` lemmas (`limit = 0` apart); `page-offset` from `search_offset`; the two cursor clauses and
`cursor-progress` from `search_cursor`.  A request that is not well formed needs only `handle_no_fault`. -/
theorem specSearch_ok (g : Ghost) (s : State) (sd : Int) (r : Req) (h : Refines g s) (hi : Inv s)
    (hsd : 2 ≤ sd ∨ sd ≤ 0) : specSearch g r (modelAnswer sd s r) = none := by
  cases hask : ask r with
  | none =>
    obtain ⟨resp, hresp⟩ := handle_no_fault sd s r
    rw [modelAnswer, hresp]
    cases resp <;> simp [specSearch, hask]
  | some a =>
    obtain ⟨p, hp, hot, hlim, hoffs, hm⟩ := parse_of_ask sd r a hask
    have hvis := visible_eq_vis g s a p h hm
    have hans : ∀ D O, search s p = .ok (D, O) → modelAnswer sd s r =
        .ok { items := D.map (fun e => ⟨e.id, true, shownClient s.conf e⟩), oldest := O } := by
      intro D O hs
      simp only [modelAnswer, handle, hp, hs]
    by_cases hl0 : p.limit = 0
    · rw [hans _ _ (search_limit_zero s p hl0)]
      have ha0 : a.limit = 0 := by omega
      simp [specSearch, hask, ha0, List.isSublist]
    · have hv := validP_of_parse sd r p hp hl0
      obtain ⟨D, O, hs, hsub, hlen⟩ := search_sound s p hi hv
      rw [hans D O hs]
      simp only [specSearch, hask, items_ids, items_all, items_pairs, hvis, h.2]
      have hsubl : (D.map (·.id)).isSublist ((vis s p).map (·.id)) = true :=
        List.isSublist_iff_sublist.mpr (hsub.map _)
      have hsubc : (D.map (fun e => (e.id, reportedClient s.conf e))).isSublist
          ((vis s p).map (fun e => (e.id, reportedClient s.conf e))) = true :=
        List.isSublist_iff_sublist.mpr (hsub.map _)
      have hlen' : ¬ (D.map (·.id)).length > a.limit := by simp; omega
      have hal : ¬ a.limit = 0 := by omega
      simp only [hsubl, hsubc, Bool.not_true, Bool.false_eq_true, if_false, hlen', hal]
      -- the exact-page clauses bind only when the spec knows the cursor, and then `CursorOK` holds
      cases hcur : cursorKnown g a.olderThan with
      | false => simp
      | true =>
        simp only [Bool.not_true, Bool.false_eq_true, if_false]
        have hcok := cursorOK_of_known g s p a.olderThan h hot hcur
        cases hao : a.offset with
        | some o =>
          rw [hao] at hoffs
          obtain ⟨hpo, hps⟩ := hoffs
          simp [search_offset s p hi hv (by omega) hcok hs, hpo, hlim]
        | none =>
          rw [hao] at hoffs
          obtain ⟨hpo, hps⟩ := hoffs
          obtain ⟨hnone, hsome⟩ := search_cursor s p hi hv hpo hcok hs
          cases O with
          | none => simp [hnone rfl]
          | some c =>
            obtain ⟨hpage, hprog, _⟩ := hsome c rfl
            have hmv : cursorMoves c a.olderThan = true := by
              cases hat : a.olderThan with
              | none => rfl
              | some t =>
                have := hprog t (by rw [hot, hat]) (by rw [hps]; exact hsd)
                simp [cursorMoves, this]
            simp [← hpage, hmv]

theorem runOK_of_histInv (evs : List Event) (g : Ghost) (s : State) (last : Int) :
    HistInv g s last → histOK last evs → runOK g s evs = true := by
  fun_induction runOK g s evs generalizing last with
  | case1 => intros; rfl
  | case2 g s o rest ih =>
    intro h hh
    obtain ⟨last', _, h', hh'⟩ := histInv_step g s last o rest h hh
    rw [Bool.and_eq_true, modelEventOK, Option.isNone_iff_eq_none]
    exact ⟨specDump_ok _ _ h'.refines, ih last' h' hh'⟩
  | case3 g s sd r rest ih =>
    intro h ⟨hsd, hh'⟩
    rw [Bool.and_eq_true, modelEventOK, Option.isNone_iff_eq_none]
    exact ⟨specSearch_ok g s sd r h.refines h.time.1 hsd, ih last h hh'⟩

/-- `RingFree` and `last ≤ last'` are for whoever follows a history further: they give `C07_log_preserved_add`
its `hcap` and `C07_cursor_survives` its `t ≤ last` at every later state. -/
theorem run_invariants (ops : List Op) : ∀ (g : Ghost) (s : State) (last : Int),
    HistInv g s last → histOK last (ops.map .op) →
    ∃ last', last ≤ last' ∧ HistInv (ops.foldl gStep g) (run s ops) last' := by
  induction ops with
  | nil => intro g s last h _; exact ⟨last, Int.le_refl _, h⟩
  | cons o rest ih =>
    intro g s last h hh
    obtain ⟨last', hle, h', hh'⟩ := histInv_step g s last o (rest.map .op) h hh
    obtain ⟨last'', hle', h''⟩ := ih _ _ last' h' hh'
    exact ⟨last'', Int.le_trans hle hle', h''⟩

end AGH.C07
