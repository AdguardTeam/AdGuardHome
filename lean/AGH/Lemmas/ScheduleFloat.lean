/-
A rational that is a float64 is rounded to itself; hence `int64(ParseFloat(lit) * 1e6)`
is exact on literals that are float64 values with an integer number of nanoseconds.
This is about `jsonDurDecodeF` of `Model/ScheduleFloat.lean`; no theorem relates it to the
integer-only `jsonDurDecode` of `Model/Schedule.lean` (see `Props/C18.lean`).
-/
import AGH.Spec.ScheduleFloat
namespace AGH.C18
open AGH

theorem pickShift_ok (P d s : Nat) : pickShift P d = some s → shiftOK P d s = true := by
  fun_cases pickShift P d with
  | case1 _ s0 h1 => exact fun h => Option.some.inj h ▸ h1
  | case2 _ s0 s1 _ h2 => exact fun h => Option.some.inj h ▸ h2
  | case3 => nofun

theorem shift_le_of_mul_le (e n d j s : Nat) (hd : 0 < d) (hn : n < 2 ^ (e + 1))
    (h : 2 ^ e * (d * 2 ^ s) ≤ n * 2 ^ j * d) : s ≤ j := by
  apply Nat.le_of_not_lt
  intro hlt
  have hpow : 2 ^ j * 2 ≤ 2 ^ s := Nat.pow_le_pow_right Nat.zero_lt_two hlt
  have : 2 ^ (e + 1) * (2 ^ j * d) ≤ n * (2 ^ j * d) :=
    calc 2 ^ (e + 1) * (2 ^ j * d) = 2 ^ e * (d * (2 ^ j * 2)) := by rw [Nat.pow_succ]; ac_rfl
      _ ≤ 2 ^ e * (d * 2 ^ s) := Nat.mul_le_mul_left _ (Nat.mul_le_mul_left _ hpow)
      _ ≤ n * 2 ^ j * d := h
      _ = n * (2 ^ j * d) := Nat.mul_assoc ..
  exact Nat.not_le.mpr hn (Nat.le_of_mul_le_mul_right this (Nat.mul_pos (Nat.two_pow_pos j) hd))

/-- A rational that IS a float64 (`n·2^j` units, `n < 2^53`) is returned unchanged:
`n < 2^53` forces the shift chosen to be `s ≤ j`, so `P` is a multiple of `d·2^s`, the
remainder is 0 and nothing is rounded.  The power is passed as `pw` with `hpw` so that
a caller can hand over a variable `U` with `U = 2^1074` and the literal never appears
in its goals. -/
theorem roundU_exact (P d n j pw N : Nat) (hd : 0 < d) (hn : n < 2 ^ 53) (hpw : pw = 2 ^ j) (hP : P = n * pw * d) :
    roundU P d = .fin N → N = n * pw := by
  subst hpw
  -- the exits of `roundU`: `P = 0`; no shift found (`.giveUp`); overflow (`.inf`); a finite value
  fun_cases roundU P d with
  | case1 h0 =>
    intro h
    injection h with h
    rw [← h, (Nat.mul_eq_zero.mp (hP ▸ h0 : n * 2 ^ j * d = 0)).resolve_right (Nat.ne_of_gt hd)]
  | case2 => nofun
  | case3 => nofun
  | case4 h0 s hs den m0 r m N' _ =>
    intro h
    injection h with h
    have hok := pickShift_ok P d s hs
    simp only [shiftOK, Bool.and_eq_true, Bool.or_eq_true, decide_eq_true_eq] at hok
    have hsj : s ≤ j := by
      rcases hok.1 with h1 | h1
      · exact h1 ▸ Nat.zero_le j
      · rw [hP] at h1
        exact shift_le_of_mul_le 52 n d j s hd hn h1
    obtain ⟨t, rfl⟩ := Nat.exists_eq_add_of_le hsj
    have hPd : P = (n * 2 ^ t) * den := by
      rw [hP, Nat.pow_add, show den = d * 2 ^ s from rfl]; ac_rfl
    have hden : 0 < den := Nat.mul_pos hd (Nat.two_pow_pos s)
    have hm0 : m0 = n * 2 ^ t := by rw [show m0 = P / den from rfl, hPd]; exact Nat.mul_div_cancel _ hden
    have hr : r = 0 := by rw [show r = P % den from rfl, hPd]; exact Nat.mul_mod_left _ _
    have hm : m = m0 := if_neg fun hh => by
      rw [hr, Nat.mul_zero] at hh
      rcases hh with hh | ⟨hh, _⟩
      · exact Nat.not_lt_zero _ hh
      · exact Nat.ne_of_lt hden hh
    rw [← h, show N' = m * 2 ^ s from rfl, hm, hm0, Nat.pow_add]; ac_rfl

theorem Dec.frac_den_pos (x : Dec) : 0 < x.frac.2 := by
  unfold Dec.frac
  split
  · exact Nat.one_pos
  · exact Nat.pow_pos (by decide)

theorem Fl.andThen_ok {x : Fl} {e : NsRes} {f : Nat → NsRes} {r : Int}
    (h : x.andThen e f = .ok r) (he : e ≠ .ok r) : ∃ N, x = .fin N ∧ f N = .ok r := by
  cases x with
  | fin N => exact ⟨N, rfl, h⟩
  | inf => exact absurd h he
  | giveUp => cases h

theorem floatMsToNsU_exact (U : Nat) (hU : U = 2 ^ 1074) (neg : Bool) (p d n j K : Nat) (r : Int)
    (hd : 0 < d) (hn : n < 2 ^ 53) (hK : K < 2 ^ 53)
    (h1 : p * U = n * 2 ^ j * d) (h2 : p * 1000000 = K * d)
    (h : floatMsToNsU U neg p d = .ok r) :
    r = if neg then -(K : Int) else (K : Int) := by
  unfold floatMsToNsU at h
  have hUpos : 0 < U := hU ▸ Nat.two_pow_pos 1074
  obtain ⟨N1, hr1, h⟩ := Fl.andThen_ok h nofun
  obtain ⟨N2, hr2, h⟩ := Fl.andThen_ok h nofun
  have hN1 := roundU_exact (p * U) d n j (2 ^ j) N1 hd hn rfl h1 hr1
  have hprod : N1 * 1000000 = K * U * 1 := by
    have e : N1 * 1000000 * d = K * U * d := by
      calc N1 * 1000000 * d = (n * 2 ^ j * d) * 1000000 := by rw [hN1]; ac_rfl
        _ = p * U * 1000000 := by rw [h1]
        _ = (p * 1000000) * U := by ac_rfl
        _ = K * d * U := by rw [h2]
        _ = K * U * d := by ac_rfl
    have := Nat.eq_of_mul_eq_mul_right hd e
    rw [this, Nat.mul_one]
  have hN2 := roundU_exact (N1 * 1000000) 1 K 1074 U N2 (by decide) hK hU hprod hr2
  have hk : N2 / U = K := by
    rw [hN2]; exact Nat.mul_div_cancel K hUpos
  unfold truncNs at h
  simp only [hk] at h
  have hlt : K < 2 ^ 63 := Nat.lt_of_lt_of_le hK (by decide)
  simp only [hlt, if_true] at h
  injection h with h
  exact h.symm

/-- `int64(ParseFloat(lit) * 1e6)` is exact whenever the literal `p/d` ms is itself a
float64 (`n·2^j` units of 2^-1074, `n < 2^53`) and its value in ns is an integer `K < 2^53`. -/
theorem floatMsToNs_exact (neg : Bool) (p d n j K : Nat) (r : Int) (hd : 0 < d) (hn : n < 2 ^ 53) (hK : K < 2 ^ 53)
    (h1 : p * fUnit = n * 2 ^ j * d) (h2 : p * 1000000 = K * d)
    (h : floatMsToNs neg p d = .ok r) : r = if neg then -(K : Int) else (K : Int) := by
  have hU : fUnit = 2 ^ 1074 := by unfold fUnit; rfl
  unfold floatMsToNs at h
  exact floatMsToNsU_exact fUnit hU neg p d n j K r hd hn hK h1 h2 h

end AGH.C18
