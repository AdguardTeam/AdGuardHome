/-
C08 lemmas: `NormalizeDomain` is insensitive to letter case and to one
trailing dot; what the modelled rule matcher does for the commonest ignore
rule, `||domain^`, stated declaratively.
-/
import AGH.Model.Ignore
import AGH.Lemmas.Bytes
namespace AGH.Ignore
open AGH AGH.Bytes

/-- `strings.TrimSuffix(x, ".")` -/
def stripDot (x : Bytes) : Bytes := if x.getLast? == some dot then x.dropLast else x

theorem normalize_eq (x : Bytes) : normalize x = if x = [dot] then x else lower (stripDot x) := rfl

theorem lowerB_eq_dot {c : Nat} : lowerB c = dot ↔ c = dot := lowerB_eq_iff rfl rfl

theorem getLast?_lower_dot (x : Bytes) : ((lower x).getLast? == some dot) = (x.getLast? == some dot) := by
  rw [lower, List.getLast?_map]
  cases x.getLast? with
  | none => rfl
  | some c =>
    rw [Bool.eq_iff_iff]
    simp only [Option.map_some, beq_iff_eq, Option.some.injEq, lowerB_eq_dot]

theorem lower_stripDot (x : Bytes) : lower (stripDot x) = stripDot (lower x) := by
  unfold stripDot
  rw [getLast?_lower_dot]
  by_cases h : (x.getLast? == some dot) = true
  · simp only [h, if_true]; exact List.map_dropLast
  · simp only [h]; rfl

theorem lower_eq_dot {x : Bytes} : lower x = [dot] ↔ x = [dot] := by
  unfold lower
  rw [List.map_eq_singleton_iff]
  exact ⟨fun ⟨a, ha, hd⟩ => by rw [ha, lowerB_eq_dot.mp hd], fun h => ⟨dot, h, rfl⟩⟩

theorem normalize_eq_of_lower_eq {a b : Bytes} (h : lower a = lower b) : normalize a = normalize b := by
  rw [normalize_eq, normalize_eq]
  by_cases ha : a = [dot]
  · have hb : b = [dot] := lower_eq_dot.mp (by rw [← h, ha]; rfl)
    rw [ha, hb]
  · have hb : b ≠ [dot] := fun hb => ha (lower_eq_dot.mp (by rw [h, hb]; rfl))
    rw [if_neg ha, if_neg hb, lower_stripDot, lower_stripDot, h]

theorem normalize_append_dot {n : Bytes} (h1 : n ≠ []) (h2 : n.getLast? ≠ some dot) :
    normalize (n ++ [dot]) = normalize n := by
  have e1 : n ++ [dot] ≠ [dot] := fun h => h1 (List.append_left_eq_self.mp h)
  have e2 : n ≠ [dot] := fun h => h2 (h ▸ rfl)
  unfold normalize
  rw [if_neg e1, if_neg e2, List.getLast?_concat, List.dropLast_concat, beq_self_eq_true, if_pos rfl,
    beq_false_of_ne h2, if_neg Bool.false_ne_true]

def lits (d : Bytes) : List Tok := d.map Tok.lit

theorem hostChar_not_sep {c : Nat} (h : isHostCharB c = true) : isSepB c = false := by
  simp only [isHostCharB, isSepB, Bool.or_eq_true] at h ⊢
  rcases h with ((h | h) | h) | h <;> simp [h]

/-- On a string of host-name characters `d^` matches exactly `d` (letter case
aside): no host-name character is a separator, so `^` can only match the end. -/
theorem matchHere_lits_sep_host (d s : Bytes) (hs : s.all isHostCharB = true) :
    matchHere (lits d ++ [.sep]) false s = true ↔ lower s = lower d := by
  induction d generalizing s with
  | nil =>
    cases s with
    | nil => exact ⟨fun _ => rfl, fun _ => rfl⟩
    | cons c r =>
      rw [List.all_cons, Bool.and_eq_true] at hs
      have : matchHere (lits [] ++ [.sep]) false (c :: r) = (isSepB c && matchHere [] false r) := rfl
      rw [this, hostChar_not_sep hs.1]
      exact ⟨(fun h => nomatch h), (fun h => nomatch h)⟩
  | cons b d ih =>
    cases s with
    | nil => exact ⟨(fun h => nomatch h), (fun h => nomatch h)⟩
    | cons c r =>
      rw [List.all_cons, Bool.and_eq_true] at hs
      have : matchHere (lits (b :: d) ++ [.sep]) false (c :: r) =
          (lowerB c == lowerB b && matchHere (lits d ++ [.sep]) false r) := rfl
      rw [this, Bool.and_eq_true, beq_iff_eq, ih r hs.2]
      exact List.cons_eq_cons.symm

theorem afterSubdomain_iff (f : Bytes → Bool) (s : Bytes) (n : Nat) :
    afterSubdomain f s n = true ↔
      ∃ p t, s = p ++ dot :: t ∧ p.all isHostCharB = true ∧ n + p.length ≥ 1 ∧ f t = true := by
  induction s generalizing n with
  | nil =>
    show false = true ↔ _
    exact ⟨nofun, fun ⟨p, t, h, _⟩ => absurd h.symm (List.append_ne_nil_of_right_ne_nil _ (List.cons_ne_nil _ _))⟩
  | cons c rest ih =>
    simp only [afterSubdomain, Bool.and_eq_true, Bool.or_eq_true, beq_iff_eq, decide_eq_true_eq]
    rw [ih (n + 1)]
    constructor
    · rintro ⟨hc, (⟨⟨rfl, hn⟩, hf⟩ | ⟨p, t, rfl, hp, hn, hf⟩)⟩
      · exact ⟨[], rest, rfl, rfl, hn, hf⟩
      · exact ⟨c :: p, t, rfl, Bool.and_eq_true_iff.mpr ⟨hc, hp⟩,
          Nat.le_trans (Nat.le_add_left 1 p.length) (Nat.le_add_left _ n), hf⟩
    · rintro ⟨p, t, hs, hp, hn, hf⟩
      cases p with
      | nil =>
        obtain ⟨rfl, rfl⟩ := List.cons.inj hs
        exact ⟨rfl, Or.inl ⟨⟨rfl, hn⟩, hf⟩⟩
      | cons c' p' =>
        obtain ⟨rfl, rfl⟩ := List.cons.inj hs
        have hp := Bool.and_eq_true_iff.mp hp
        exact ⟨hp.1, Or.inr ⟨p', t, rfl, hp.2, Nat.le_trans (Nat.le_add_left 1 n) (Nat.le_add_right _ _), hf⟩⟩

/-- The compiled form of `||d^`. -/
def domainPat (d : Bytes) : Pat :=
  { startURL := true, startStr := false, endStr := false, body := lits d ++ [.sep] }

theorem matchPat_domain (d host : Bytes) (hh : host.all isHostCharB = true) :
    matchPat (domainPat d) host = true ↔
      lower host = lower d ∨ ∃ p t, host = p ++ dot :: t ∧ p ≠ [] ∧ lower t = lower d := by
  simp only [matchPat, domainPat, if_true, Bool.or_eq_true]
  rw [matchHere_lits_sep_host d host hh, afterSubdomain_iff]
  apply or_congr_right
  constructor
  · rintro ⟨p, t, rfl, hp, hn, hf⟩
    rw [List.all_append, List.all_cons, Bool.and_eq_true, Bool.and_eq_true] at hh
    refine ⟨p, t, rfl, fun h0 => ?_, (matchHere_lits_sep_host d t hh.2.2).mp hf⟩
    subst h0
    exact absurd hn (by decide)
  · rintro ⟨p, t, rfl, hp, hl⟩
    rw [List.all_append, List.all_cons, Bool.and_eq_true, Bool.and_eq_true] at hh
    refine ⟨p, t, rfl, hh.1, ?_, (matchHere_lits_sep_host d t hh.2.2).mpr hl⟩
    rw [Nat.zero_add]
    exact List.length_pos_iff.mpr hp

/-- The text of the rule `||d^`. -/
def domainRule (d : Bytes) : Bytes := pipe :: pipe :: (d ++ [caret])

theorem hostChar_ne {c v : Nat} (h : isHostCharB c = true) (hv : isHostCharB v = false) : c ≠ v :=
  fun e => Bool.false_ne_true (hv.symm.trans (e ▸ h))

theorem hostChar_lowerB (c : Nat) : isHostCharB (lowerB c) = isHostCharB c := by
  rw [isHostCharB, isHostCharB, isAlnumB_lowerB, lowerB_beq dash rfl rfl, lowerB_beq 95 rfl rfl,
    lowerB_beq dot rfl rfl]

theorem tokOf_hostChar {c : Nat} (h : isHostCharB c = true) : tokOf c = .lit c := by
  rw [tokOf, beq_false_of_ne (hostChar_ne h (v := star) rfl),
    beq_false_of_ne (hostChar_ne h (v := caret) rfl)]
  rfl

theorem map_tokOf_host (d : Bytes) (h : d.all isHostCharB = true) : d.map tokOf = lits d :=
  List.map_congr_left fun c hc => tokOf_hostChar (List.all_eq_true.mp h c hc)

theorem compilePattern_domain (d : Bytes) (h : d.all isHostCharB = true) :
    compilePattern (domainRule d) = domainPat d := by
  have hlast : ((d ++ [caret]).getLast? == some pipe) = false := by
    rw [List.getLast?_concat]
    rfl
  have hbody : (d ++ [caret]).map tokOf = lits d ++ [.sep] := by
    rw [List.map_append, map_tokOf_host d h]
    rfl
  show Pat.mk true false ((d ++ [caret]).getLast? == some pipe)
    ((if (d ++ [caret]).getLast? == some pipe then (d ++ [caret]).dropLast else d ++ [caret]).map tokOf) = _
  rw [hlast, if_neg Bool.false_ne_true, hbody]
  rfl

theorem trimLeft_cons {c : Nat} (s : Bytes) (h : isSpaceB c = false) : trimLeft (c :: s) = c :: s :=
  List.dropWhile_cons_of_neg (by rw [h]; exact Bool.false_ne_true)

theorem trimRight_concat {c : Nat} (s : Bytes) (h : isSpaceB c = false) : trimRight (s ++ [c]) = s ++ [c] := by
  unfold trimRight
  rw [List.reverse_concat, List.dropWhile_cons_of_neg (by rw [h]; exact Bool.false_ne_true), List.reverse_cons,
    List.reverse_reverse]

theorem trim_domainRule (d : Bytes) : trim (domainRule d) = domainRule d := by
  unfold trim
  rw [show trimLeft (domainRule d) = domainRule d from trimLeft_cons _ rfl]
  exact trimRight_concat (pipe :: pipe :: d) rfl

/-- A name cannot begin with a byte that is neither a letter nor a digit. -/
theorem isDomainName_cons {c : Nat} (s : Bytes) (h : dnStep {} c = none) : isDomainName (c :: s) = false := by
  unfold isDomainName dnRun
  rw [h]
  exact ite_self false

theorem parseRule_domainRule (d : Bytes) (hne : d ≠ []) (h : d.all isHostCharB = true) :
    parseRule (domainRule d) = some (.net (domainPat d)) := by
  have hlen : ¬ (domainRule d).length < 3 := by
    cases d with
    | nil => exact absurd rfl hne
    | cons _ _ => exact Nat.not_lt.mpr (Nat.le_add_left 3 _)
  unfold parseRule
  rw [trim_domainRule]
  show (if isDomainName (domainRule d) then some (Rule.host (domainRule d))
    else if (domainRule d).length < 3 then none else some (Rule.net (compilePattern (domainRule d)))) = _
  rw [show isDomainName (domainRule d) = false from isDomainName_cons _ rfl, if_neg Bool.false_ne_true,
    if_neg hlen, compilePattern_domain d h]

theorem has_domainRule (d host : Bytes) (hne : d ≠ []) (hd : d.all isHostCharB = true)
    (hh : host.all isHostCharB = true) :
    has [domainRule d] host = true ↔
      host ≠ [] ∧ (lower host = lower d ∨ ∃ p t, host = p ++ dot :: t ∧ p ≠ [] ∧ lower t = lower d) := by
  have hld : (lower d).all isHostCharB = true := by
    simp only [lower, List.all_map, List.all_eq_true] at hd ⊢
    intro c hc
    exact (hostChar_lowerB c).trans (hd c hc)
  have hlne : lower d ≠ [] := fun h => hne (lower_eq_nil.mp h)
  have hlow : lower (domainRule d) = domainRule (lower d) := by
    show lowerB pipe :: lowerB pipe :: List.map lowerB (d ++ [caret]) = _
    rw [List.map_append]
    rfl
  have hnl : ∀ c ∈ domainRule (lower d), c ≠ nl := by
    intro c hc
    simp only [domainRule, List.mem_cons, List.mem_append, List.mem_nil_iff, or_false] at hc
    rcases hc with rfl | rfl | hc | rfl
    · decide
    · decide
    · exact hostChar_ne (List.all_eq_true.mp hld c hc) rfl
    · decide
  have hcomp : compile [domainRule d] = [.net (domainPat (lower d))] := by
    simp only [compile, joinWith, hlow, splitOn_free nl _ fun hm => hnl nl hm rfl, List.filterMap_cons, List.filterMap_nil,
      parseRule_domainRule (lower d) hlne hld]
  simp only [has, hcomp, List.any_cons, List.any_nil, Bool.or_false, matchRule, Bool.and_eq_true,
    bne_iff_ne, ne_eq]
  rw [matchPat_domain (lower d) host hh, lower_idem]

end AGH.Ignore
