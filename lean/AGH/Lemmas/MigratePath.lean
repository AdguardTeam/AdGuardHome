/-
C13, independence from partial runs: re-encoding is `er` on documents that
satisfy `inv`; from the per-step fact (`stepN_alike`) to `upgradeConfigSchema`
and, with the run lemmas of `MigrateRun`, to `Migrate` (`migrate_reread`).
-/
import AGH.Lemmas.MigrateStepsAlike
import AGH.Lemmas.MigrateRun
namespace AGH.C13
open AGH

theorem reparseEntries_all (o : Oracles) : ∀ (es : List (Key × YVal)),
    (∀ e ∈ es, reparse o e.2 = some (er o e.2)) → reparseEntries o es = some (erEnts o es)
  | [], _ => by simp [reparseEntries]
  | (k, v) :: es, h => by
    have hv := h (k, v) (by simp)
    have hes := reparseEntries_all o es (fun e he => h e (by simp [he]))
    simp only at hv
    simp [reparseEntries, hv, hes]

theorem cleanEnts_all (o : Oracles) : ∀ (es : List (Key × YVal)),
    (∀ e ∈ es, clean o (er o e.2) = true) → cleanEnts o (erEnts o es) = true
  | [], _ => rfl
  | (k, v) :: es, h => by
    have hv := h (k, v) (by simp)
    simp only at hv
    simp [cleanEnts, hv, cleanEnts_all o es (fun e he => h e (by simp [he]))]

/-- Induction over a document that satisfies `inv`: a map of sections, a section a clean value or a map
of clean values and Go-typed leaves. -/
theorem inv_induction {o : Oracles} {R : YVal → Prop} (hclean : ∀ v, clean o v = true → R v)
    (hdur : ∀ n, R (.dur n)) (hstrs : ∀ xs, R (.strs xs)) (humode : ∀ s, R (.umode s))
    (hobj : ∀ es, (∀ e ∈ es, R e.2) → R (.obj es)) {d : YVal} (h : inv o d = true) : R d := by
  have hleaf : ∀ v, isTypedLeaf v = true → R v
    | .dur n, _ => hdur n
    | .strs xs, _ => hstrs xs
    | .umode s, _ => humode s
  have hsub : ∀ ex v, subOK o ex v = true → R v := fun ex v hv => by
    cases v with
    | obj ws =>
      refine hobj ws fun e he => ?_
      have hk := (subOK_keyed o ex).obj_iff.mp hv e he
      by_cases hx : e.1 ∈ ex
      · rw [kidOK_of_mem hx, excOK, Bool.or_eq_true] at hk
        exact hk.elim (hclean _) (hleaf _)
      · rw [kidOK_of_not_mem hx] at hk
        exact hclean _ hk
    | _ => exact hclean _ hv
  cases d with
  | obj es => exact hobj es fun e he => hsub _ _ ((inv_keyed o).obj_iff.mp h e he)
  | _ => cases h

theorem reparse_inv (o : Oracles) (hf : FmtTotal o) (d : YVal) (h : inv o d = true) :
    reparse o d = some (er o d) :=
  inv_induction (R := fun v => reparse o v = some (er o v))
    (fun v hv => by rw [reparse_clean o v hv, er_of_clean o v hv])
    (fun n => by
      obtain ⟨s, hs⟩ := Option.isSome_iff_exists.mp (hf n)
      simp [reparse, hs])
    (fun _ => by simp [reparse]) (fun _ => by simp [reparse])
    (fun es hes => by simp [reparse, reparseEntries_all o es hes]) h

theorem cleanList_strs (o : Oracles) : ∀ xs : List Bytes, cleanList o (xs.map .str) = true
  | [] => rfl
  | _ :: xs => by simp [cleanList, clean, cleanList_strs o xs]

theorem clean_er_inv (o : Oracles) (d : YVal) (h : inv o d = true) : clean o (er o d) = true :=
  inv_induction (R := fun v => clean o (er o v) = true)
    (fun v hv => by rw [er_of_clean o v hv]; exact hv)
    (fun _ => rfl) (cleanList_strs o) (fun _ => rfl)
    (fun es hes => by rw [er_obj, clean]; exact cleanEnts_all o es hes) h

theorem step_alike (o : Oracles) (n : Nat) (h1 : 1 ≤ n) (h29 : n ≤ 29) : Respects o (inv o) (step o n) :=
  step_cases (P := fun _ f => Respects o (inv o) f) o
    step1_alike step2_alike step3_alike step4_alike step5_alike step6_alike step7_alike step8_alike
    step9_alike step10_alike step11_alike step12_alike step13_alike step14_alike step15_alike step16_alike
    step17_alike step18_alike step19_alike step20_alike step21_alike step22_alike step23_alike step24_alike
    step25_alike step26_alike step27_alike step28_alike step29_alike n h1 h29

theorem alike_er {o : Oracles} {es : List (Key × YVal)} (h : inv o (.obj es) = true) :
    Alike o (inv o) (.obj es) (er o (.obj es)) :=
  ⟨h, by rw [er_obj]; exact inv_of_clean o _ (er_obj o es ▸ clean_er_inv o _ h), (er_idem o _).symm⟩

theorem upgrade_alike (o : Oracles) : ∀ (cnt cur : Nat), cur + cnt ≤ 29 → ∀ {a b : YVal},
    Alike o (inv o) a b → SimBy (Alike o (inv o)) (upgrade o cnt cur a) (upgrade o cnt cur b)
  | 0, _, _, _, _, h => h
  | cnt + 1, cur, hle, a, b, h => by
    have hs := step_alike o (cur + 1) (by omega) (by omega) h
    unfold upgrade
    generalize step o (cur + 1) a = x at hs
    generalize step o (cur + 1) b = y at hs
    match x, y, hs with
    | .ok _, .ok _, h' => exact upgrade_alike o cnt (cur + 1) (by omega) h'
    | .error _, .error _, rfl => rfl

theorem upgrade_inv (o : Oracles) {cnt cur : Nat} {a d : YVal} (hle : cur + cnt ≤ 29) (ha : inv o a = true)
    (hd : upgrade o cnt cur a = .ok d) : inv o d = true := by
  have := upgrade_alike o cnt cur hle (Alike.refl ha)
  rw [hd] at this
  exact this.left

/-- Reading back the document the steps up to `k` left in memory does not change what the
remaining steps make of it: the Go-typed values are where no step looks for a string or a
sequence (`upgrade_alike`), and both results are read back alike (`reparse_inv`). -/
theorem migrate_reread (o : Oracles) (hf : FmtTotal o) {esk : List (Key × YVal)} {k target : Nat}
    (hik : inv o (.obj esk) = true) (hsk : lookup kSchemaVersion esk = some (.int k))
    (hkt : k < target) (h29 : target ≤ 29) :
    migrate o (some (er o (.obj esk))) target = migrate o (some (.obj esk)) target := by
  have hvk' : versionOf (.obj (erEnts o esk)) = some k := versionOf_of_stamp (by rw [lookup_erEnts, hsk]; rfl)
  have hsim := upgrade_alike o (target - k) k (by omega) (alike_er hik)
  rw [er_obj] at hsim ⊢
  unfold migrate
  rw [migrateMem_run o hvk' hkt h29, migrateMem_run o (versionOf_of_stamp hsk) hkt h29]
  generalize upgrade o (target - k) k (.obj esk) = x at hsim
  generalize upgrade o (target - k) k (.obj (erEnts o esk)) = y at hsim
  match x, y, hsim with
  | .ok a, .ok b, h => simp only [upgradeOutcome, reparse_inv o hf a h.left, reparse_inv o hf b h.right, h.er_eq]
  | .error _, .error _, rfl => rfl

end AGH.C13
