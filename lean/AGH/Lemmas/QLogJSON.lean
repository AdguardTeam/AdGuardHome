/-
Lemmas for C07: the string level of the entry codec (`encoding/json` escaping
and un-escaping) round-trips; the raw-line test of `quickMatch` is exact.
-/
import AGH.Model.QLogJSON
namespace AGH.C07
open AGH

theorem hexVal_hexLower (n : Nat) (h : n < 16) : hexVal (hexLower n) = some n :=
  (by decide : ∀ n < 16, hexVal (hexLower n) = some n) n h

/- `unescape.eq_4` and `unescape.eq_5` below are the equations of the clauses `92 :: c :: r` and `b :: r` of
`unescape`; their side conditions say that no earlier clause matches. -/

theorem unescape_raw (b : Nat) (t : Bytes) (h1 : b ≠ 92) (h2 : b ≠ 34) (h3 : ¬ b < 32) :
    unescape (b :: t) = (unescape t).map (b :: ·) := by
  rw [unescape.eq_5 b t (fun h => absurd h h1) (fun _ _ _ _ _ h => absurd h h1) (fun _ _ h => absurd h h1),
    if_neg (by omega)]
  cases unescape t <;> rfl

theorem unescape_simple (c v : Nat) (t : Bytes) (hc : c ≠ 117) (hs : simpleEsc c = some v) :
    unescape (92 :: c :: t) = (unescape t).map (v :: ·) := by
  rw [unescape.eq_4 c t (fun _ _ _ _ _ h => absurd h hc), hs]
  cases unescape t <;> rfl

theorem unescape_u (h1 h2 h3 h4 v : Nat) (t : Bytes) (hu : uEsc h1 h2 h3 h4 = some v) :
    unescape (92 :: 117 :: h1 :: h2 :: h3 :: h4 :: t) = (unescape t).map (v :: ·) := by
  rw [unescape, hu]
  cases unescape t <;> rfl

/-- The encoder's three kinds of byte: the seven with a one-letter escape, which
the decoder's table maps back; the other control bytes and `<` `>` `&`, written
`\u00XY`; every other byte, written as it is. -/
theorem escapeByte_cases (b : Nat) :
    jsonEscapedByte b = true ∧
      ((∃ c, escapeByte b = [92, c] ∧ c ≠ 117 ∧ simpleEsc c = some b) ∨
       (b < 64 ∧ escapeByte b = [92, 117, 48, 48, hexLower (b / 16), hexLower (b % 16)])) ∨
    jsonEscapedByte b = false ∧ escapeByte b = [b] := by
  fun_cases escapeByte b
  case case8 hu =>
    refine .inl ⟨?_, .inr ⟨by omega, rfl⟩⟩
    rcases hu with h | rfl | rfl | rfl
    · simp only [jsonEscapedByte, h, decide_true, Bool.true_or]
    all_goals rfl
  case case9 h1 h2 _ _ _ _ _ hu =>
    refine .inr ⟨?_, rfl⟩
    simp only [not_or] at hu
    simp only [jsonEscapedByte, hu, h1, h2, decide_false, beq_false_of_ne, Bool.or_false, ne_eq,
      not_false_eq_true]
  -- the seven bytes with a one-letter escape
  all_goals
    subst b
    exact .inl ⟨rfl, .inl ⟨_, rfl, by decide, rfl⟩⟩

theorem jsonEscapedByte_false {b : Nat} (h : jsonEscapedByte b = false) :
    b ≠ 92 ∧ b ≠ 34 ∧ ¬ b < 32 := by
  simp only [jsonEscapedByte, Bool.or_eq_false_iff, decide_eq_false_iff_not, beq_eq_false_iff_ne] at h
  omega

theorem unescape_escapeByte (b : Nat) (t : Bytes) :
    unescape (escapeByte b ++ t) = (unescape t).map (b :: ·) := by
  rcases escapeByte_cases b with ⟨_, ⟨c, he, hc, hs⟩ | ⟨hb, he⟩⟩ | ⟨hj, he⟩ <;> rw [he]
  · exact unescape_simple c b t hc hs
  · apply unescape_u
    have hv : ((0 * 16 + 0) * 16 + b / 16) * 16 + b % 16 = b := by omega
    simp only [uEsc, hexVal_hexLower _ (show b / 16 < 16 by omega), hexVal_hexLower _ (Nat.mod_lt b (by decide)),
      show hexVal 48 = some 0 by decide, hv]
    exact if_pos (by omega)
  · obtain ⟨h1, h2, h3⟩ := jsonEscapedByte_false hj
    exact unescape_raw b t h1 h2 h3

theorem escape_cons (b : Nat) (s : Bytes) : escape (b :: s) = escapeByte b ++ escape s :=
  List.flatMap_cons

theorem unescape_escape (s : Bytes) : unescape (escape s) = some s := by
  induction s with
  | nil => rfl
  | cons b rest ih => rw [escape_cons, unescape_escapeByte, ih]; rfl

theorem escapeByte_contains (b : Nat) : (escapeByte b).contains 92 = jsonEscapedByte b := by
  rcases escapeByte_cases b with ⟨hj, ⟨c, he, _⟩ | ⟨_, he⟩⟩ | ⟨hj, he⟩ <;> rw [he, hj]
  · rfl
  · rfl
  · have h92 := (jsonEscapedByte_false hj).1
    simp only [List.contains_cons, List.contains_nil, Bool.or_false, beq_eq_false_iff_ne]
    exact h92.symm

theorem escape_contains_backslash (s : Bytes) : (escape s).contains 92 = jsonEscaped s := by
  induction s with
  | nil => rfl
  | cons b rest ih =>
    rw [escape_cons, List.contains_eq_any_beq, List.any_append, ← List.contains_eq_any_beq,
      ← List.contains_eq_any_beq, ih, escapeByte_contains]
    rfl

theorem escapeByte_raw (b : Nat) (h : jsonEscapedByte b = false) : escapeByte b = [b] ∧ b ≠ 34 := by
  rcases escapeByte_cases b with ⟨hj, _⟩ | ⟨_, he⟩
  · rw [h] at hj; cases hj
  · exact ⟨he, (jsonEscapedByte_false h).2.1⟩

theorem rawValue_unescaped (s rest : Bytes) (h : jsonEscaped s = false) :
    rawValue (escape s ++ 34 :: rest) = s := by
  induction s with
  | nil => simp [escape, rawValue]
  | cons b t ih =>
    simp only [jsonEscaped, List.any_cons, Bool.or_eq_false_iff] at h
    have hb := escapeByte_raw b h.1
    rw [escape_cons, hb.1]
    simp only [rawValue, List.cons_append, List.nil_append, List.takeWhile_cons, ne_eq, hb.2,
      not_false_eq_true, decide_true, if_true]
    congr 1
    exact ih (by simpa [jsonEscaped] using h.2)

end AGH.C07
