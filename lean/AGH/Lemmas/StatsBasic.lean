/-
C09: `uint32` arithmetic away from the wrap-around, two sum lemmas, the bucket store, and `State.unitAt` (what file and
current unit hold of an hour), the notion the later modules are written in.  Then the state-changing operations of
Model/Stats.lean, each characterised once on the forms of input the proofs distinguish (a restart by `Restarted`), and
`runOps` step by step.  At the end the counting lemmas for `cnt`.
-/
import AGH.Spec.Stats
namespace AGH.C09

theorem sub32_eq {a b : Nat} (h : b ≤ a) (ha : a < U32) : sub32 a b = a - b := by
  rw [sub32, Nat.mod_eq_of_lt (Nat.lt_of_le_of_lt h ha), Nat.sub_add_comm h, Nat.add_mod_right,
    Nat.mod_eq_of_lt (Nat.lt_of_le_of_lt (Nat.sub_le a b) ha)]

theorem add32_eq {a b : Nat} (h : a + b < U32) : add32 a b = a + b := Nat.mod_eq_of_lt h

theorem add32_sub32 {a b : Nat} (ha : a < U32) (hb : b < U32) : add32 (sub32 a b) b = a := by
  rw [add32, sub32, Nat.mod_eq_of_lt hb, Nat.mod_add_mod,
    Nat.sub_add_cancel (Nat.le_trans (Nat.le_of_lt hb) (Nat.le_add_left ..)), Nat.add_mod_right,
    Nat.mod_eq_of_lt ha]

theorem sub32_add32 {c b : Nat} (hc : c < U32) (hb : b < U32) : sub32 (add32 c b) b = c := by
  rw [sub32, add32, Nat.mod_eq_of_lt hb, Nat.add_sub_assoc (Nat.le_of_lt hb), Nat.mod_add_mod, Nat.add_assoc,
    Nat.add_sub_of_le (Nat.le_of_lt hb), Nat.add_mod_right, Nat.mod_eq_of_lt hc]

theorem sum_map_take_drop {α : Type} (g : α → Nat) (l : List α) (n : Nat) :
    ((l.take n).map g).sum + ((l.drop n).map g).sum = (l.map g).sum := by
  rw [← List.sum_append_nat, ← List.map_append, List.take_append_drop]

theorem sum5_bump (f : Nat → Nat) (c n : Nat) (h1 : 1 ≤ c) (h5 : c ≤ 5) :
    (if 1 = c then f 1 + n else f 1) + (if 2 = c then f 2 + n else f 2) + (if 3 = c then f 3 + n else f 3) +
        (if 4 = c then f 4 + n else f 4) + (if 5 = c then f 5 + n else f 5) =
      f 1 + f 2 + f 3 + f 4 + f 5 + n := by
  have hc : c = 1 ∨ c = 2 ∨ c = 3 ∨ c = 4 ∨ c = 5 := by omega
  -- in each case one summand carries `n`; move it to the end
  rcases hc with rfl | rfl | rfl | rfl | rfl
  · show f 1 + n + f 2 + f 3 + f 4 + f 5 = _
    rw [Nat.add_right_comm _ n, Nat.add_right_comm _ n, Nat.add_right_comm _ n, Nat.add_right_comm _ n]
  · show f 1 + (f 2 + n) + f 3 + f 4 + f 5 = _
    rw [← Nat.add_assoc, Nat.add_right_comm _ n, Nat.add_right_comm _ n, Nat.add_right_comm _ n]
  · show f 1 + f 2 + (f 3 + n) + f 4 + f 5 = _
    rw [← Nat.add_assoc, Nat.add_right_comm _ n, Nat.add_right_comm _ n]
  · show f 1 + f 2 + f 3 + (f 4 + n) + f 5 = _
    rw [← Nat.add_assoc, Nat.add_right_comm _ n]
  · exact (Nat.add_assoc _ _ n).symm

/-- The cases of `DB.put`, here and in `mem_of_mem_put`: empty file; `k` before the first key; `k` the first key;
`k` behind it.  Those of `DB.del` and `DB.get`: empty file; the first key is the one sought; it is not.  Those of `deleteOldUnits`:
empty file; first key at or above `f` (the walk stops, everything stays); first key below `f` (deleted, the walk goes on). -/
theorem DB.get_put (db : DB) (k h : Nat) (v : UnitDB) :
    (DB.put k v db).get h = if k = h then some v else db.get h := by
  fun_induction DB.put k v db with
  | case1 => rfl
  | case2 => rfl
  | case3 v' rest =>
    rw [DB.get, DB.get]
    split <;> rfl
  | case4 k' v' rest _ hk ih =>
    rw [DB.get, DB.get, ih]
    by_cases e : k' = h
    · rw [if_pos e, if_pos e, if_neg (e ▸ hk)]
    · rw [if_neg e, if_neg e]

theorem DB.get_del (db : DB) (k h : Nat) :
    (DB.del k db).get h = if k = h then none else db.get h := by
  fun_induction DB.del k db with
  | case1 => exact (ite_self _).symm
  | case2 v' rest ih =>
    rw [DB.get, ih]
    split <;> rfl
  | case3 k' v' rest hk ih =>
    rw [DB.get, DB.get, ih]
    by_cases e : k' = h
    · rw [if_pos e, if_pos e, if_neg (e ▸ Ne.symm hk)]
    · rw [if_neg e, if_neg e]

theorem DB.get_deleteOld (db : DB) (f h : Nat) (hf : f ≤ h) :
    (deleteOldUnits f db).get h = db.get h := by
  fun_induction deleteOldUnits f db with
  | case1 => rfl
  | case2 => rfl
  | case3 k' v' rest hk ih =>
    have e : k' ≠ h := fun e => hk (e ▸ hf)
    exact ih.trans (if_neg e).symm

theorem DB.mem_of_mem_put {db : DB} {k : Nat} {v : UnitDB} {x : Nat × UnitDB} :
    x ∈ DB.put k v db → x = (k, v) ∨ x ∈ db := by
  fun_induction DB.put k v db with
  | case1 => exact fun hx => .inl (List.mem_singleton.mp hx)
  | case2 => exact List.mem_cons.mp
  | case3 => exact fun hx => (List.mem_cons.mp hx).imp_right (List.mem_cons_of_mem _)
  | case4 _ _ _ _ _ ih =>
    intro hx
    rcases List.mem_cons.mp hx with h | h
    · exact .inr (h ▸ List.mem_cons_self ..)
    · exact (ih h).imp_right (List.mem_cons_of_mem _)

theorem DB.mem_of_mem_del {db : DB} {k : Nat} {x : Nat × UnitDB} : x ∈ DB.del k db → x ∈ db := by
  fun_induction DB.del k db with
  | case1 => exact id
  | case2 _ _ ih => exact fun hx => List.mem_cons_of_mem _ (ih hx)
  | case3 _ _ _ _ ih =>
    intro hx
    rcases List.mem_cons.mp hx with h | h
    · exact h ▸ List.mem_cons_self ..
    · exact List.mem_cons_of_mem _ (ih h)

theorem DB.mem_of_mem_deleteOld {db : DB} {f : Nat} {x : Nat × UnitDB} : x ∈ deleteOldUnits f db → x ∈ db := by
  fun_induction deleteOldUnits f db with
  | case1 => exact id
  | case2 => exact id
  | case3 _ _ _ _ ih => exact fun hx => List.mem_cons_of_mem _ (ih hx)

theorem DB.mem_of_get_some {db : DB} {h : Nat} {v : UnitDB} : db.get h = some v → (h, v) ∈ db := by
  fun_induction DB.get db h with
  | case1 => nofun
  | case2 => exact fun hg => Option.some.inj hg ▸ List.mem_cons_self ..
  | case3 _ _ _ _ _ ih => exact fun hg => List.mem_cons_of_mem _ (ih hg)

theorem DB.get_none_of_keys {db : DB} {h : Nat} (hk : ∀ x ∈ db, x.1 ≠ h) : db.get h = none := by
  cases hg : db.get h with
  | none => rfl
  | some v => exact absurd rfl (hk _ (DB.mem_of_get_some hg))

/-- The model keeps an hour in the current unit or in a bucket; everything downstream speaks of hours only, through
this: what `getData` reads (`unitsOf_window`), the invariant (`Inv.hour_between`), and what an operation that moves
the window has to leave alone (`hU` of `inv_move`; for a restart `Restarted.unitAt`). -/
def State.unitAt (s : State) (h : Nat) : UnitDB :=
  if h = s.curr.id then s.curr.serialize else (s.db.get h).getD UnitDB.empty

theorem State.unitAt_close (s : State) (h : Nat) : s.unitAt h = ((close s).get h).getD UnitDB.empty := by
  rw [close, DB.get_put, State.unitAt]
  by_cases e : s.curr.id = h
  · rw [if_pos e, if_pos e.symm]; rfl
  · rw [if_neg e, if_neg (Ne.symm e)]

theorem tick_same (s : State) (id : Nat) (h : s.limitHours = 0 ∨ s.curr.id = id) : tick s id = { s with clock := id } :=
  if_pos h

theorem tick_rotate (s : State) (id : Nat) (h : ¬ (s.limitHours = 0 ∨ s.curr.id = id)) :
    tick s id =
      { s with clock := id, curr := newUnit id
               db := (s.db.put s.curr.id s.curr.serialize).del (sub32 id s.limitHours) } :=
  if_neg h

theorem tick_limit (s : State) (id : Nat) : (tick s id).limit = s.limit := by
  by_cases h : s.limitHours = 0 ∨ s.curr.id = id
  · rw [tick_same s id h]
  · rw [tick_rotate s id h]

theorem tick_id (s : State) (id : Nat) (h : s.limitHours ≠ 0) : (tick s id).curr.id = id := by
  by_cases hc : s.curr.id = id
  · rw [tick_same s id (Or.inr hc)]; exact hc
  · rw [tick_rotate s id fun h' => h'.elim h hc]; rfl

theorem validIvl_iff (ms : Nat) : validIvl ms = true ↔ msPerHour ≤ ms ∧ ms ≤ maxLimitMs := by
  simp only [validIvl, Bool.and_eq_true, Bool.not_eq_true', decide_eq_false_iff_not, Nat.not_lt, gt_iff_lt]

theorem okIvl_eq (ms : Nat) : okIvl ms = validIvl ms := by
  rw [Bool.eq_iff_iff, validIvl_iff]
  simp only [okIvl, Bool.and_eq_true, decide_eq_true_eq, maxLimitMs]

theorem validIvl_range {ms : Nat} (h : validIvl ms = true) : 1 ≤ ms / msPerHour ∧ ms / msPerHour ≤ 8760 := by
  rw [validIvl_iff] at h
  simp only [msPerHour, maxLimitMs] at *
  omega

theorem validIvl_hours {n : Nat} (h1 : 1 ≤ n) (h2 : n ≤ 8760) : validIvl (n * msPerHour) = true :=
  (validIvl_iff _).2 ⟨Nat.le_mul_of_pos_left _ h1, Nat.mul_le_mul_right msPerHour h2⟩

theorem checkInterval_iff (d : Nat) : checkInterval d = true ↔ d = 0 ∨ d = 1 ∨ d = 7 ∨ d = 30 ∨ d = 90 := by
  simp only [checkInterval, Bool.or_eq_true, beq_iff_eq, or_assoc]

theorem setLimitDays_rejected (s : State) {d : Nat} (h : checkInterval d = false) : setLimitDays s d = s := by
  rw [setLimitDays, h]; rfl

theorem setLimitDays_ok (s : State) {d : Nat} (h : checkInterval d = true) :
    setLimitDays s d =
      if d * 24 * msPerHour ≠ 0 then { s with enabled := true, limit := d * 24 * msPerHour }
      else clear { s with enabled := false } := by
  rw [setLimitDays, h, Bool.not_true, if_neg Bool.false_ne_true]

theorem putConf_rejected (s : State) {ms : Nat} (en : Bool) (h : validIvl ms = false) : putConf s ms en = s := by
  rw [putConf, h]; rfl

theorem putConf_ok (s : State) {ms : Nat} (en : Bool) (h : validIvl ms = true) :
    putConf s ms en = { s with limit := ms, enabled := en } := by
  rw [putConf, h]; rfl

theorem Entry.valid_iff (e : Entry) :
    e.valid = true ↔ e.result ≠ 0 ∧ e.result < 6 ∧ e.domainEmpty = false ∧ e.clientEmpty = false := by
  fun_cases Entry.valid e with
  | case1 h0 => exact ⟨nofun, fun h => absurd (beq_iff_eq.mp h0) h.1⟩
  | case2 _ h6 => exact ⟨nofun, fun h => absurd h.2.1 (Int.not_lt.mpr h6)⟩
  | case3 _ _ hd => exact ⟨nofun, fun h => nomatch hd.symm.trans h.2.2.1⟩
  | case4 _ _ _ hc => exact ⟨nofun, fun h => nomatch hc.symm.trans h.2.2.2⟩
  | case5 h0 h6 hd hc =>
    exact ⟨fun _ => ⟨mt beq_iff_eq.mpr h0, Int.not_le.mp h6, Bool.of_not_eq_true hd, Bool.of_not_eq_true hc⟩, fun _ => rfl⟩

/-- The unit after `n` accepted `add`s of category `c` (`updateN_counted`). -/
def MemUnit.count (u : MemUnit) (c n : Nat) : MemUnit :=
  { u with nTotal := u.nTotal + n, nResult := fun i => if i = c then u.nResult i + n else u.nResult i }

theorem MemUnit.count_zero (u : MemUnit) (c : Nat) : u.count c 0 = u := by
  simp only [MemUnit.count, Nat.add_zero, ite_self]

theorem MemUnit.count_count (u : MemUnit) (c n m : Nat) : (u.count c n).count c m = u.count c (n + m) := by
  simp only [MemUnit.count, Nat.add_assoc]
  congr 1
  funext i
  by_cases h : i = c
  · simp only [if_pos h, Nat.add_assoc]
  · simp only [if_neg h]

theorem MemUnit.add_ok {u u' : MemUnit} {r : Int} : u.add r = .ok u' → 0 ≤ r ∧ u' = u.count r.toNat 1 := by
  fun_cases MemUnit.add u r with
  | case1 => nofun
  | case2 hr => exact fun h => ⟨Int.not_lt.mp fun h0 => hr (.inl h0), (Except.ok.inj h).symm⟩

/-- Spec's `counted` with the switch as a parameter, so that facts about `update` can be stated of a `State`. -/
def countedWhen (enabled : Bool) (e : Entry) : Bool :=
  enabled && decide (1 ≤ e.result) && decide (e.result ≤ 5) && !e.domainEmpty && !e.clientEmpty

theorem counted_eq (g : Ghost) (e : Entry) : counted g e = countedWhen g.enabled e := rfl

theorem update_counted {s : State} {e : Entry} (hl : s.limit ≠ 0)
    (hc : countedWhen s.enabled e = true) :
    update s e = .ok { s with curr := s.curr.count e.result.toNat 1 } := by
  simp only [countedWhen, Bool.and_eq_true, decide_eq_true_eq, Bool.not_eq_true'] at hc
  obtain ⟨⟨⟨⟨hen, h1⟩, h5⟩, hd⟩, hcl⟩ := hc
  have hv : e.valid = true := (Entry.valid_iff e).2 ⟨by omega, by omega, hd, hcl⟩
  have hg : ¬ (!s.enabled || s.limit == 0) = true := by simp [hen, hl]
  have hr : ¬ (e.result < 0 ∨ e.result ≥ 6) := by omega
  simp only [update, hg, hv, MemUnit.add, hr, Bool.not_true, Bool.false_eq_true, if_false]
  rfl

/-- The exits of `update`, here and in `update_ok_cases`: statistics off; entry invalid; `add` went through; `add`
panicked. -/
theorem update_not_counted (s : State) (e : Entry) (h : countedWhen s.enabled e = false) :
    update s e = .ok s ∨ ∃ f, update s e = .error f := by
  fun_cases update s e with
  | case1 => exact .inl rfl
  | case2 => exact .inl rfl
  | case3 hg hv u hu =>
    -- enabled, valid and `add` went through: then `e` is counted
    rw [Bool.not_eq_true', Bool.not_eq_false] at hv
    obtain ⟨h0, h6, hd, hcl⟩ := (Entry.valid_iff e).1 hv
    rw [Bool.or_eq_true, not_or, Bool.not_eq_true', Bool.not_eq_false] at hg
    have := (MemUnit.add_ok hu).1
    simp only [countedWhen, hg.1, hd, hcl, Bool.true_and, Bool.not_false, Bool.and_true, Bool.and_eq_false_iff,
      decide_eq_false_iff_not] at h
    omega
  | case4 _ _ f => exact .inr ⟨f, rfl⟩

theorem update_ok_cases {s s' : State} {e : Entry} : update s e = .ok s' →
    s' = s ∨ ∃ c, 1 ≤ c ∧ c ≤ 5 ∧ s' = { s with curr := s.curr.count c 1 } := by
  fun_cases update s e with
  | case1 => exact fun h => .inl (Except.ok.inj h).symm
  | case2 => exact fun h => .inl (Except.ok.inj h).symm
  | case3 _ hv u hu =>
    intro h
    rw [Bool.not_eq_true', Bool.not_eq_false] at hv
    obtain ⟨h0, h6, -⟩ := (Entry.valid_iff e).1 hv
    obtain ⟨hr, rfl⟩ := MemUnit.add_ok hu
    exact .inr ⟨e.result.toNat, by omega, by omega, (Except.ok.inj h).symm⟩
  | case4 => nofun

theorem updateN_counted (s : State) (e : Entry) (n : Nat) (hl : s.limit ≠ 0)
    (hc : countedWhen s.enabled e = true) :
    updateN s e n = ({ s with curr := s.curr.count e.result.toNat n }, 0) := by
  induction n generalizing s with
  | zero => rw [MemUnit.count_zero]; rfl
  | succ n ih =>
    simp only [updateN, update_counted hl hc]
    rw [ih { s with curr := s.curr.count e.result.toNat 1 } hl hc, MemUnit.count_count, Nat.add_comm 1 n]

theorem updateN_not_counted (s : State) (e : Entry) (n : Nat) (h : countedWhen s.enabled e = false) :
    (updateN s e n).1 = s := by
  induction n with
  | zero => rfl
  | succ n ih =>
    rcases update_not_counted s e h with h1 | ⟨f, h1⟩
    · simp only [updateN, h1, ih]
    · simp only [updateN, h1, ih]

theorem MemUnit.deserialize_id (u : MemUnit) (o : Option UnitDB) : (u.deserialize o).id = u.id := by
  cases o <;> rfl

theorem serialize_deserialize (id : Nat) (o : Option UnitDB) :
    ((newUnit id).deserialize o).serialize = o.getD UnitDB.empty := by
  cases o <;> rfl

theorem new_spec {db : DB} {clock ms : Nat} {en : Bool} {s : State} (h : new db clock ms en = some s) :
    validIvl ms = true ∧
    s = { db := deleteOldUnits (sub32 (sub32 clock (ms / msPerHour)) 1) db
          curr := (newUnit clock).deserialize ((deleteOldUnits (sub32 (sub32 clock (ms / msPerHour)) 1) db).get clock)
          limit := ms, enabled := en, clock := clock } := by
  cases hv : validIvl ms with
  | false => simp [new, hv] at h
  | true =>
    simp only [new, hv, Bool.not_true, Bool.false_eq_true, if_false, Option.some.injEq] at h
    exact ⟨rfl, h.symm⟩

/-- What `restart` at hour `id` inside the domain leaves of `s`.  `mem` serves `Inv.dbUp` (through `hM` of `inv_move`);
`get` is about the buckets `New` does not prune and is read through `Restarted.unitAt`. -/
structure Restarted (s s' : State) (id ms : Nat) (en : Bool) : Prop where
  ivl : validIvl ms = true
  limit : s'.limit = ms
  enabled : s'.enabled = en
  clock : s'.clock = id
  curr : s'.curr = (newUnit id).deserialize (s'.db.get id)
  mem : ∀ x ∈ s'.db, x = (s.curr.id, s.curr.serialize) ∨ x ∈ s.db
  -- `id - limit - 1` is the `firstID` that `New` hands to `deleteOldUnits`; the window begins at `id - limit + 1`
  get : ∀ k, id - ms / msPerHour - 1 ≤ k → s'.db.get k = if s.curr.id = k then some s.curr.serialize else s.db.get k

theorem restart_spec {s s' : State} {id ms : Nat} {en : Bool} (hlo : minHour ≤ id) (hhi : id < U32)
    (h : restart s id ms en = some s') : Restarted s s' id ms en := by
  obtain ⟨hv, rfl⟩ := new_spec h
  have hr := validIvl_range hv
  simp only [minHour] at hlo
  have hf : sub32 (sub32 id (ms / msPerHour)) 1 = id - ms / msPerHour - 1 := by
    rw [sub32_eq (by omega) hhi, sub32_eq (by omega) (by omega)]
  refine ⟨hv, rfl, rfl, rfl, rfl, fun x hx => DB.mem_of_mem_put (DB.mem_of_mem_deleteOld hx), fun k hk => ?_⟩
  show (deleteOldUnits _ (close s)).get k = _
  rw [hf, DB.get_deleteOld _ _ _ hk, close, DB.get_put]

theorem Restarted.curr_id {s s' : State} {id ms : Nat} {en : Bool} (hr : Restarted s s' id ms en) : s'.curr.id = id := by
  rw [hr.curr, MemUnit.deserialize_id]; rfl

/-- `restart` and a rollover leave as current unit what bucket `id` holds (after a rollover: nothing); then every hour
reads as its bucket. -/
theorem State.unitAt_of_curr {s : State} (id : Nat) (hc : s.curr = (newUnit id).deserialize (s.db.get id)) (h : Nat) :
    s.unitAt h = (s.db.get h).getD UnitDB.empty := by
  rw [State.unitAt]
  split
  · next e => rw [hc, MemUnit.deserialize_id] at e; rw [hc, serialize_deserialize, e]; rfl
  · rfl

theorem Restarted.unitAt {s s' : State} {id ms : Nat} {en : Bool} (hr : Restarted s s' id ms en) {h : Nat}
    (hk : id - ms / msPerHour - 1 ≤ h) : s'.unitAt h = s.unitAt h := by
  rw [State.unitAt_of_curr id hr.curr, hr.get h hk, s.unitAt_close, close, DB.get_put]

theorem runOps_cons {s s' : State} {op : Op} {ops : List Op} (h : runOps s (op :: ops) = some s') :
    ∃ s1, step s op = some s1 ∧ runOps s1 ops = some s' := by
  rw [runOps] at h
  cases h1 : step s op with
  | none => rw [h1] at h; cases h
  | some s1 => exact ⟨s1, rfl, by rw [h1] at h; exact h⟩

theorem runOps_append {s s1 : State} {l1 : List Op} (l2 : List Op) (h : runOps s l1 = some s1) :
    runOps s (l1 ++ l2) = runOps s1 l2 := by
  induction l1 generalizing s with
  | nil => cases h; rfl
  | cons op l1 ih =>
    obtain ⟨s', h1, h⟩ := runOps_cons h
    rw [List.cons_append, runOps, h1]
    exact ih h

theorem cnt_le_of_imp {p q : Ev → Bool} (l : List Ev) (h : ∀ e ∈ l, p e = true → q e = true) :
    cnt p l ≤ cnt q l := by
  induction l with
  | nil => simp [cnt]
  | cons e es ih =>
    have ih' := ih (fun e he => h e (List.mem_cons_of_mem _ he))
    have he := h e (List.mem_cons_self ..)
    simp only [cnt]
    cases hp : p e <;> cases hq : q e
    · simp; omega
    · simp; omega
    · rw [he hp] at hq; cases hq
    · simp; omega

theorem cnt_congr {p q : Ev → Bool} (l : List Ev) (h : ∀ e ∈ l, p e = q e) : cnt p l = cnt q l := by
  apply Nat.le_antisymm
  · exact cnt_le_of_imp l (fun e he hp => by rw [← h e he]; exact hp)
  · exact cnt_le_of_imp l (fun e he hq => by rw [h e he]; exact hq)

theorem cnt_false {p : Ev → Bool} (l : List Ev) (h : ∀ e ∈ l, p e = false) : cnt p l = 0 := by
  induction l with
  | nil => simp [cnt]
  | cons e es ih =>
    simp only [cnt, h e (List.mem_cons_self ..), ih (fun e he => h e (List.mem_cons_of_mem _ he))]
    simp

theorem lowerAt_eq_zero {g : Ghost} {h : Nat} (sel : Sel) (H : ∀ e ∈ g.evs, e.kept = true → e.hour ≠ h) :
    lowerAt g h sel = 0 :=
  cnt_false _ fun e he => by
    show (e.kept && e.hour == h && sel.sees e) = false
    cases hk : e.kept with
    | false => rfl
    | true => rw [beq_false_of_ne (H e he hk)]; rfl

theorem cnt_add_disjoint {p q : Ev → Bool} (l : List Ev) (h : ∀ e ∈ l, ¬ (p e = true ∧ q e = true)) :
    cnt p l + cnt q l = cnt (fun e => p e || q e) l := by
  induction l with
  | nil => simp [cnt]
  | cons e es ih =>
    have ih' := ih (fun e he => h e (List.mem_cons_of_mem _ he))
    have he := h e (List.mem_cons_self ..)
    simp only [cnt]
    rw [← ih']
    rcases Bool.eq_false_or_eq_true (p e) with hp | hp <;>
      rcases Bool.eq_false_or_eq_true (q e) with hq | hq
    · exact absurd ⟨hp, hq⟩ he
    · simp [hp, hq]; omega
    · simp [hp, hq]; omega
    · simp [hp, hq]

theorem cnt_map {p : Ev → Bool} (f : Ev → Ev) (l : List Ev) (hn : ∀ e, (f e).n = e.n) :
    cnt p (l.map f) = cnt (fun e => p (f e)) l := by
  induction l with
  | nil => simp [cnt]
  | cons e es ih => simp only [List.map_cons, cnt, ih, hn]

end AGH.C09
